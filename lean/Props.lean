-- property theorems (one module per property)
import Props.C01
import Props.C02
import Props.C03
import Props.C04
import Props.C05
import Props.C06
import Props.C07
import Props.C08
import Props.C09
import Props.C10
import Props.C11
import Props.C11Tok
import Props.C11Inner
import Props.C11Paint
import Props.C11Mirror
import Props.C12
import Props.C13
import Props.C14
import Props.C15
import Props.C16
import Props.C16WriteP
import Props.C17
import Props.C18
import Props.C19
import Props.C20
import Props.C02Span
import Props.C02SpanStyled
import Props.C02SpanScreen
import Props.C16Reader
import Props.C02SpanTerm
import Props.C03SpanWrite
import Props.C03SpanFeed
import Props.C03SpanClean
import Props.C20GridRow
import Props.C20GridScreen
import Props.C20Grid
import Props.C11SpanAnsi
import Props.C11SpanMirror
import Props.C20GridAnsi
import Props.C11Streams
import Props.C20GridStyled
