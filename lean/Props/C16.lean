import Proofs.Run
import Props.C16WriteP
/-!
# C16 — byte plumbing: the reader's buffer, `Terminal.Write`, the tee, zero-length reads

Every byte the backend delivers reaches the parser exactly once and in order, whatever the sizes
of the reads and however often the reader's buffer is compacted or doubled
(`reader_exactly_once_in_order`, `reader_stream_conservation`; its capacity stays `4096 * 2^k`:
`reader_capacity`). A tee on the source sees exactly the bytes read (`tee_exact`).
`Terminal.Write` delivers the whole slice despite short writes, and otherwise returns the error
with the exact count of what went out (`write_*`). A zero-length read changes nothing (`feed_nil`).
`ReadByte` hands out bytes that arrive together with an error and fails only when there is no data
at all (`readByteE_*`).

Model: `TM/Stream.lean` (`RBuf` = `GraphemeReader.data/start/end` with `fill`/`ReadByte`,
`terminalWrite` = the loop of `Terminal.Write`) and `TM/Run.lean` (`Sys.feed`). The harness compares
`RBuf` (start, end, capacity) index by index with a real `GraphemeReader` over random operation
sequences (`streams` check): that comparison is what ties `RBuf.fill` / `RBuf.readByte` to the code.

In the model a read error is not an input of `RBuf.fill` because `fill()` stores the `n` bytes
first and only then returns `err`: "bytes returned together with an error" go through
`RBuf.fill` exactly like any others; the section on `ReadByte` over reads that may report an error
puts the loop of `ReadByte` around it.

Not covered here (Go glue / OS, checked on the implementation by the harness, special checks
`streams` and `ttymirror`): `Resize` forwarding exactly `(w,h)` to `Backend.SetSize`, the PTY
winsize (`h` rows, `w` columns), and the outermost `ptyReadLoop` returning on the error.
-/
namespace TM.C16
open TM

namespace Lemmas

/-! ### the two halves of `makeRoom` and the store half of `fill` -/

def compact (r : RBuf) : RBuf :=
  if r.start > 0 then
    if r.start = r.stop then { r with start := 0, stop := 0 }
    else
      let live := (r.data.take r.stop).drop r.start
      { data := live ++ r.data.drop live.length, start := 0, stop := r.stop - r.start }
  else r

def grow (r : RBuf) : RBuf :=
  if r.stop = r.data.length then { r with data := r.data ++ List.replicate r.data.length 0 } else r

theorem makeRoom_eq (r : RBuf) : r.makeRoom = grow (compact r) := rfl

theorem compact_view (r : RBuf) (h : r.wf) : (compact r).view = r.view := by
  obtain ⟨h1, h2, h3⟩ := h
  unfold compact
  split
  · split
    · rename_i _ he
      simp [RBuf.view, he]
    · have hl : ((r.data.take r.stop).drop r.start).length = r.stop - r.start := by
        simp only [List.length_drop, List.length_take]; omega
      simp only [RBuf.view, hl, List.drop_zero]
      rw [List.take_append_of_le_length (by omega), List.take_of_length_le (by omega)]
  · rfl

theorem compact_wf (r : RBuf) (h : r.wf) : (compact r).wf := by
  obtain ⟨h1, h2, h3⟩ := h
  unfold compact
  split
  · split
    · exact ⟨Nat.le_refl _, Nat.zero_le _, h3⟩
    · refine ⟨Nat.zero_le _, ?_, ?_⟩ <;>
        simp only [List.length_append, List.length_drop, List.length_take] <;> omega
  · exact ⟨h1, h2, h3⟩

theorem compact_start (r : RBuf) : (compact r).start = 0 := by
  unfold compact
  split
  · split <;> rfl
  · omega

theorem compact_data_length (r : RBuf) (h : r.wf) : (compact r).data.length = r.data.length := by
  obtain ⟨h1, h2, h3⟩ := h
  unfold compact
  split
  · split
    · rfl
    · simp only [List.length_append, List.length_drop, List.length_take]; omega
  · rfl

theorem compact_stop (r : RBuf) (h : r.wf) : (compact r).stop = r.stop - r.start := by
  obtain ⟨h1, h2, h3⟩ := h
  unfold compact
  split
  · split
    · show 0 = _; omega
    · rfl
  · omega

theorem grow_view (r : RBuf) (h : r.wf) : (grow r).view = r.view := by
  obtain ⟨h1, h2, h3⟩ := h
  unfold grow
  split
  · simp only [RBuf.view]
    rw [List.take_append_of_le_length h2]
  · rfl

theorem grow_wf (r : RBuf) (h : r.wf) : (grow r).wf := by
  obtain ⟨h1, h2, h3⟩ := h
  unfold grow
  split
  · refine ⟨h1, ?_, ?_⟩ <;> simp only [List.length_append, List.length_replicate] <;> omega
  · exact ⟨h1, h2, h3⟩

theorem grow_room_pos (r : RBuf) (h : r.wf) : 0 < (grow r).room := by
  obtain ⟨h1, h2, h3⟩ := h
  unfold grow RBuf.room
  split
  · simp only [List.length_append, List.length_replicate]; omega
  · omega

/-- the second half of `fill()`: `g` (at most `room` bytes) is stored at `data[end:]` -/
def put (r : RBuf) (g : Bytes) : RBuf :=
  { r with data := r.data.take r.stop ++ g ++ r.data.drop (r.stop + g.length), stop := r.stop + g.length }

theorem fill_eq (r : RBuf) (got : Bytes) : r.fill got = put r.makeRoom (got.take r.makeRoom.room) := rfl

theorem put_view (r : RBuf) (g : Bytes) (h : r.wf) : (put r g).view = r.view ++ g := by
  obtain ⟨h1, h2, h3⟩ := h
  have hA : (r.data.take r.stop).length = r.stop := by simp only [List.length_take]; omega
  simp only [put, RBuf.view]
  rw [List.take_left' (by simp only [List.length_append, hA]),
    List.drop_append_of_le_length (by omega)]

theorem put_data_length (r : RBuf) (g : Bytes) (h : r.wf) (hg : g.length ≤ r.room) :
    (put r g).data.length = r.data.length := by
  obtain ⟨h1, h2, h3⟩ := h
  unfold RBuf.room at hg
  simp only [put, List.length_append, List.length_take, List.length_drop]; omega

theorem put_wf (r : RBuf) (g : Bytes) (h : r.wf) (hg : g.length ≤ r.room) : (put r g).wf := by
  have hl := put_data_length r g h hg
  obtain ⟨h1, h2, h3⟩ := h
  unfold RBuf.room at hg
  refine ⟨?_, ?_, ?_⟩
  · show r.start ≤ r.stop + g.length; omega
  · rw [hl]; show r.stop + g.length ≤ _; omega
  · rw [hl]; exact h3

theorem take_append_drop_length (l : Bytes) (m : Nat) :
    l.take m ++ l.drop (l.take m).length = l := by
  by_cases h : m ≤ l.length
  · rw [List.length_take, Nat.min_eq_left h, List.take_append_drop]
  · rw [List.take_of_length_le (by omega), List.drop_length, List.append_nil]

end Lemmas
open Lemmas

/-! ## the reader's buffer is a byte queue -/

theorem view_length (r : RBuf) (h : r.wf) : r.view.length = r.stop - r.start := by
  obtain ⟨h1, h2, h3⟩ := h
  simp only [RBuf.view, List.length_drop, List.length_take]; omega

theorem view_getElem? (r : RBuf) (i : Nat) :
    r.view[i]? = if r.start + i < r.stop then r.data[r.start + i]? else none := by
  simp only [RBuf.view, List.getElem?_drop, List.getElem?_take]

theorem makeRoom_view (r : RBuf) (h : r.wf) : r.makeRoom.view = r.view := by
  rw [makeRoom_eq, grow_view _ (compact_wf r h), compact_view r h]

theorem makeRoom_wf (r : RBuf) (h : r.wf) : r.makeRoom.wf := by
  rw [makeRoom_eq]; exact grow_wf _ (compact_wf r h)

theorem makeRoom_room_pos (r : RBuf) (h : r.wf) : 0 < r.makeRoom.room := by
  rw [makeRoom_eq]; exact grow_room_pos _ (compact_wf r h)

theorem makeRoom_start (r : RBuf) : r.makeRoom.start = 0 := by
  rw [makeRoom_eq]; unfold grow; split <;> exact compact_start r

/-- Capacity: doubling happens exactly when the live (unconsumed) bytes fill the whole array,
i.e. when compaction cannot free a single byte; otherwise the capacity is unchanged. -/
theorem makeRoom_capacity (r : RBuf) (h : r.wf) :
    r.makeRoom.data.length =
      if r.view.length = r.data.length then 2 * r.data.length else r.data.length := by
  have hl := compact_data_length r h
  have hs := compact_stop r h
  rw [view_length r h, makeRoom_eq]
  unfold grow
  split
  · rename_i he
    rw [hs, hl] at he
    simp only [he, if_true, List.length_append, List.length_replicate, hl]; omega
  · rename_i he
    rw [hs, hl] at he
    simp only [he, if_false, hl]

theorem makeRoom_room (r : RBuf) (h : r.wf) :
    r.makeRoom.room = r.makeRoom.data.length - r.view.length := by
  have hs := compact_stop r h
  rw [view_length r h]
  have : r.makeRoom.stop = (compact r).stop := by
    rw [makeRoom_eq]; unfold grow; split <;> rfl
  unfold RBuf.room
  rw [this, hs]

theorem makeRoom_capacity_mono (r : RBuf) (h : r.wf) : r.data.length ≤ r.makeRoom.data.length := by
  rw [makeRoom_capacity r h]; split <;> omega

/-- **`fill` appends.** What was buffered stays, in order, followed by exactly the bytes taken from
the source (`room` of them at most) — for every capacity, whether or not the buffer was compacted
or doubled on the way. -/
theorem fill_view (r : RBuf) (got : Bytes) (h : r.wf) :
    (r.fill got).view = r.view ++ got.take r.makeRoom.room := by
  rw [fill_eq, put_view _ _ (makeRoom_wf r h), makeRoom_view r h]

theorem fill_wf (r : RBuf) (got : Bytes) (h : r.wf) : (r.fill got).wf := by
  rw [fill_eq]
  exact put_wf _ _ (makeRoom_wf r h) (by simp only [List.length_take]; omega)

theorem fill_capacity (r : RBuf) (got : Bytes) (h : r.wf) :
    (r.fill got).data.length = r.makeRoom.data.length := by
  rw [fill_eq]
  exact put_data_length _ _ (makeRoom_wf r h) (by simp only [List.length_take]; omega)

theorem fill_nil (r : RBuf) (h : r.wf) : (r.fill []).view = r.view := by
  rw [fill_view r [] h, List.take_nil, List.append_nil]

theorem fill_fits (r : RBuf) (got : Bytes) (h : r.wf) (hg : got.length ≤ r.makeRoom.room) :
    (r.fill got).view = r.view ++ got := by
  rw [fill_view r got h, List.take_of_length_le hg]

theorem fill_progress (r : RBuf) (got : Bytes) (h : r.wf) (hg : got ≠ []) :
    r.view.length < (r.fill got).view.length := by
  have := makeRoom_room_pos r h
  rw [fill_view r got h, List.length_append, List.length_take]
  have : 0 < got.length := List.length_pos_iff.mpr hg
  omega

theorem consume_view (r : RBuf) (n : Nat) (h : r.wf) (hn : n ≤ r.view.length) :
    (r.consume n).view = r.view.drop n ∧ (r.consume n).wf := by
  rw [view_length r h] at hn
  obtain ⟨h1, h2, h3⟩ := h
  refine ⟨?_, ?_, h2, h3⟩
  · simp only [RBuf.consume, RBuf.view, List.drop_drop]
  · show r.start + n ≤ r.stop; omega

theorem readByte_eq_consume (r r' : RBuf) (b : UInt8) (hr : r.readByte = some (b, r')) :
    ∃ v, r.view = b :: v ∧ r' = r.consume 1 := by
  unfold RBuf.readByte at hr
  split at hr
  · cases hr
  · rename_i b0 tl hv
    cases hr
    exact ⟨tl, hv, rfl⟩

theorem readByte_view (r r' : RBuf) (b : UInt8) (h : r.wf) (hr : r.readByte = some (b, r')) :
    r.view = b :: r'.view ∧ r'.wf := by
  obtain ⟨v, hv, rfl⟩ := readByte_eq_consume r r' b hr
  obtain ⟨c1, c2⟩ := consume_view r 1 h (by rw [hv]; exact Nat.le_add_left ..)
  exact ⟨by rw [c1, hv]; rfl, c2⟩

theorem readByte_none (r : RBuf) : r.readByte = none ↔ r.view = [] := by
  unfold RBuf.readByte
  split <;> simp_all

theorem init_wf : RBuf.init.wf := by
  refine ⟨Nat.le_refl _, Nat.zero_le _, ?_⟩
  simp only [RBuf.init, List.length_replicate, readBufferSize]; omega

theorem init_view : RBuf.init.view = [] := by
  simp only [RBuf.view, RBuf.init, List.take_zero, List.drop_nil]

theorem init_capacity : RBuf.init.data.length = readBufferSize := by
  simp only [RBuf.init, List.length_replicate]

/-! ### lifted to arbitrary operation sequences -/

/-- what the reader does with its buffer -/
inductive Op
  /-- one `fill()`: compaction/doubling, then `src.Read(data[end:])` where the source has `got`
      ready (`got = []`: zero-length read; `got` longer than the free space: only `room` bytes
      are taken) -/
  | fill (got : Bytes)
  /-- `r.start += n` after a token of `n` buffered bytes (legal only when `n ≤ Buffered()`) -/
  | consume (n : Nat)
  /-- `ReadByte` on buffered data (legal only when `Buffered() > 0`) -/
  | readByte

/-- the buffer together with the two histories the statements are about -/
structure Tr where
  /-- every byte handed to the parser so far, in order -/
  consumed : Bytes := []
  /-- the chunk returned by each individual `src.Read` so far (= what a `TeeBackend` placed on
      the source writes to its tee, one `Write(p[:n])` per read) -/
  reads : List Bytes := []
  buf : RBuf := RBuf.init

/-- one operation; `none` = the operation is not legal in this state -/
def step (s : Tr) : Op → Option Tr
  | .fill got =>
    some { s with reads := s.reads ++ [got.take s.buf.makeRoom.room], buf := s.buf.fill got }
  | .consume n =>
    if n ≤ s.buf.view.length then
      some { s with consumed := s.consumed ++ s.buf.view.take n, buf := s.buf.consume n }
    else none
  | .readByte =>
    match s.buf.readByte with
    | none => none
    | some (b, r') => some { s with consumed := s.consumed ++ [b], buf := r' }

def exec (s : Tr) : List Op → Option Tr
  | [] => some s
  | op :: ops => (step s op).bind fun s' => exec s' ops

def Inv (s : Tr) : Prop :=
  s.consumed ++ s.buf.view = s.reads.flatten ∧ s.buf.wf ∧
    ∃ k, s.buf.data.length = readBufferSize * 2 ^ k

theorem inv_init : Inv {} :=
  ⟨by show [] ++ RBuf.init.view = [].flatten; rw [init_view]; rfl, init_wf,
   0, by rw [init_capacity]; omega⟩

theorem step_readByte {s s' : Tr} (hs : step s .readByte = some s') : step s (.consume 1) = some s' := by
  simp only [step] at hs ⊢
  split at hs
  · cases hs
  · rename_i b r' hr
    obtain ⟨v, hv, rfl⟩ := readByte_eq_consume _ r' b hr
    cases hs
    simp [hv]

theorem step_inv (s s' : Tr) (op : Op) (h : Inv s) (hs : step s op = some s') : Inv s' := by
  obtain ⟨hq, hw, k, hk⟩ := h
  have hcons : ∀ n s', step s (.consume n) = some s' → Inv s' := by
    intro n s' hs
    simp only [step] at hs
    split at hs
    · rename_i hn
      cases hs
      have := consume_view _ n hw hn
      exact ⟨by simp only [this.1, List.append_assoc, List.take_append_drop, hq], this.2, k, hk⟩
    · cases hs
  cases op with
  | fill got =>
    simp only [step, Option.some.injEq] at hs
    subst hs
    refine ⟨?_, fill_wf _ _ hw, ?_⟩
    · simp only [fill_view _ _ hw, List.flatten_append, List.flatten_cons, List.flatten_nil,
        List.append_nil, ← hq, List.append_assoc]
    · simp only [fill_capacity _ _ hw, makeRoom_capacity _ hw]
      split
      · exact ⟨k + 1, by rw [hk, Nat.pow_succ, Nat.mul_comm 2, Nat.mul_assoc]⟩
      · exact ⟨k, hk⟩
  | consume n => exact hcons n s' hs
  | readByte => exact hcons 1 s' (step_readByte hs)

theorem exec_ind {I : Tr → Prop} (hstep : ∀ s s' op, I s → step s op = some s' → I s') :
    ∀ (ops : List Op) (s s' : Tr), I s → exec s ops = some s' → I s' := by
  intro ops
  induction ops with
  | nil => intro s s' h he; cases he; exact h
  | cons op ops ih =>
    intro s s' h he
    simp only [exec] at he
    cases hs : step s op with
    | none => rw [hs] at he; cases he
    | some s1 => rw [hs] at he; exact ih s1 s' (hstep s s1 op h hs) he

theorem exec_inv : ∀ (ops : List Op) (s s' : Tr), Inv s → exec s ops = some s' → Inv s' :=
  exec_ind step_inv

/-- **Every byte exactly once and in order, across buffer boundaries of any size.** After any
legal sequence of fills of any size, token consumptions and `ReadByte`s from the fresh buffer, the
bytes handed to the parser followed by the bytes still buffered are the concatenation of what the
reads returned: nothing lost, duplicated or reordered by compaction or doubling. -/
theorem reader_exactly_once_in_order (ops : List Op) (s : Tr) (h : exec {} ops = some s) :
    s.consumed ++ s.buf.view = s.reads.flatten ∧ s.buf.wf :=
  have := exec_inv ops {} s inv_init h
  ⟨this.1, this.2.1⟩

/-- The capacity reached is always `4096 * 2^k` (in particular a positive multiple of 4096). -/
theorem reader_capacity (ops : List Op) (s : Tr) (h : exec {} ops = some s) :
    ∃ k, s.buf.data.length = 4096 * 2 ^ k :=
  (exec_inv ops {} s inv_init h).2.2

theorem step_mono (s s' : Tr) (op : Op) (hw : s.buf.wf) (hs : step s op = some s') :
    s'.buf.wf ∧ s.consumed <+: s'.consumed ∧ s.reads <+: s'.reads ∧
      s.buf.data.length ≤ s'.buf.data.length := by
  have hcons : ∀ n, step s (.consume n) = some s' → s'.buf.wf ∧ s.consumed <+: s'.consumed ∧
      s.reads <+: s'.reads ∧ s.buf.data.length ≤ s'.buf.data.length := by
    intro n hs
    simp only [step] at hs
    split at hs
    · rename_i hn
      cases hs
      exact ⟨(consume_view _ n hw hn).2, List.prefix_append _ _, List.prefix_refl _, Nat.le_refl _⟩
    · cases hs
  cases op with
  | fill got =>
    simp only [step, Option.some.injEq] at hs
    subst hs
    refine ⟨fill_wf _ _ hw, List.prefix_refl _, List.prefix_append _ _, ?_⟩
    simp only [fill_capacity _ _ hw]; exact makeRoom_capacity_mono _ hw
  | consume n => exact hcons n hs
  | readByte => exact hcons 1 (step_readByte hs)

/-- **History is never rewritten and the capacity only grows**: along any legal run (from any
well-formed buffer) the bytes already handed to the parser and the reads already made stay as
prefixes of the later histories, and `len(data)` never decreases. -/
theorem exec_mono : ∀ (ops : List Op) (s s' : Tr), s.buf.wf → exec s ops = some s' →
    s'.buf.wf ∧ s.consumed <+: s'.consumed ∧ s.reads <+: s'.reads ∧
      s.buf.data.length ≤ s'.buf.data.length := by
  intro ops s s' h he
  refine exec_ind (I := fun s' => s'.buf.wf ∧ s.consumed <+: s'.consumed ∧ s.reads <+: s'.reads ∧
      s.buf.data.length ≤ s'.buf.data.length) (fun s1 s2 op h1 hs => ?_) ops s s'
    ⟨h, List.prefix_refl _, List.prefix_refl _, Nat.le_refl _⟩ he
  have h2 := step_mono s1 s2 op h1.1 hs
  exact ⟨h2.1, h1.2.1.trans h2.2.1, h1.2.2.1.trans h2.2.2.1, Nat.le_trans h1.2.2.2 h2.2.2.2⟩

/-! ### the same with the source as a fixed byte stream -/

/-- the reader's operations when the source is a byte stream `src` still to be delivered -/
inductive SOp
  /-- a `fill()` during which the source is willing to return up to `k` bytes (`k = 0`:
      zero-length read; `k` may exceed the free space, the buffer size, or what is left) -/
  | read (k : Nat)
  | consume (n : Nat)
  | readByte

/-- returns the undelivered rest of the stream and the reader -/
def execS : Bytes → Tr → List SOp → Option (Bytes × Tr)
  | src, s, [] => some (src, s)
  | src, s, .read k :: ops =>
    let taken := (src.take k).take s.buf.makeRoom.room
    execS (src.drop taken.length)
      { s with reads := s.reads ++ [taken], buf := s.buf.fill (src.take k) } ops
  | src, s, .consume n :: ops => (step s (.consume n)).bind fun s' => execS src s' ops
  | src, s, .readByte :: ops => (step s .readByte).bind fun s' => execS src s' ops

theorem execS_inv : ∀ (ops : List SOp) (src src' : Bytes) (s s' : Tr), Inv s →
    execS src s ops = some (src', s') →
    Inv s' ∧ s'.reads.flatten ++ src' = s.reads.flatten ++ src := by
  intro ops
  induction ops with
  | nil => intro src src' s s' h he; cases he; exact ⟨h, rfl⟩
  | cons op ops ih =>
    intro src src' s s' h he
    have hcons : ∀ n s1, step s (.consume n) = some s1 → execS src s1 ops = some (src', s') →
        Inv s' ∧ s'.reads.flatten ++ src' = s.reads.flatten ++ src := by
      intro n s1 hs he
      have h2 := ih _ _ _ _ (step_inv s s1 _ h hs) he
      simp only [step] at hs
      split at hs <;> cases hs
      exact h2
    cases op with
    | read k =>
      simp only [execS] at he
      have h1 := step_inv s _ (.fill (src.take k)) h rfl
      have h2 := ih _ _ _ _ h1 he
      refine ⟨h2.1, ?_⟩
      rw [h2.2]
      simp only [List.flatten_append, List.flatten_cons, List.flatten_nil, List.append_nil,
        List.append_assoc, List.take_take]
      rw [take_append_drop_length]
    | consume n =>
      simp only [execS] at he
      cases hs : step s (.consume n) with
      | none => rw [hs] at he; cases he
      | some s1 => rw [hs] at he; exact hcons n s1 hs he
    | readByte =>
      simp only [execS] at he
      cases hs : step s .readByte with
      | none => rw [hs] at he; cases he
      | some s1 => rw [hs] at he; exact hcons 1 s1 (step_readByte hs) he

/-- **Stream conservation.** For every byte stream and every sequence of read sizes interleaved
with legal consumptions: bytes handed to the parser ++ bytes still buffered ++ bytes still with the
source = the stream (what a read could not take stays with the source for the next read). -/
theorem reader_stream_conservation (src src' : Bytes) (ops : List SOp) (s : Tr)
    (h : execS src {} ops = some (src', s)) :
    s.consumed ++ s.buf.view ++ src' = src := by
  have := execS_inv ops src src' {} s inv_init h
  rw [this.1.1, this.2]; rfl

/-! ## tee -/

/-- **A tee on the source copies exactly the bytes read.** `Tr.reads` logs `p[:n]` of every
`Read`, which is what `TeeBackend.Read` writes to its tee: its concatenation is what entered the
buffer; bytes the buffer had no room for are not copied. -/
theorem tee_exact (ops : List Op) (s : Tr) (h : exec {} ops = some s) :
    s.reads.flatten = s.consumed ++ s.buf.view :=
  (reader_exactly_once_in_order ops s h).1.symm

/-! ## `Terminal.Write` -/

/-- the backend never fails and never accepts 0 bytes: every scripted call is `some k`, `k > 0`
(short writes `k < len(b)` allowed) -/
def allPos (script : WScript) : Prop := ∀ x ∈ script, ∃ k, x = some k ∧ 0 < k

namespace Lemmas

/-! The loop is analysed once, for scripts whose failing calls may accept bytes (`writeAllP`,
`Props/C16WriteP.lean`); a script of this section is the special case `WScript.toP`. -/

theorem toP_pre (pre : List Nat) (rest : WScript) :
    WScript.toP (pre.map some ++ rest) = pre.map (⟨·, false⟩) ++ WScript.toP rest := by
  simp only [WScript.toP, List.map_append, List.map_map]
  rfl

theorem mem_toP {s : WScript} {c : WCall} (h : c ∈ s.toP) :
    (c.fails = true → none ∈ s ∧ c.k = 0) ∧ (c.fails = false → some c.k ∈ s) := by
  obtain ⟨x, hx, rfl⟩ := List.mem_map.1 h
  cases x with
  | none => exact ⟨fun _ => ⟨hx, rfl⟩, nofun⟩
  | some k => exact ⟨nofun, fun _ => hx⟩

theorem write_spec (b : Bytes) (script : WScript) (n : Nat) (e : WErr) (del : Bytes)
    (h : terminalWrite b script = (n, e, del)) :
    n ≤ b.length ∧ del = b.take n ∧ (e = .nil ↔ n = b.length) ∧
      (e = .injected → none ∈ script) ∧ (e = .shortWrite → some 0 ∈ script) := by
  rw [← C16P.writeP_embeds] at h
  obtain ⟨h1, h2, h3, h4, h5, h6⟩ := C16P.writeP_spec b _ n e del h
  refine ⟨h1, h2, ⟨h3, fun hn => (h4 hn).resolve_right ?_⟩, fun he => ?_, fun he => ?_⟩
  · rintro ⟨c, hc, hf, hk⟩
    have := ((mem_toP hc).1 hf).2
    omega
  · obtain ⟨c, hc, hf⟩ := h5 he
    exact ((mem_toP hc).1 hf).1
  · obtain ⟨c, hc, hf, hk⟩ := h6 he
    exact hk ▸ (mem_toP hc).2 hf

end Lemmas

/-- **The whole slice is delivered despite short writes**, when no scripted call fails or accepts
0 bytes: `Terminal.Write(b)` returns `(len(b), nil)` and the backend has received exactly `b`. -/
theorem write_all_ok (b : Bytes) (script : WScript) (h : allPos script) :
    terminalWrite b script = (b.length, .nil, b) := by
  rcases hr : terminalWrite b script with ⟨n, e, d⟩
  obtain ⟨_, h2, h3, h4, h5⟩ := write_spec b script n e d hr
  have he : e = .nil := by
    cases e with
    | nil => rfl
    | injected => obtain ⟨k, hk, _⟩ := h none (h4 rfl); cases hk
    | shortWrite => obtain ⟨k, hk, h0⟩ := h (some 0) (h5 rfl); cases hk; omega
  rw [he, h2, h3.1 he, List.take_length]

/-- The same when the script goes on arbitrarily (failures, zero-length accepts) after calls that
already cover the slice: the loop stops as soon as everything is written. -/
theorem write_all_ok_then_anything (b : Bytes) (pre : List Nat) (rest : WScript)
    (hp : ∀ k ∈ pre, 0 < k) (hs : b.length ≤ pre.sum) :
    terminalWrite b (pre.map some ++ rest) = (b.length, .nil, b) := by
  rw [← C16P.writeP_embeds, toP_pre, C16P.Lemmas.terminalWriteP_eq, C16P.Lemmas.wlen_pre _ pre _ hp,
    if_neg (by omega), List.take_length]

/-- **The count is exact.** In every case (success, injected error at any call, zero-length
accept) the bytes the backend received are the prefix of `b` of exactly the reported length. -/
theorem write_prefix (b : Bytes) (script : WScript) (n : Nat) (e : WErr) (del : Bytes)
    (h : terminalWrite b script = (n, e, del)) : del = b.take n ∧ n ≤ b.length :=
  have := write_spec b script n e del h
  ⟨this.2.1, this.1⟩

/-- **An error is reported exactly when something was not delivered.** -/
theorem write_error_reported (b : Bytes) (script : WScript) (n : Nat) (e : WErr) (del : Bytes)
    (h : terminalWrite b script = (n, e, del)) : (e = .nil ↔ del = b) ∧ (e = .nil ↔ n = b.length) := by
  obtain ⟨h1, h2, h3, _⟩ := write_spec b script n e del h
  refine ⟨?_, h3⟩
  rw [h3, h2]
  constructor
  · intro hm; rw [hm, List.take_length]
  · intro ht
    have := congrArg List.length ht
    rw [List.length_take] at this; omega

/-- An injected error can only come from a failing call, `io.ErrShortWrite` only from a call
that accepted 0 bytes. -/
theorem write_error_sound (b : Bytes) (script : WScript) (n : Nat) (e : WErr) (del : Bytes)
    (h : terminalWrite b script = (n, e, del)) :
    (e = .injected → none ∈ script) ∧ (e = .shortWrite → some 0 ∈ script) :=
  (write_spec b script n e del h).2.2.2

/-- **A failing call yields the error with the count written before it**, the backend having
received exactly that prefix: an error injected at every write index. -/
theorem write_injected (b : Bytes) (pre : List Nat) (rest : WScript)
    (hp : ∀ k ∈ pre, 0 < k) (hs : pre.sum < b.length) :
    terminalWrite b (pre.map some ++ none :: rest) = (pre.sum, .injected, b.take pre.sum) := by
  rw [← C16P.writeP_embeds, toP_pre, show WScript.toP (none :: rest) = ⟨0, true⟩ :: WScript.toP rest from rfl,
    C16P.Lemmas.terminalWriteP_eq, C16P.Lemmas.wlen_pre _ pre _ hp, if_pos hs, C16P.Lemmas.wlen_cons (by omega),
    if_pos rfl, Nat.zero_min, Nat.add_zero]

/-- **A zero-length accept yields `io.ErrShortWrite`** with the count written before it (instead
of looping forever). -/
theorem write_short (b : Bytes) (pre : List Nat) (rest : WScript)
    (hp : ∀ k ∈ pre, 0 < k) (hs : pre.sum < b.length) :
    terminalWrite b (pre.map some ++ some 0 :: rest) = (pre.sum, .shortWrite, b.take pre.sum) := by
  rw [← C16P.writeP_embeds, toP_pre, show WScript.toP (some 0 :: rest) = ⟨0, false⟩ :: WScript.toP rest from rfl,
    C16P.Lemmas.terminalWriteP_eq, C16P.Lemmas.wlen_pre _ pre _ hp, if_pos hs, C16P.Lemmas.wlen_cons (by omega),
    if_neg Bool.false_ne_true, if_pos (Nat.zero_min _), Nat.add_zero]

/-- **The fuel `len(b) + 1` suffices**: the loop is never cut short by the fuel (every iteration
that continues has written at least one byte), so any larger bound gives the same result. -/
theorem write_fuel_suffices (b : Bytes) (script : WScript) (f : Nat) (h : b.length < f) :
    writeAll f b script 0 [] = terminalWrite b script := by
  rw [← C16P.writeP_embeds, ← C16P.Lemmas.writeAllP_embeds]
  exact C16P.writeP_fuel_suffices b _ f h

/-! ## a zero-length read at the parser level

The parser-level half of "exactly once and in order" is `C08.feedAll_eq_feed` (feeding the chunks
one by one is feeding their concatenation); with `reader_exactly_once_in_order` (the chunks
concatenate to the bytes handed on) it gives the clause. Here only the zero-length read: -/

/-- A zero-length read changes nothing and produces no event, whenever the reader is quiescent
(`run_pending_stuck` in `Proofs/Run.lean`: every state produced by `feed` is). -/
theorem feed_nil (cw : Nat → Nat) (s : Sys) (h : next s.pending = .need) :
    Sys.feed cw s [] = (s, []) := by
  simp only [Sys.feed, List.append_nil, run_need cw s.t s.pending h]

theorem feed_nil_of_empty (cw : Nat → Nat) (t : Term) : Sys.feed cw ⟨t, []⟩ [] = (⟨t, []⟩, []) :=
  feed_nil cw ⟨t, []⟩ (by simp [next])

/-- a zero-length read in front of a read script can be dropped (the reader is quiescent after
every `feed`, so this applies at every position of a script) -/
theorem feedAll_nil_chunk (cw : Nat → Nat) (s : Sys) (h : next s.pending = .need) (cs : List Bytes) :
    Sys.feedAll cw s ([] :: cs) = Sys.feedAll cw s cs := by
  simp only [Sys.feedAll, feed_nil cw s h, List.nil_append]

/-! ## `ReadByte` over reads that may report an error

`RBuf.fill` has no error input because `fill()` stores the `n` bytes before it returns `err`.
To state the two error clauses of the property ("including bytes returned together with an
error", "stops once a read reports an error or EOF with no further data") this section
transcribes the loop of `GraphemeReader.ReadByte` (`grapheme_reader.go`)

    for r.Buffered() == 0 { err := r.fill(); if err != nil { if r.Buffered() == 0 { return 0, err }; break } }
    if r.Buffered() == 0 { return 0, io.EOF };  b := r.data[r.start]; r.start++; return b, nil

over a script whose k-th entry `(got, err)` is what the k-th `src.Read` returns. (The loop is
defined here, over `RBuf.fill` / `RBuf.readByte`; an exhausted script counts as EOF.)
`TM/Reader.lean` models the whole reader, with `ReadPrintableBytes` and reads larger than the free
space, and `Props/C16Reader.lean` proves its theorems; the loop here is `ReadByte` alone, with a log
of the chunk each read delivered, which is what the two clauses speak of. -/

/-- `(got, err)`: the bytes a `Read` returns and whether it also reports an error (`io.EOF` or other) -/
abbrev RScript := List (Bytes × Bool)

/-- the `for` loop: returns the buffer, the reads not made, and the chunk taken by each read made -/
def fillLoop : RBuf → RScript → RBuf × RScript × List Bytes
  | r, [] => (r, [], [])
  | r, (got, err) :: rest =>
    if r.view.isEmpty then
      let r1 := r.fill got
      let tk := got.take r.makeRoom.room
      if err then (r1, rest, [tk])
      else
        let out := fillLoop r1 rest
        (out.1, out.2.1, tk :: out.2.2)
    else (r, (got, err) :: rest, [])

/-- `ReadByte`: `some b` = `(b, nil)`, `none` = `(0, err)` -/
def readByteE (r : RBuf) (script : RScript) : Option UInt8 × RBuf × RScript × List Bytes :=
  let out := fillLoop r script
  match out.1.readByte with
  | none => (none, out.1, out.2.1, out.2.2)
  | some (b, r2) => (some b, r2, out.2.1, out.2.2)

theorem fillLoop_spec : ∀ (script : RScript) (r : RBuf), r.wf →
    (fillLoop r script).1.wf ∧
    (fillLoop r script).1.view = r.view ++ (fillLoop r script).2.2.flatten ∧
    script = script.take (fillLoop r script).2.2.length ++ (fillLoop r script).2.1 ∧
    (r.view ≠ [] → (fillLoop r script).2.2 = []) ∧
    (∀ i, i + 1 < (fillLoop r script).2.2.length →
      (fillLoop r script).2.2[i]? = some [] ∧ (script[i]?.map (·.2)) = some false) := by
  intro script
  induction script with
  | nil => intro r h; simp [fillLoop, h]
  | cons p rest ih =>
    intro r h
    obtain ⟨got, err⟩ := p
    unfold fillLoop
    cases hv : r.view.isEmpty with
    | false =>
      simp only [Bool.false_eq_true, if_false]
      simp [h]
    | true =>
      have hv' : r.view = [] := List.isEmpty_iff.mp hv
      simp only [if_true]
      cases err with
      | true =>
        simp only [if_true]
        refine ⟨fill_wf _ _ h, ?_, ?_, ?_, ?_⟩
        · rw [fill_view _ _ h]; simp
        · simp
        · intro hne; exact absurd hv' hne
        · intro i hi; simp at hi
      | false =>
        simp only [Bool.false_eq_true, if_false]
        have h1 := fill_wf r got h
        obtain ⟨a1, a2, a3, a4, a5⟩ := ih (r.fill got) h1
        refine ⟨a1, ?_, ?_, ?_, ?_⟩
        · rw [a2, fill_view _ _ h]; simp
        · simp only [List.length_cons, List.take_succ_cons, List.cons_append]
          rw [← a3]
        · intro hne; exact absurd hv' hne
        · intro i hi
          simp only [List.length_cons] at hi
          cases i with
          | zero =>
            -- more reads were made after this one, so it left the buffer empty
            have hne : (fillLoop (r.fill got) rest).2.2 ≠ [] := by
              intro hc; rw [hc] at hi; simp at hi
            have hemp : (r.fill got).view = [] := by
              cases hq : (r.fill got).view with
              | nil => rfl
              | cons x xs => exact absurd (a4 (by rw [hq]; simp)) hne
            rw [fill_view _ _ h, hv', List.nil_append] at hemp
            simp [hemp]
          | succ j =>
            have := a5 j (by omega)
            simpa using this

/-- **Bytes returned together with an error are interpreted like any others; nothing is lost
around an error.** The byte returned (if any) followed by what is buffered afterwards is what was
buffered before followed by every chunk the reads delivered. -/
theorem readByteE_conservation (r : RBuf) (script : RScript) (h : r.wf) :
    let out := readByteE r script
    out.1.toList ++ out.2.1.view = r.view ++ out.2.2.2.flatten ∧ out.2.1.wf ∧
      script = script.take out.2.2.2.length ++ out.2.2.1 := by
  obtain ⟨a1, a2, a3, _, _⟩ := fillLoop_spec script r h
  simp only [readByteE]
  split
  · rename_i hr
    rw [readByte_none] at hr
    exact ⟨by rw [← a2, hr]; rfl, a1, a3⟩
  · rename_i b r2 hr
    have := readByte_view _ r2 b a1 hr
    exact ⟨by rw [← a2, this.1]; rfl, this.2, a3⟩

/-- **An error (or EOF) is returned only when there is no data at all**: `ReadByte` fails iff
nothing was buffered and every read made delivered nothing. In particular, if the read that
reported the error also delivered bytes, the first of them is returned with a nil error. -/
theorem readByteE_error_iff (r : RBuf) (script : RScript) (h : r.wf) :
    (readByteE r script).1 = none ↔ r.view = [] ∧ (readByteE r script).2.2.2.flatten = [] := by
  obtain ⟨a1, a2, _, _, _⟩ := fillLoop_spec script r h
  simp only [readByteE]
  split
  · rename_i hr
    rw [readByte_none, a2] at hr
    simpa using hr
  · rename_i b r2 hr
    have := (readByte_view _ r2 b a1 hr).1
    rw [a2] at this
    constructor
    · intro hc; cases hc
    · intro hc; rw [hc.1, hc.2] at this; cases this

/-- **The loop stops at the first read that reports an error or delivers data**, and makes no
read at all while data is buffered: every read made except the last delivered nothing and
reported no error. -/
theorem readByteE_stops (r : RBuf) (script : RScript) (h : r.wf) :
    (r.view ≠ [] → (readByteE r script).2.2.2 = []) ∧
    ∀ i, i + 1 < (readByteE r script).2.2.2.length →
      (readByteE r script).2.2.2[i]? = some [] ∧ script[i]?.map (·.2) = some false := by
  obtain ⟨_, _, _, a4, a5⟩ := fillLoop_spec script r h
  simp only [readByteE]
  split <;> exact ⟨a4, a5⟩

/-! ## non-vacuity

Hand-made buffers of capacity 4, so that `decide` is fast; two runs on the real 4096-byte buffer. -/
section Examples

/-- capacity 4, empty -/
def empty4 : RBuf := { data := [0, 0, 0, 0], start := 0, stop := 0 }
/-- capacity 4, filled to the brim, nothing consumed -/
def full4 : RBuf := { data := [1, 2, 3, 4], start := 0, stop := 4 }
/-- capacity 4, full, two bytes consumed -/
def mid4 : RBuf := { data := [1, 2, 3, 4], start := 2, stop := 4 }
/-- capacity 4, full, everything consumed -/
def spent4 : RBuf := { data := [1, 2, 3, 4], start := 4, stop := 4 }

example : empty4.wf ∧ full4.wf ∧ mid4.wf ∧ spent4.wf := by
  simp [RBuf.wf, empty4, full4, mid4, spent4]

/-- brim-full: the array is doubled, both offered bytes are taken after the four old ones -/
example : (full4.fill [5, 6]).view = [1, 2, 3, 4, 5, 6] ∧ (full4.fill [5, 6]).data.length = 8 ∧
    full4.makeRoom.room = 4 := by decide
/-- compaction with `start > 0`: two bytes of room are recovered, the third offered byte is
not taken, no doubling -/
example : (mid4.fill [5, 6, 7]).view = [3, 4, 5, 6] ∧ (mid4.fill [5, 6, 7]).data.length = 4 ∧
    (mid4.fill [5, 6, 7]).start = 0 ∧ mid4.makeRoom.room = 2 := by decide
/-- everything consumed: indices reset, the whole array is free again -/
example : (spent4.fill [9]).view = [9] ∧ spent4.makeRoom.room = 4 ∧ (spent4.fill [9]).data.length = 4 := by
  decide
/-- zero-length read on a full buffer: view unchanged (the array is doubled all the same) -/
example : (full4.fill []).view = [1, 2, 3, 4] ∧ (full4.fill []).data.length = 8 := by decide
example : mid4.readByte.map (fun p => (p.1, p.2.view)) = some (3, [4]) ∧
    spent4.readByte.map (·.1) = none ∧ (mid4.consume 2).view = [] := by decide

set_option maxRecDepth 100000 in
/-- a legal run on the real 4096-byte buffer, with a zero-length read in the middle -/
example : (exec {} [.fill [65, 66, 67], .readByte, .consume 1, .fill [], .fill [68]]).map
    (fun s => (s.consumed, s.buf.view, s.reads)) =
      some ([65, 66], [67, 68], [[65, 66, 67], [], [68]]) := by
  decide +kernel
set_option maxRecDepth 100000 in
/-- illegal operations are rejected (the hypotheses `exec … = some s` are not trivially true) -/
example : (exec {} [.consume 1]).isNone ∧ (exec {} [.readByte]).isNone ∧
    (exec {} [.fill [1], .consume 2]).isNone := by
  decide +kernel

/-- a 5000-byte offer to the fresh buffer: exactly 4096 bytes are taken; the next `fill` finds
the buffer brim-full and doubles it to 8192 -/
example : (RBuf.init.fill (List.replicate 5000 7)).view = List.replicate 4096 7 ∧
    ((RBuf.init.fill (List.replicate 5000 7)).fill [1, 2]).data.length = 8192 ∧
    ((RBuf.init.fill (List.replicate 5000 7)).fill [1, 2]).view = List.replicate 4096 7 ++ [1, 2] := by
  have hroom : RBuf.init.makeRoom.room = 4096 := by
    rw [makeRoom_room _ init_wf, makeRoom_capacity _ init_wf, init_view, init_capacity]
    simp only [List.length_nil, readBufferSize]
    decide
  have hv : (RBuf.init.fill (List.replicate 5000 7)).view = List.replicate 4096 7 := by
    rw [fill_view _ _ init_wf, init_view, hroom, List.nil_append, List.take_replicate]; rfl
  have hw := fill_wf RBuf.init (List.replicate 5000 7) init_wf
  have hc : (RBuf.init.fill (List.replicate 5000 7)).data.length = 4096 := by
    rw [fill_capacity _ _ init_wf, makeRoom_capacity _ init_wf, init_view, init_capacity]
    simp only [List.length_nil, readBufferSize]
    decide
  have hc2 : ((RBuf.init.fill (List.replicate 5000 7)).fill [1, 2]).data.length = 8192 := by
    rw [fill_capacity _ _ hw, makeRoom_capacity _ hw, hv, hc]
    simp only [List.length_replicate]; decide
  refine ⟨hv, hc2, ?_⟩
  rw [fill_view _ _ hw, hv, makeRoom_room _ hw, ← fill_capacity _ [1, 2] hw, hc2, hv]
  simp only [List.length_replicate]
  congr 1

/-- a 10-byte stream through a capacity-4 buffer with reads of size 10, 10, 1, 0, 100:
compaction twice, one doubling (4 → 8), every byte accounted for -/
example : (execS [1, 2, 3, 4, 5, 6, 7, 8, 9, 10] { buf := empty4 }
      [.read 10, .consume 3, .read 10, .readByte, .read 1, .read 0, .consume 2, .read 100]).map
      (fun o => (o.1, o.2.consumed, o.2.buf.view, o.2.reads, o.2.buf.data.length)) =
    some ([], [1, 2, 3, 4, 5, 6], [7, 8, 9, 10], [[1, 2, 3, 4], [5, 6, 7], [8], [], [9, 10]], 8) := by
  decide +kernel
/-- the same stream when nothing is consumed between reads: two doublings would be needed for
more; here 4 → 8, and the bytes that did not fit stay with the source -/
example : (execS [1, 2, 3, 4, 5, 6, 7, 8, 9, 10] { buf := empty4 } [.read 10, .read 10]).map
      (fun o => (o.1, o.2.buf.view, o.2.buf.data.length)) =
    some ([9, 10], [1, 2, 3, 4, 5, 6, 7, 8], 8) := by decide

/-- `Terminal.Write` of 10 bytes -/
example : terminalWrite [1, 2, 3, 4, 5, 6, 7, 8, 9, 10] [some 3, some 0] = (3, .shortWrite, [1, 2, 3]) := by
  decide
example : terminalWrite [1, 2, 3, 4, 5, 6, 7, 8, 9, 10] [some 3, none, some 4] = (3, .injected, [1, 2, 3]) := by
  decide
example : terminalWrite [1, 2, 3, 4, 5, 6, 7, 8, 9, 10] [some 3, some 4, some 100, none] =
    (10, .nil, [1, 2, 3, 4, 5, 6, 7, 8, 9, 10]) := by decide
/-- an empty slice makes no call at all, so a failing backend is not noticed -/
example : terminalWrite [] [none] = (0, .nil, []) := by decide
example : allPos [some 3, some 4, some 1] := by
  intro x hx
  simp only [List.mem_cons, List.not_mem_nil, or_false] at hx
  rcases hx with rfl | rfl | rfl <;> exact ⟨_, rfl, by decide⟩
/-- `write_injected` / `write_short` apply for every injection index (here index 2) -/
example : terminalWrite [1, 2, 3, 4, 5, 6, 7, 8, 9, 10] ([3, 4].map some ++ none :: []) =
    (7, .injected, [1, 2, 3, 4, 5, 6, 7]) :=
  write_injected _ [3, 4] [] (by decide) (by decide)

/-- quiescent reader states with something pending: a lone ESC, a truncated UTF-8 character -/
example : next [27] = .need ∧ next [0xE2, 0x82] = .need := by decide

/-- data together with an error is delivered (after an empty read); the read after the error
is not made -/
example : (let o := readByteE empty4 [([], false), ([7, 8], true), ([9], false)];
    (o.1, o.2.1.view, o.2.2.1, o.2.2.2)) = (some 7, [8], [([9], false)], [[], [7, 8]]) := by decide
/-- an error without data stops the loop with an error -/
example : (let o := readByteE empty4 [([], false), ([], true), ([9], false)];
    (o.1, o.2.1.view, o.2.2.1, o.2.2.2)) = (none, [], [([9], false)], [[], []]) := by decide

end Examples
end TM.C16

#print axioms TM.C16.view_length
#print axioms TM.C16.view_getElem?
#print axioms TM.C16.makeRoom_view
#print axioms TM.C16.makeRoom_wf
#print axioms TM.C16.makeRoom_room_pos
#print axioms TM.C16.makeRoom_start
#print axioms TM.C16.makeRoom_capacity
#print axioms TM.C16.makeRoom_room
#print axioms TM.C16.makeRoom_capacity_mono
#print axioms TM.C16.fill_view
#print axioms TM.C16.fill_wf
#print axioms TM.C16.fill_capacity
#print axioms TM.C16.fill_nil
#print axioms TM.C16.fill_fits
#print axioms TM.C16.fill_progress
#print axioms TM.C16.readByte_view
#print axioms TM.C16.readByte_none
#print axioms TM.C16.consume_view
#print axioms TM.C16.init_wf
#print axioms TM.C16.init_view
#print axioms TM.C16.init_capacity
#print axioms TM.C16.reader_exactly_once_in_order
#print axioms TM.C16.reader_capacity
#print axioms TM.C16.exec_mono
#print axioms TM.C16.reader_stream_conservation
#print axioms TM.C16.write_all_ok
#print axioms TM.C16.write_all_ok_then_anything
#print axioms TM.C16.write_prefix
#print axioms TM.C16.write_error_reported
#print axioms TM.C16.write_error_sound
#print axioms TM.C16.write_injected
#print axioms TM.C16.write_short
#print axioms TM.C16.write_fuel_suffices
#print axioms TM.C16.tee_exact
#print axioms TM.C16.feed_nil
#print axioms TM.C16.feed_nil_of_empty
#print axioms TM.C16.feedAll_nil_chunk
#print axioms TM.C16.readByteE_conservation
#print axioms TM.C16.readByteE_error_iff
#print axioms TM.C16.readByteE_stops
