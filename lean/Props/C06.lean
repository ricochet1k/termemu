import Proofs.Refine
import Proofs.Lost
import Proofs.Term
import Props.C02
/-!
# C06 — scrolling: SU, SD, IL, DL, the implicit scroll of LF / FF / IND / RI / autowrap, DECSTBM

Model: `TM.Scr.scroll`, `TM.Scr.lineDown`, `TM.Scr.lineUp`, `TM.Scr.setMargins`, `TM.Scr.put`
(`TM/Screen.lean`) and the rows `L M S T r` of `TM.Term.csiPlain`, `.ctl 10`, `.ctl 12`,
`.esc [] 0x44`, `.esc [] 0x4d` of `TM.Term.apply` (`TM/Term.lean`).

All row statements are pointwise on the grid: `g[y]?` is row `y` (`none` past the last row),
so "row `y` after = row `y'` before" carries text and attributes of every cell of the row.
Counts are arbitrary `Int`s (the parser only produces `0 … 2^31-1`), sizes and margins arbitrary.
The only well-formedness facts used are the three conjuncts of `Scr.inv` collected in `RegionOK`
(`grid.length = h`, `top ≤ bot`, `bot < h`); that every operation keeps all of `Scr.inv` is
restated from `C02.scr_ops_inv` (`scroll_inv` … `tokens_inv`).
-/
namespace TM.C06

def RegionOK (s : Scr) : Prop := s.grid.length = s.h ∧ s.top ≤ s.bot ∧ s.bot < s.h

theorem RegionOK_of_inv (s : Scr) (h : s.inv = true) : RegionOK s := by
  obtain ⟨hl, _, g⟩ := (inv_iff_geo s).1 h
  exact ⟨hl, g.top_le, g.bot_lt⟩

/-- Pointwise description of the grid after `scroll y1 y2 d`: `k = min |d| (y2-y1+1)` rows are
    vacated at the leading edge and filled with `b`, every other row of the range is the old row
    `k` places away, rows outside the range are the old rows. -/
def shiftedRow (g : List Row) (b : Row) (y1 y2 : Nat) (d : Int) (y : Nat) : Option Row :=
  if y < y1 ∨ y2 < y then g[y]?
  else if 0 ≤ d then
    (if y < y1 + min d.natAbs (y2 - y1 + 1) then some b else g[y - min d.natAbs (y2 - y1 + 1)]?)
  else
    (if y + min d.natAbs (y2 - y1 + 1) ≤ y2 then g[y + min d.natAbs (y2 - y1 + 1)]? else some b)

/-! ## `Scr.scroll`, row by row and cell by cell -/

theorem scroll_spec (s : Scr) (y1 y2 : Nat) (d : Int) (hlen : s.grid.length = s.h)
    (h12 : y1 ≤ y2) (h2 : y2 < s.h) (y : Nat) :
    (s.scroll y1 y2 d).grid[y]? = shiftedRow s.grid (blankRow s.w s.sty) y1 y2 d y := by
  rw [shiftedRow]
  by_cases c : y1 ≤ y ∧ y ≤ y2
  · rw [if_neg (by omega), scroll_getElem?_in s y1 y2 d hlen (by omega) y c]
  · rw [scroll_outside s y1 y2 d hlen y c, if_pos (by omega)]

/-- `scroll_spec` for an empty range as well: both sides are then the old row -/
theorem scroll_rows (s : Scr) (y1 y2 : Nat) (d : Int) (hlen : s.grid.length = s.h) (h2 : y2 < s.h)
    (y : Nat) :
    (s.scroll y1 y2 d).grid[y]? = shiftedRow s.grid (blankRow s.w s.sty) y1 y2 d y := by
  by_cases h12 : y1 ≤ y2
  · exact scroll_spec s y1 y2 d hlen h12 h2 y
  · rw [scroll_noop s y1 y2 d (by omega), shiftedRow, if_pos (by omega)]

namespace Lemmas

theorem shiftedRow_neg (g : List Row) (b : Row) (y1 y2 : Nat) {n : Int} (hn : 0 ≤ n) (y : Nat) :
    shiftedRow g b y1 y2 (-n) y =
      if y < y1 ∨ y2 < y then g[y]?
      else if y + min n.toNat (y2 - y1 + 1) ≤ y2 then g[y + min n.toNat (y2 - y1 + 1)]?
      else some b := by
  unfold shiftedRow
  rw [show (-n).natAbs = n.toNat by omega]
  by_cases c : y < y1 ∨ y2 < y
  · rw [if_pos c, if_pos c]
  · rw [if_neg c, if_neg c]
    by_cases h0 : n = 0
    · subst h0
      rw [if_pos (by omega), if_neg (by simp; omega), if_pos (by simp; omega)]
      simp
    · rw [if_neg (by omega)]

theorem scroll_congr (s : Scr) (y1 y2 : Nat) {d d' : Int} (hs : 0 ≤ d ↔ 0 ≤ d')
    (hk : min d.natAbs (y2 - y1 + 1) = min d'.natAbs (y2 - y1 + 1)) :
    s.scroll y1 y2 d = s.scroll y1 y2 d' := by
  unfold Scr.scroll
  simp only [hk, ge_iff_le, hs]

theorem scroll_RegionOK (s : Scr) (y1 y2 : Nat) (d : Int) (ok : RegionOK s) :
    RegionOK (s.scroll y1 y2 d) := by
  have f := shift_scroll s y1 y2 d
  unfold RegionOK
  rw [f.len ok.1, f.h, f.top, f.bot]
  exact ok

end Lemmas

open Lemmas

/-- rows above `y1` and below `y2` are never modified — for every count, every range
    (also an invalid one) -/
theorem scroll_frame (s : Scr) (y1 y2 : Nat) (d : Int) (hlen : s.grid.length = s.h) (y : Nat)
    (hy : y < y1 ∨ y2 < y) : (s.scroll y1 y2 d).grid[y]? = s.grid[y]? :=
  scroll_outside s y1 y2 d hlen y (by omega)

theorem scroll_big (s : Scr) (y1 y2 : Nat) (d : Int) (hlen : s.grid.length = s.h)
    (h2 : y2 < s.h) (hd : y2 - y1 + 1 ≤ d.natAbs) (y : Nat) (hy1 : y1 ≤ y) (hy2 : y ≤ y2) :
    (s.scroll y1 y2 d).grid[y]? = some (blankRow s.w s.sty) := by
  rw [scroll_rows s y1 y2 d hlen h2, shiftedRow, if_neg (by omega), Nat.min_eq_right hd]
  split
  · rw [if_pos (by omega)]
  · rw [if_neg (by omega)]

theorem scroll_clamp (s : Scr) (y1 y2 : Nat) (d : Int) (hd : y2 - y1 + 1 ≤ d.natAbs) :
    s.scroll y1 y2 d =
      s.scroll y1 y2 (if 0 ≤ d then ((y2 - y1 + 1 : Nat) : Int) else -((y2 - y1 + 1 : Nat) : Int)) := by
  apply scroll_congr <;> split <;> omega

/-- an empty or out-of-screen row range: nothing happens (Go prints `scroll ys out of order`) -/
theorem scroll_noop (s : Scr) (y1 y2 : Nat) (d : Int) (h : y1 > y2 ∨ y2 ≥ s.h) :
    s.scroll y1 y2 d = s := TM.scroll_noop s y1 y2 d h

theorem scroll_zero (s : Scr) (y1 y2 : Nat) : s.scroll y1 y2 0 = s := TM.scroll_zero s y1 y2

/-- text and attributes intact, blanks in the current attributes: inside the
    range, cell `(x, y)` after the scroll is the old cell `(x, y ∓ k)` (glyph bytes, width mark
    and style, because `Cell` is compared whole) and on a vacated row it is a space carrying
    the current style `s.sty` for every column `x < w` (and there is no cell at `x ≥ w`) -/
theorem scroll_cell (s : Scr) (y1 y2 : Nat) (d : Int) (hlen : s.grid.length = s.h)
    (h2 : y2 < s.h) (x y : Nat) (hy1 : y1 ≤ y) (hy2 : y ≤ y2) :
    ((s.scroll y1 y2 d).row y)[x]? =
      if 0 ≤ d then
        (if y < y1 + min d.natAbs (y2 - y1 + 1)
          then (if x < s.w then some ⟨.ch [0x20] 1, s.sty⟩ else none)
          else (s.row (y - min d.natAbs (y2 - y1 + 1)))[x]?)
      else
        (if y + min d.natAbs (y2 - y1 + 1) ≤ y2
          then (s.row (y + min d.natAbs (y2 - y1 + 1)))[x]?
          else (if x < s.w then some ⟨.ch [0x20] 1, s.sty⟩ else none)) := by
  have bl : (blankRow s.w s.sty)[x]? = if x < s.w then some ⟨.ch [0x20] 1, s.sty⟩ else none := by
    simp [blankRow, blank, List.getElem?_replicate]
  rw [row_eq (s.scroll y1 y2 d), scroll_rows s y1 y2 d hlen h2, shiftedRow, if_neg (by omega)]
  split
  · split
    · exact bl
    · rw [row_eq]
  · split
    · rw [row_eq]
    · exact bl

/-- scroll the range up by `n ≥ 0` (the model is called with `-n`) -/
theorem scroll_up_rows (s : Scr) (y1 y2 : Nat) (n : Int) (hn : 0 ≤ n) (hlen : s.grid.length = s.h)
    (h2 : y2 < s.h) (y : Nat) :
    (s.scroll y1 y2 (-n)).grid[y]? =
      if y < y1 ∨ y2 < y then s.grid[y]?
      else if y + min n.toNat (y2 - y1 + 1) ≤ y2 then s.grid[y + min n.toNat (y2 - y1 + 1)]?
      else some (blankRow s.w s.sty) := by
  rw [scroll_rows s y1 y2 (-n) hlen h2, shiftedRow_neg _ _ _ _ hn]

theorem scroll_down_rows (s : Scr) (y1 y2 : Nat) (n : Int) (hn : 0 ≤ n) (hlen : s.grid.length = s.h)
    (h2 : y2 < s.h) (y : Nat) :
    (s.scroll y1 y2 n).grid[y]? =
      if y < y1 ∨ y2 < y then s.grid[y]?
      else if y < y1 + min n.toNat (y2 - y1 + 1) then some (blankRow s.w s.sty)
      else s.grid[y - min n.toNat (y2 - y1 + 1)]? := by
  rw [scroll_rows s y1 y2 n hlen h2, shiftedRow, if_pos hn, show n.natAbs = n.toNat by omega]

/-! ## `Scr.setMargins` -/

theorem clampNat_spec (v : Int) (hi : Nat) :
    (v ≤ 0 → clampNat v hi = 0) ∧ (0 ≤ v → v ≤ hi → (clampNat v hi : Int) = v) ∧
    ((hi : Int) ≤ v → clampNat v hi = hi) :=
  ⟨(clampNat_of_nonpos · hi), clampNat_cast, clampNat_of_ge⟩

theorem setMargins_attrs (s : Scr) (t b : Int) :
    (s.setMargins t b).w = s.w ∧ (s.setMargins t b).h = s.h ∧ (s.setMargins t b).grid = s.grid ∧
    (s.setMargins t b).cx = s.cx ∧ (s.setMargins t b).cy = s.cy ∧
    (s.setMargins t b).sx = s.sx ∧ (s.setMargins t b).sy = s.sy ∧
    (s.setMargins t b).wrap = s.wrap ∧ (s.setMargins t b).sty = s.sty := by
  rw [setMargins_eq]
  split <;> simp

theorem setMargins_wf (s : Scr) (t b : Int) (h : s.top ≤ s.bot ∧ s.bot < s.h) :
    (s.setMargins t b).top ≤ (s.setMargins t b).bot ∧ (s.setMargins t b).bot < (s.setMargins t b).h := by
  rw [setMargins_eq]
  split
  · exact h
  · have := clampNat_le b (s.h - 1)
    exact ⟨clampNat_mono (by omega) _, by simp only; omega⟩

namespace Lemmas

theorem setMargins_RegionOK (s : Scr) (t b : Int) (ok : RegionOK s) : RegionOK (s.setMargins t b) := by
  obtain ⟨_, fh, fg, _⟩ := setMargins_attrs s t b
  exact ⟨by rw [fg, fh]; exact ok.1, setMargins_wf s t b ok.2⟩

end Lemmas

theorem stbm_inverted_iff (t b : Int) (h : Nat) :
    clampNat t (h - 1) > clampNat b (h - 1) ↔ (max b 0 < t ∧ max b 0 < (h : Int) - 1) := by
  rw [GT.gt, clampNat_lt_iff]; omega

/-- an inverted request is ignored: whenever the top lies below the bottom *as requested*
    (also when both lie beyond the screen, where clamping would make them equal) the screen is
    exactly what it was -/
theorem stbm_inverted_ignored_raw (s : Scr) (t b : Int) (hinv : b < t) : s.setMargins t b = s := by
  rw [setMargins_eq, if_pos hinv]

theorem stbm_inverted_ignored (s : Scr) (t b : Int)
    (hinv : max b 0 < t ∧ max b 0 < (s.h : Int) - 1) : s.setMargins t b = s :=
  stbm_inverted_ignored_raw s t b (by omega)

theorem stbm_sets (s : Scr) (t b : Int) (hle : t ≤ b) :
    (s.setMargins t b).top = clampNat t (s.h - 1) ∧ (s.setMargins t b).bot = clampNat b (s.h - 1) := by
  rw [setMargins_eq, if_neg (by omega)]
  exact ⟨rfl, rfl⟩

/-- the margins change only for requests with `t ≤ b` -/
theorem stbm_ignored_iff (s : Scr) (t b : Int) (hne : (s.top, s.bot) ≠ (clampNat t (s.h - 1), clampNat b (s.h - 1))) :
    s.setMargins t b = s ↔ b < t := by
  refine ⟨fun h => ?_, stbm_inverted_ignored_raw s t b⟩
  by_cases hlt : b < t
  · exact hlt
  · have hs := stbm_sets s t b (by omega)
    rw [h] at hs
    exact absurd (Prod.ext hs.1 hs.2) hne

theorem stbm_valid (s : Scr) (t b : Nat) (h1 : t ≤ b) (h2 : b < s.h) :
    (s.setMargins t b).top = t ∧ (s.setMargins t b).bot = b := by
  rw [(stbm_sets s t b (by omega)).1, (stbm_sets s t b (by omega)).2,
    clampNat_ofNat (by omega), clampNat_ofNat (by omega)]
  exact ⟨rfl, rfl⟩

/-- a bottom beyond the screen means the last row; a top beyond the screen (but not below the
    bottom) gives the one-row region at the last row -/
theorem stbm_out_of_range (s : Scr) (t b : Int) (hb : (s.h : Int) - 1 ≤ b) (hle : t ≤ b) :
    (s.setMargins t b).top = min t.toNat (s.h - 1) ∧ (s.setMargins t b).bot = s.h - 1 := by
  rw [(stbm_sets s t b hle).1, (stbm_sets s t b hle).2, clampNat_eq_min, clampNat_eq_min]
  exact ⟨rfl, by omega⟩

/-! ## `Scr.lineDown`, `Scr.lineUp` -/

namespace Lemmas

theorem lineDown_at_bot {s : Scr} (hc : s.cy = s.bot) : s.lineDown = s.scroll s.top s.bot (-1) :=
  if_pos hc

theorem lineUp_at_top {s : Scr} (hc : s.cy = s.top) : s.lineUp = s.scroll s.top s.bot 1 :=
  if_pos hc

end Lemmas

theorem lineDown_scrolls (s : Scr) (ok : RegionOK s) (hc : s.cy = s.bot) (y : Nat) :
    s.lineDown.cy = s.cy ∧
    s.lineDown.grid.length = s.grid.length ∧
    s.lineDown.grid[y]? =
      if y < s.top ∨ s.bot < y then s.grid[y]?
      else if y < s.bot then s.grid[y + 1]? else some (blankRow s.w s.sty) := by
  rw [lineDown_at_bot hc]
  refine ⟨(scroll_cursor ..).2, (shift_scroll ..).len ok.1, ?_⟩
  rw [scroll_up_rows s _ _ 1 (by omega) ok.1 ok.2.2,
    show min (1 : Int).toNat (s.bot - s.top + 1) = 1 from Nat.min_eq_left (Nat.le_add_left ..)]
  rfl

theorem lineDown_moves (s : Scr) (hc : s.cy ≠ s.bot) :
    s.lineDown.grid = s.grid ∧ s.lineDown.cy = if s.cy + 1 < s.h then s.cy + 1 else s.cy := by
  rw [lineDown_of_ne hc]; exact ⟨rfl, rfl⟩

theorem lineDown_frame (s : Scr) (hlen : s.grid.length = s.h) (y : Nat) (hy : y < s.top ∨ s.bot < y) :
    s.lineDown.grid[y]? = s.grid[y]? :=
  hy.elim ((lost_lineDown s hlen).above y) ((lost_lineDown s hlen).below y)

theorem lineUp_scrolls (s : Scr) (ok : RegionOK s) (hc : s.cy = s.top) (y : Nat) :
    s.lineUp.cy = s.cy ∧
    s.lineUp.grid.length = s.grid.length ∧
    s.lineUp.grid[y]? =
      if y < s.top ∨ s.bot < y then s.grid[y]?
      else if y = s.top then some (blankRow s.w s.sty) else s.grid[y - 1]? := by
  rw [lineUp_at_top hc]
  refine ⟨(scroll_cursor ..).2, (shift_scroll ..).len ok.1, ?_⟩
  rw [scroll_down_rows s _ _ 1 (by omega) ok.1 ok.2.2,
    show min (1 : Int).toNat (s.bot - s.top + 1) = 1 from Nat.min_eq_left (Nat.le_add_left ..)]
  by_cases c : y < s.top ∨ s.bot < y
  · rw [if_pos c, if_pos c]
  · rw [if_neg c, if_neg c]
    by_cases c2 : y = s.top
    · rw [if_pos c2, if_pos (by omega)]
    · rw [if_neg c2, if_neg (by omega)]

theorem lineUp_moves (s : Scr) (hc : s.cy ≠ s.top) :
    s.lineUp.grid = s.grid ∧ s.lineUp.cy = s.cy - 1 := by
  unfold Scr.lineUp
  rw [if_neg hc]
  split
  · exact ⟨rfl, rfl⟩
  · exact ⟨rfl, by omega⟩

theorem lineUp_frame (s : Scr) (hlen : s.grid.length = s.h) (y : Nat) (hy : y < s.top ∨ s.bot < y) :
    s.lineUp.grid[y]? = s.grid[y]? := by
  by_cases hc : s.cy = s.top
  · rw [lineUp_at_top hc]; exact scroll_frame s _ _ _ hlen y hy
  · rw [(lineUp_moves s hc).1]

/-! ## the tokens SU, SD, IL, DL -/

namespace Lemmas

theorem su_dispatch (cw : Nat → Nat) (t : Term) (ps : List Int) :
    Term.apply cw t (.csi 0 ps true 0x53) =
      (t.setScr (t.scr.scroll t.scr.top t.scr.bot (-(p0 ps 1))),
        [.region 0 t.scr.top t.scr.w (t.scr.bot + 1) 2]) := rfl

theorem sd_dispatch (cw : Nat → Nat) (t : Term) (ps : List Int) :
    Term.apply cw t (.csi 0 ps true 0x54) =
      (t.setScr (t.scr.scroll t.scr.top t.scr.bot (p0 ps 1)),
        [.region 0 t.scr.top t.scr.w (t.scr.bot + 1) 2]) := rfl

theorem il_dispatch (cw : Nat → Nat) (t : Term) (ps : List Int) :
    Term.apply cw t (.csi 0 ps true 0x4c) =
      if t.scr.inRegion then
        (t.setScr (t.scr.scroll t.scr.cy t.scr.bot (p0 ps 1)),
          [.region 0 t.scr.cy t.scr.w (t.scr.bot + 1) 2])
      else (t, []) := rfl

theorem dl_dispatch (cw : Nat → Nat) (t : Term) (ps : List Int) :
    Term.apply cw t (.csi 0 ps true 0x4d) =
      if t.scr.inRegion then
        (t.setScr (t.scr.scroll t.scr.cy t.scr.bot (-(p0 ps 1))),
          [.region 0 t.scr.cy t.scr.w (t.scr.bot + 1) 2])
      else (t, []) := rfl

theorem decstbm_dispatch (cw : Nat → Nat) (t : Term) (ps : List Int) :
    Term.apply cw t (.csi 0 ps true 0x72) =
      (t.setScr (t.scr.setMargins (pAt ps 0 1 - 1) (pAt ps 1 t.scr.h - 1)), []) := rfl

/-- what the five sequences do to the terminal: a scroll of the active screen down to the bottom
    margin, new margins, or nothing -/
theorem scroll_ops_cases {Q : Term → Prop} (cw : Nat → Nat) (t : Term) (ps : List Int) (fin : UInt8)
    (hf : fin = 0x4c ∨ fin = 0x4d ∨ fin = 0x53 ∨ fin = 0x54 ∨ fin = 0x72)
    (scroll : ∀ y1 d, Q (t.setScr (t.scr.scroll y1 t.scr.bot d)))
    (margins : ∀ a b, Q (t.setScr (t.scr.setMargins a b))) (none : Q t) :
    Q (Term.apply cw t (.csi 0 ps true fin)).1 := by
  rcases hf with rfl | rfl | rfl | rfl | rfl
  · rw [il_dispatch]; split
    · exact scroll ..
    · exact none
  · rw [dl_dispatch]; split
    · exact scroll ..
    · exact none
  · exact scroll ..
  · exact scroll ..
  · exact margins ..

end Lemmas

/-- `CSI n S` (scroll up) with `n ≥ 0`, `k = min n (region height)`: row `y` of the region is
    the old row `y + k` while that is in the region and blank (current rendition) otherwise; rows
    outside `[top, bot]` are the old rows; cursor, margins, rendition and size stay; the damage
    report names the region. -/
theorem su_rows (cw : Nat → Nat) (t : Term) (ps : List Int) (ok : RegionOK t.scr)
    (hn : 0 ≤ p0 ps 1) (y : Nat) :
    let s := t.scr
    let r := Term.apply cw t (.csi 0 ps true 0x53)
    let s' := r.1.scr
    let k := min (p0 ps 1).toNat (s.bot - s.top + 1)
    s'.grid.length = s.grid.length ∧
    s'.grid[y]? = (if y < s.top ∨ s.bot < y then s.grid[y]?
                   else if y + k ≤ s.bot then s.grid[y + k]? else some (blankRow s.w s.sty)) ∧
    s'.cx = s.cx ∧ s'.cy = s.cy ∧ s'.top = s.top ∧ s'.bot = s.bot ∧ s'.sty = s.sty ∧
    s'.w = s.w ∧ s'.h = s.h ∧
    r.2 = [.region 0 s.top s.w (s.bot + 1) 2] := by
  have f := shift_scroll t.scr t.scr.top t.scr.bot (-(p0 ps 1))
  obtain ⟨fx, fy⟩ := scroll_cursor t.scr t.scr.top t.scr.bot (-(p0 ps 1))
  simp only [su_dispatch, Term.scr_setScr]
  exact ⟨f.len ok.1, scroll_up_rows _ _ _ _ hn ok.1 ok.2.2 y,
    fx, fy, f.top, f.bot, f.sty, f.w, f.h, trivial⟩

/-- `CSI n T` (scroll down) with `n ≥ 0`: the first `k = min n (region height)` rows of the
    region are blank, row `y` below them is the old row `y - k`; everything else as for SU -/
theorem sd_rows (cw : Nat → Nat) (t : Term) (ps : List Int) (ok : RegionOK t.scr)
    (hn : 0 ≤ p0 ps 1) (y : Nat) :
    let s := t.scr
    let r := Term.apply cw t (.csi 0 ps true 0x54)
    let s' := r.1.scr
    let k := min (p0 ps 1).toNat (s.bot - s.top + 1)
    s'.grid.length = s.grid.length ∧
    s'.grid[y]? = (if y < s.top ∨ s.bot < y then s.grid[y]?
                   else if y < s.top + k then some (blankRow s.w s.sty) else s.grid[y - k]?) ∧
    s'.cx = s.cx ∧ s'.cy = s.cy ∧ s'.top = s.top ∧ s'.bot = s.bot ∧ s'.sty = s.sty ∧
    s'.w = s.w ∧ s'.h = s.h ∧
    r.2 = [.region 0 s.top s.w (s.bot + 1) 2] := by
  have f := shift_scroll t.scr t.scr.top t.scr.bot (p0 ps 1)
  obtain ⟨fx, fy⟩ := scroll_cursor t.scr t.scr.top t.scr.bot (p0 ps 1)
  simp only [sd_dispatch, Term.scr_setScr]
  exact ⟨f.len ok.1, scroll_down_rows _ _ _ _ hn ok.1 ok.2.2 y,
    fx, fy, f.top, f.bot, f.sty, f.w, f.h, trivial⟩

/-- `CSI n L` (insert lines) with the cursor inside the region, `n ≥ 0`,
    `k = min n (bot - cy + 1)`: rows `cy … cy+k-1` are blank, row `y` below them (down to `bot`)
    is the old row `y - k`; rows above the cursor row and below the bottom margin are the old
    rows; the cursor does not move. -/
theorem il_rows (cw : Nat → Nat) (t : Term) (ps : List Int) (ok : RegionOK t.scr)
    (hin : t.scr.top ≤ t.scr.cy ∧ t.scr.cy ≤ t.scr.bot) (hn : 0 ≤ p0 ps 1) (y : Nat) :
    let s := t.scr
    let r := Term.apply cw t (.csi 0 ps true 0x4c)
    let s' := r.1.scr
    let k := min (p0 ps 1).toNat (s.bot - s.cy + 1)
    s'.grid.length = s.grid.length ∧
    s'.grid[y]? = (if y < s.cy ∨ s.bot < y then s.grid[y]?
                   else if y < s.cy + k then some (blankRow s.w s.sty) else s.grid[y - k]?) ∧
    s'.cx = s.cx ∧ s'.cy = s.cy ∧ s'.top = s.top ∧ s'.bot = s.bot ∧ s'.sty = s.sty ∧
    s'.w = s.w ∧ s'.h = s.h ∧
    r.2 = [.region 0 s.cy s.w (s.bot + 1) 2] := by
  have f := shift_scroll t.scr t.scr.cy t.scr.bot (p0 ps 1)
  obtain ⟨fx, fy⟩ := scroll_cursor t.scr t.scr.cy t.scr.bot (p0 ps 1)
  simp only [il_dispatch, if_pos ((inRegion_iff _).2 hin), Term.scr_setScr]
  exact ⟨f.len ok.1, scroll_down_rows _ _ _ _ hn ok.1 ok.2.2 y,
    fx, fy, f.top, f.bot, f.sty, f.w, f.h, trivial⟩

/-- `CSI n M` (delete lines) with the cursor inside the region, `n ≥ 0`,
    `k = min n (bot - cy + 1)`: row `y` from the cursor row down is the old row `y + k` while that
    is not below `bot`, the last `k` rows up to `bot` are blank; rows above the cursor row and
    below the bottom margin are the old rows; the cursor does not move. -/
theorem dl_rows (cw : Nat → Nat) (t : Term) (ps : List Int) (ok : RegionOK t.scr)
    (hin : t.scr.top ≤ t.scr.cy ∧ t.scr.cy ≤ t.scr.bot) (hn : 0 ≤ p0 ps 1) (y : Nat) :
    let s := t.scr
    let r := Term.apply cw t (.csi 0 ps true 0x4d)
    let s' := r.1.scr
    let k := min (p0 ps 1).toNat (s.bot - s.cy + 1)
    s'.grid.length = s.grid.length ∧
    s'.grid[y]? = (if y < s.cy ∨ s.bot < y then s.grid[y]?
                   else if y + k ≤ s.bot then s.grid[y + k]? else some (blankRow s.w s.sty)) ∧
    s'.cx = s.cx ∧ s'.cy = s.cy ∧ s'.top = s.top ∧ s'.bot = s.bot ∧ s'.sty = s.sty ∧
    s'.w = s.w ∧ s'.h = s.h ∧
    r.2 = [.region 0 s.cy s.w (s.bot + 1) 2] := by
  have f := shift_scroll t.scr t.scr.cy t.scr.bot (-(p0 ps 1))
  obtain ⟨fx, fy⟩ := scroll_cursor t.scr t.scr.cy t.scr.bot (-(p0 ps 1))
  simp only [dl_dispatch, if_pos ((inRegion_iff _).2 hin), Term.scr_setScr]
  exact ⟨f.len ok.1, scroll_up_rows _ _ _ _ hn ok.1 ok.2.2 y,
    fx, fy, f.top, f.bot, f.sty, f.w, f.h, trivial⟩

/-- IL and DL with the cursor outside the region do nothing at all: the terminal is exactly
    what it was and nothing is reported, whatever the count -/
theorem il_dl_outside (cw : Nat → Nat) (t : Term) (ps : List Int) (fin : UInt8)
    (hf : fin = 0x4c ∨ fin = 0x4d) (hout : t.scr.cy < t.scr.top ∨ t.scr.bot < t.scr.cy) :
    Term.apply cw t (.csi 0 ps true fin) = (t, []) := by
  have hr : ¬ t.scr.inRegion = true := fun h => by have := (inRegion_iff _).1 h; omega
  rcases hf with rfl | rfl
  · rw [il_dispatch, if_neg hr]
  · rw [dl_dispatch, if_neg hr]

/-- an absent count means 1 for all four (an explicit `0` stays `0`: see `count_zero`) -/
theorem count_default (cw : Nat → Nat) (t : Term) (fin : UInt8)
    (hf : fin = 0x4c ∨ fin = 0x4d ∨ fin = 0x53 ∨ fin = 0x54) :
    Term.apply cw t (.csi 0 [] true fin) = Term.apply cw t (.csi 0 [1] true fin) := by
  rcases hf with rfl | rfl | rfl | rfl
  · rw [il_dispatch, il_dispatch]; rfl
  · rw [dl_dispatch, dl_dispatch]; rfl
  · rw [su_dispatch, su_dispatch]; rfl
  · rw [sd_dispatch, sd_dispatch]; rfl

theorem count_zero (cw : Nat → Nat) (t : Term) (fin : UInt8)
    (hf : fin = 0x4c ∨ fin = 0x4d ∨ fin = 0x53 ∨ fin = 0x54) :
    (Term.apply cw t (.csi 0 [0] true fin)).1 = t := by
  have z (y1 : Nat) : t.setScr (t.scr.scroll y1 t.scr.bot 0) = t := by
    rw [scroll_zero, Term.setScr_scr]
  rcases hf with rfl | rfl | rfl | rfl
  · rw [il_dispatch]; split
    · exact z _
    · rfl
  · rw [dl_dispatch]; split
    · exact z _
    · rfl
  · exact z _
  · exact z _

/-- a count at least the region height clears the region — SU and SD, any `n`, however
    large (also beyond `2^31`) -/
theorem su_sd_big (cw : Nat → Nat) (t : Term) (ps : List Int) (fin : UInt8)
    (hf : fin = 0x53 ∨ fin = 0x54) (ok : RegionOK t.scr)
    (hn : ((t.scr.bot - t.scr.top + 1 : Nat) : Int) ≤ p0 ps 1) (y : Nat)
    (hy : t.scr.top ≤ y ∧ y ≤ t.scr.bot) :
    (Term.apply cw t (.csi 0 ps true fin)).1.scr.grid[y]? = some (blankRow t.scr.w t.scr.sty) := by
  rcases hf with rfl | rfl
  · rw [su_dispatch, Term.scr_setScr]
    exact scroll_big _ _ _ _ ok.1 ok.2.2 (by omega) y hy.1 hy.2
  · rw [sd_dispatch, Term.scr_setScr]
    exact scroll_big _ _ _ _ ok.1 ok.2.2 (by omega) y hy.1 hy.2

/-- the same for IL and DL: a count at least `bot - cy + 1` blanks every row from the cursor row
    to the bottom margin -/
theorem il_dl_big (cw : Nat → Nat) (t : Term) (ps : List Int) (fin : UInt8)
    (hf : fin = 0x4c ∨ fin = 0x4d) (ok : RegionOK t.scr)
    (hin : t.scr.top ≤ t.scr.cy ∧ t.scr.cy ≤ t.scr.bot)
    (hn : ((t.scr.bot - t.scr.cy + 1 : Nat) : Int) ≤ p0 ps 1) (y : Nat)
    (hy : t.scr.cy ≤ y ∧ y ≤ t.scr.bot) :
    (Term.apply cw t (.csi 0 ps true fin)).1.scr.grid[y]? = some (blankRow t.scr.w t.scr.sty) := by
  have hr := (inRegion_iff t.scr).2 hin
  rcases hf with rfl | rfl
  · rw [il_dispatch, if_pos hr, Term.scr_setScr]
    exact scroll_big _ _ _ _ ok.1 ok.2.2 (by omega) y hy.1 hy.2
  · rw [dl_dispatch, if_pos hr, Term.scr_setScr]
    exact scroll_big _ _ _ _ ok.1 ok.2.2 (by omega) y hy.1 hy.2

/-- none of SU, SD, IL, DL, DECSTBM touches the inactive buffer or any other terminal state, and
    all keep `RegionOK` of the active buffer — for arbitrary parameters -/
theorem scroll_ops_rest (cw : Nat → Nat) (t : Term) (ps : List Int) (fin : UInt8)
    (hf : fin = 0x4c ∨ fin = 0x4d ∨ fin = 0x53 ∨ fin = 0x54 ∨ fin = 0x72) (ok : RegionOK t.scr) :
    let t' := (Term.apply cw t (.csi 0 ps true fin)).1
    RegionOK t'.scr ∧ t'.onAlt = t.onAlt ∧
    (t.onAlt = true → t'.main = t.main) ∧ (t.onAlt = false → t'.alt = t.alt) ∧
    t'.kmain = t.kmain ∧ t'.kalt = t.kalt ∧ t'.vflags = t.vflags ∧ t'.vints = t.vints ∧
    t'.vstrs = t.vstrs := by
  intro t'
  obtain ⟨s, hs, e⟩ := scroll_ops_cases (Q := fun t' => ∃ s, RegionOK s ∧ t' = t.setScr s) cw t ps fin hf
    (fun _ _ => ⟨_, scroll_RegionOK _ _ _ _ ok, rfl⟩) (fun _ _ => ⟨_, setMargins_RegionOK _ _ _ ok, rfl⟩)
    ⟨_, ok, (Term.setScr_scr t).symm⟩
  rw [show t' = _ from e, Term.scr_setScr]
  exact ⟨hs, t.setScr_onAlt s, fun h => Term.setScr_main_of_alt h s, fun h => Term.setScr_alt_of_main h s,
    t.setScr_kmain s, t.setScr_kalt s, t.setScr_vflags s, t.setScr_vints s, t.setScr_vstrs s⟩

/-! ## the token DECSTBM -/

/-- `CSI r`, `CSI t r`, `CSI t ; b r` never report anything and change nothing but the margins
    of the active buffer (grid and cursor in particular: this emulator does not home the cursor) -/
theorem decstbm_frame (cw : Nat → Nat) (t : Term) (ps : List Int) :
    let s := t.scr
    let r := Term.apply cw t (.csi 0 ps true 0x72)
    let s' := r.1.scr
    r.2 = [] ∧ s'.grid = s.grid ∧ s'.cx = s.cx ∧ s'.cy = s.cy ∧ s'.w = s.w ∧ s'.h = s.h ∧
    s'.sty = s.sty := by
  obtain ⟨fw, fh, fg, fx, fy, _, _, _, fs⟩ :=
    setMargins_attrs t.scr (pAt ps 0 1 - 1) (pAt ps 1 t.scr.h - 1)
  simp only [decstbm_dispatch, Term.scr_setScr]
  exact ⟨trivial, fg, fx, fy, fw, fh, fs⟩

/-- defaults 1 and `h`: `CSI r` selects the whole screen, `CSI a r` the rows from `a` to the
    last one -/
theorem decstbm_default (cw : Nat → Nat) (t : Term) (hpos : 0 < t.scr.h) :
    (Term.apply cw t (.csi 0 [] true 0x72)).1.scr.top = 0 ∧
    (Term.apply cw t (.csi 0 [] true 0x72)).1.scr.bot = t.scr.h - 1 ∧
    ∀ a : Int, 1 ≤ a → a ≤ t.scr.h →
      ((Term.apply cw t (.csi 0 [a] true 0x72)).1.scr.top : Int) = a - 1 ∧
      (Term.apply cw t (.csi 0 [a] true 0x72)).1.scr.bot = t.scr.h - 1 := by
  simp only [decstbm_dispatch, Term.scr_setScr, pAt_nil, pAt_cons_zero, pAt_cons_succ]
  have hs (a : Int) (h1 : 1 ≤ a) (h2 : a ≤ t.scr.h) :=
    stbm_sets t.scr (a - 1) ((t.scr.h : Int) - 1) (by omega)
  refine ⟨?_, ?_, fun a h1 h2 => ?_⟩
  · rw [(hs 1 (by omega) (by omega)).1]; exact clampNat_of_nonpos (by omega) _
  · rw [(hs 1 (by omega) (by omega)).2]; exact clampNat_of_ge (by omega)
  · rw [(hs a h1 h2).1, (hs a h1 h2).2]
    exact ⟨clampNat_cast (by omega) (by omega), clampNat_of_ge (by omega)⟩

/-- a valid pair `1 ≤ a ≤ b ≤ h` (1-based, as on the wire) is installed 0-based -/
theorem decstbm_valid (cw : Nat → Nat) (t : Term) (a b : Int) (h1 : 1 ≤ a) (h2 : a ≤ b)
    (h3 : b ≤ t.scr.h) :
    ((Term.apply cw t (.csi 0 [a, b] true 0x72)).1.scr.top : Int) = a - 1 ∧
    ((Term.apply cw t (.csi 0 [a, b] true 0x72)).1.scr.bot : Int) = b - 1 := by
  have hs := stbm_sets t.scr (a - 1) (b - 1) (by omega)
  simp only [decstbm_dispatch, Term.scr_setScr, pAt_cons_zero, pAt_cons_succ]
  rw [hs.1, hs.2]
  exact ⟨clampNat_cast (by omega) (by omega), clampNat_cast (by omega) (by omega)⟩

/-- an inverted pair is ignored: whenever the requested top lies below the requested
    bottom the terminal is exactly what it was — `CSI 5 ; 3 r` on any screen, and also
    `CSI 30 ; 20 r` on a screen of 5 rows (both beyond the screen) -/
theorem decstbm_inverted (cw : Nat → Nat) (t : Term) (a b : Int) (hinv : b < a) :
    Term.apply cw t (.csi 0 [a, b] true 0x72) = (t, []) := by
  rw [decstbm_dispatch, pAt_cons_zero, pAt_cons_succ, pAt_cons_zero,
    stbm_inverted_ignored_raw _ _ _ (by omega), Term.setScr_scr]

/-- a pair reaching beyond the screen is clamped, not rejected: bottom ≥ h means the last row -/
theorem decstbm_out_of_range (cw : Nat → Nat) (t : Term) (a b : Int)
    (h3 : (t.scr.h : Int) ≤ b) (hle : a ≤ b) :
    (Term.apply cw t (.csi 0 [a, b] true 0x72)).1.scr.top = min (a - 1).toNat (t.scr.h - 1) ∧
    (Term.apply cw t (.csi 0 [a, b] true 0x72)).1.scr.bot = t.scr.h - 1 := by
  simp only [decstbm_dispatch, Term.scr_setScr, pAt_cons_zero, pAt_cons_succ]
  exact stbm_out_of_range _ _ _ (by omega) (by omega)

/-! ## the tokens LF, FF, IND, RI -/

namespace Lemmas

theorem lf_dispatch (cw : Nat → Nat) (t : Term) :
    Term.apply cw t (.ctl 10) = t.withScr ({ t.scr with cx := 0 } : Scr).lineDown := rfl

theorem ind_ff_dispatch (cw : Nat → Nat) (t : Term) (tok : Tok)
    (ht : tok = .ctl 12 ∨ tok = .esc [] 0x44) :
    Term.apply cw t tok = t.withScr t.scr.lineDown := by
  rcases ht with rfl | rfl <;> rfl

theorem ri_dispatch (cw : Nat → Nat) (t : Term) :
    Term.apply cw t (.esc [] 0x4d) = t.withScr t.scr.lineUp := rfl

theorem withScr_scr (t : Term) (s : Scr) : (t.withScr s).1.scr = s := Term.scr_setScr t s

theorem withScr_ev (t : Term) (s : Scr) : (t.withScr s).2 = [.cursor s.cx s.cy] := rfl

end Lemmas

/-- LF on the bottom margin: the region scrolls up one row (row `y` ← old row `y+1`, bottom
    row blank in the current rendition), rows outside the region are the old rows, the cursor goes
    to column 0 of the same row -/
theorem lf_scrolls (cw : Nat → Nat) (t : Term) (ok : RegionOK t.scr) (hc : t.scr.cy = t.scr.bot)
    (y : Nat) :
    let s := t.scr
    let r := Term.apply cw t (.ctl 10)
    let s' := r.1.scr
    s'.cx = 0 ∧ s'.cy = s.cy ∧ s'.grid.length = s.grid.length ∧
    s'.grid[y]? = (if y < s.top ∨ s.bot < y then s.grid[y]?
                   else if y < s.bot then s.grid[y + 1]? else some (blankRow s.w s.sty)) ∧
    s'.top = s.top ∧ s'.bot = s.bot ∧ s'.sty = s.sty ∧ r.2 = [.cursor 0 s.cy] := by
  have f := shift_lineDown ({ t.scr with cx := 0 } : Scr)
  obtain ⟨hy, hl, hg⟩ := lineDown_scrolls ({ t.scr with cx := 0 } : Scr) ok hc y
  simp only [lf_dispatch, withScr_scr, withScr_ev]
  exact ⟨lineDown_cx _, hy, hl, hg, f.top, f.bot, f.sty, by rw [lineDown_cx, hy]⟩

/-- LF anywhere else: no row changes; the cursor goes to column 0 of the next row, or stays
    on its row when that is the last row of the screen -/
theorem lf_moves (cw : Nat → Nat) (t : Term) (hc : t.scr.cy ≠ t.scr.bot) :
    let s := t.scr
    let r := Term.apply cw t (.ctl 10)
    let s' := r.1.scr
    s'.cx = 0 ∧ s'.cy = (if s.cy + 1 < s.h then s.cy + 1 else s.cy) ∧ s'.grid = s.grid ∧
    s'.top = s.top ∧ s'.bot = s.bot ∧ s'.sty = s.sty ∧ r.2 = [.cursor 0 s'.cy] := by
  have f := shift_lineDown ({ t.scr with cx := 0 } : Scr)
  obtain ⟨hg, hy⟩ := lineDown_moves ({ t.scr with cx := 0 } : Scr) hc
  simp only [lf_dispatch, withScr_scr, withScr_ev]
  exact ⟨lineDown_cx _, hy, hg, f.top, f.bot, f.sty, by rw [lineDown_cx]⟩

/-- IND (`ESC D`) and FF on the bottom margin: as LF, the column is kept -/
theorem ind_ff_scrolls (cw : Nat → Nat) (t : Term) (tok : Tok)
    (ht : tok = .ctl 12 ∨ tok = .esc [] 0x44) (ok : RegionOK t.scr) (hc : t.scr.cy = t.scr.bot)
    (y : Nat) :
    let s := t.scr
    let r := Term.apply cw t tok
    let s' := r.1.scr
    s'.cx = s.cx ∧ s'.cy = s.cy ∧ s'.grid.length = s.grid.length ∧
    s'.grid[y]? = (if y < s.top ∨ s.bot < y then s.grid[y]?
                   else if y < s.bot then s.grid[y + 1]? else some (blankRow s.w s.sty)) ∧
    s'.top = s.top ∧ s'.bot = s.bot ∧ s'.sty = s.sty ∧ r.2 = [.cursor s.cx s.cy] := by
  have f := shift_lineDown t.scr
  obtain ⟨hy, hl, hg⟩ := lineDown_scrolls t.scr ok hc y
  simp only [ind_ff_dispatch cw t tok ht, withScr_scr, withScr_ev]
  exact ⟨lineDown_cx _, hy, hl, hg, f.top, f.bot, f.sty, by rw [lineDown_cx, hy]⟩

/-- IND and FF anywhere else: no row changes, the cursor moves down unless on the last row -/
theorem ind_ff_moves (cw : Nat → Nat) (t : Term) (tok : Tok)
    (ht : tok = .ctl 12 ∨ tok = .esc [] 0x44) (hc : t.scr.cy ≠ t.scr.bot) :
    let s := t.scr
    let r := Term.apply cw t tok
    let s' := r.1.scr
    s'.cx = s.cx ∧ s'.cy = (if s.cy + 1 < s.h then s.cy + 1 else s.cy) ∧ s'.grid = s.grid ∧
    s'.top = s.top ∧ s'.bot = s.bot ∧ s'.sty = s.sty ∧ r.2 = [.cursor s.cx s'.cy] := by
  have f := shift_lineDown t.scr
  obtain ⟨hg, hy⟩ := lineDown_moves t.scr hc
  simp only [ind_ff_dispatch cw t tok ht, withScr_scr, withScr_ev]
  exact ⟨lineDown_cx _, hy, hg, f.top, f.bot, f.sty, by rw [lineDown_cx]⟩

/-- RI (`ESC M`) on the top margin: the region scrolls down one row (top row blank in the
    current rendition, row `y` ← old row `y-1`), rows outside the region are the old rows, the
    cursor stays -/
theorem ri_scrolls (cw : Nat → Nat) (t : Term) (ok : RegionOK t.scr) (hc : t.scr.cy = t.scr.top)
    (y : Nat) :
    let s := t.scr
    let r := Term.apply cw t (.esc [] 0x4d)
    let s' := r.1.scr
    s'.cx = s.cx ∧ s'.cy = s.cy ∧ s'.grid.length = s.grid.length ∧
    s'.grid[y]? = (if y < s.top ∨ s.bot < y then s.grid[y]?
                   else if y = s.top then some (blankRow s.w s.sty) else s.grid[y - 1]?) ∧
    s'.top = s.top ∧ s'.bot = s.bot ∧ s'.sty = s.sty ∧ r.2 = [.cursor s.cx s.cy] := by
  have f := shift_lineUp t.scr
  obtain ⟨hy, hl, hg⟩ := lineUp_scrolls t.scr ok hc y
  simp only [ri_dispatch, withScr_scr, withScr_ev]
  exact ⟨lineUp_cx _, hy, hl, hg, f.top, f.bot, f.sty, by rw [lineUp_cx, hy]⟩

/-- RI anywhere else: no row changes, the cursor moves up unless on row 0 -/
theorem ri_moves (cw : Nat → Nat) (t : Term) (hc : t.scr.cy ≠ t.scr.top) :
    let s := t.scr
    let r := Term.apply cw t (.esc [] 0x4d)
    let s' := r.1.scr
    s'.cx = s.cx ∧ s'.cy = s.cy - 1 ∧ s'.grid = s.grid ∧
    s'.top = s.top ∧ s'.bot = s.bot ∧ s'.sty = s.sty ∧ r.2 = [.cursor s.cx (s.cy - 1)] := by
  have f := shift_lineUp t.scr
  obtain ⟨hg, hy⟩ := lineUp_moves t.scr hc
  simp only [ri_dispatch, withScr_scr, withScr_ev]
  exact ⟨lineUp_cx _, hy, hg, f.top, f.bot, f.sty, by rw [lineUp_cx, hy]⟩

/-! ## autowrap (`Scr.put` with DECAWM on)

The model wraps eagerly: a character whose last cell lands on the last column is followed at once
by the `lineDown` (*late wrap*), and a wide character that does not fit in the rest of the row is
preceded by one (*early wrap*). -/

/-- late wrap: writing a character that ends exactly on the last column (cursor not on the second
    half of a wide character under the span policy — that case belongs to C03) is "write the
    row, column 0, `lineDown`" -/
theorem put_autowrap (pol : WidePolicy) (s : Scr) (text : Bytes) (w0 : Nat)
    (hw : s.wrap = true) (hfit : s.cx + max w0 1 = s.w)
    (hk : (contAt (s.row s.cy) s.cx && pol == .keep) = false) :
    s.put pol text w0 =
      ({ s with grid := s.grid.set s.cy ((s.row s.cy).put s.cx text (max w0 1) s.sty), cx := 0 } : Scr).lineDown := by
  have ew := effW_normal (s := s) (w0 := w0) (by omega)
  have et := effText_normal (s := s) (w0 := w0) (by omega) text
  rw [put_of_fit pol s text w0 (by rw [ew]; omega) (keep_false_iff.1 hk), ew, et,
    putFinish_wrap (s := s.setRow _ _) (show ¬ s.cx + max w0 1 < s.w by omega) hw]
  show ({ s with grid := _, cx := s.cx + max w0 1 - s.w } : Scr).lineDown = _
  rw [hfit, Nat.sub_self]
  rfl

/-- autowrap on the bottom margin: the region scrolls up one row carrying the row just
    written (now at `bot - 1` if the region has more than one row), the bottom row is blank in
    the current rendition, rows outside the region are the old rows, the cursor is at column 0 of
    the bottom margin -/
theorem autowrap_scrolls (pol : WidePolicy) (s : Scr) (text : Bytes) (w0 : Nat) (ok : RegionOK s)
    (hw : s.wrap = true) (hfit : s.cx + max w0 1 = s.w)
    (hk : (contAt (s.row s.cy) s.cx && pol == .keep) = false) (hc : s.cy = s.bot) (y : Nat) :
    let s' := s.put pol text w0
    s'.cx = 0 ∧ s'.cy = s.cy ∧ s'.grid.length = s.grid.length ∧
    s'.grid[y]? = (if y < s.top ∨ s.bot < y then s.grid[y]?
                   else if y + 1 < s.bot then s.grid[y + 1]?
                   else if y + 1 = s.bot then some ((s.row s.cy).put s.cx text (max w0 1) s.sty)
                   else some (blankRow s.w s.sty)) ∧
    s'.top = s.top ∧ s'.bot = s.bot ∧ s'.sty = s.sty := by
  intro s'
  have f := shift_lineDown ({ s with
    grid := s.grid.set s.cy ((s.row s.cy).put s.cx text (max w0 1) s.sty), cx := 0 } : Scr)
  obtain ⟨hy, hl, hg⟩ := lineDown_scrolls ({ s with
    grid := s.grid.set s.cy ((s.row s.cy).put s.cx text (max w0 1) s.sty), cx := 0 } : Scr)
    ⟨List.length_set.trans ok.1, ok.2⟩ hc y
  rw [show s' = _ from put_autowrap pol s text w0 hw hfit hk]
  refine ⟨lineDown_cx _, hy, hl.trans List.length_set, hg.trans ?_, f.top, f.bot, f.sty⟩
  dsimp only
  have hb : s.bot < s.grid.length := by rw [ok.1]; exact ok.2.2
  have h12 := ok.2.1
  by_cases c : y < s.top ∨ s.bot < y
  · rw [if_pos c, if_pos c, List.getElem?_set_ne (by omega)]
  · rw [if_neg c, if_neg c]
    by_cases c1 : y + 1 < s.bot
    · rw [if_pos c1, if_pos (by omega), List.getElem?_set_ne (by omega)]
    · rw [if_neg c1]
      by_cases c2 : y + 1 = s.bot
      · rw [if_pos c2, if_pos (by omega), c2, ← hc, List.getElem?_set_self (by omega)]
      · rw [if_neg c2, if_neg (by omega)]

/-- autowrap anywhere else: only the written row changes, nothing scrolls; the cursor goes to
    column 0 of the next row (or stays on the last row of the screen) -/
theorem autowrap_moves (pol : WidePolicy) (s : Scr) (text : Bytes) (w0 : Nat)
    (hw : s.wrap = true) (hfit : s.cx + max w0 1 = s.w)
    (hk : (contAt (s.row s.cy) s.cx && pol == .keep) = false) (hc : s.cy ≠ s.bot) :
    let s' := s.put pol text w0
    s'.cx = 0 ∧ s'.cy = (if s.cy + 1 < s.h then s.cy + 1 else s.cy) ∧
    s'.grid = s.grid.set s.cy ((s.row s.cy).put s.cx text (max w0 1) s.sty) := by
  intro s'
  have m := lineDown_moves ({ s with
    grid := s.grid.set s.cy ((s.row s.cy).put s.cx text (max w0 1) s.sty), cx := 0 } : Scr) hc
  rw [show s' = _ from put_autowrap pol s text w0 hw hfit hk]
  exact ⟨lineDown_cx _, m.2, m.1⟩

/-- early wrap: a character that fits on the screen but not in the rest of the row is written
    after a `lineDown` from column 0 — so the scroll it may cause is the one of `lineDown_scrolls`
    and happens before the write -/
theorem put_early_wrap (pol : WidePolicy) (s : Scr) (text : Bytes) (w0 : Nat)
    (hw : s.wrap = true) (hfit : max w0 1 ≤ s.w) (hover : s.cx + max w0 1 > s.w) :
    s.put pol text w0 = (({ s with cx := 0 } : Scr).lineDown).put pol text w0 := by
  have ew := effW_normal hfit
  have := (put_putPre pol s text w0 (by omega)).1
  rwa [putPre_wrap (by rw [ew]; exact hover) hw] at this

/-- frame for output with autowrap — every policy, every character width, wrap on or off,
    early or late wrap: a row outside the scrolling region that is neither the cursor row nor the
    one below it (the only rows a character can be written to) is never modified, and the number
    of rows never changes -/
theorem put_frame (pol : WidePolicy) (s : Scr) (text : Bytes) (w0 : Nat)
    (hlen : s.grid.length = s.h) (y : Nat) (hy : y < s.top ∨ s.bot < y)
    (hy1 : y ≠ s.cy) (hy2 : y ≠ s.cy + 1) :
    (s.put pol text w0).grid[y]? = s.grid[y]? ∧
    (s.put pol text w0).grid.length = s.grid.length := by
  -- the row written is the cursor row or, after an early wrap, the one below: not row `y`
  have pc := (s.putPre_wrapped (Scr.effW s w0)).cy
  exact ⟨(lost_putSteps pol s text w0 hlen).1 y hy (by omega), put_grid_length pol s text w0 hlen⟩

/-- with DECAWM off nothing ever scrolls on output: every row but the cursor row is the old
    row and the cursor stays on its row -/
theorem put_nowrap_frame (pol : WidePolicy) (s : Scr) (text : Bytes) (w0 : Nat)
    (hw : s.wrap = false) (y : Nat) (hy : y ≠ s.cy) :
    (s.put pol text w0).grid[y]? = s.grid[y]? ∧ (s.put pol text w0).cy = s.cy := by
  -- `putPre`, `putFinish` leave grid and `cy` alone (`Scr.Wrapped.nowrap`): only `setRow cy` acts
  have pw : (Scr.putPre s (Scr.effW s w0)).wrap = false :=
    (s.putPre_wrapped (Scr.effW s w0)).shift.wrap.trans hw
  have pg := (s.putPre_wrapped (Scr.effW s w0)).nowrap hw
  rw [put_eq]
  generalize Scr.putPre s (Scr.effW s w0) = s1 at *
  generalize Scr.putRow pol s1 _ _ = r
  generalize Scr.putX pol s1 _ = x
  have fg := (Scr.putFinish_wrapped (s1.setRow s1.cy r) x).nowrap pw
  rw [fg.1, fg.2]
  show (s1.grid.set s1.cy r)[y]? = _ ∧ s1.cy = _
  rw [List.getElem?_set_ne (by omega), pg.1]
  exact ⟨rfl, pg.2⟩

/-! ## every operation keeps `Scr.inv` -/

theorem scroll_inv (s : Scr) (y1 y2 : Nat) (d : Int) (h : s.inv = true) :
    (s.scroll y1 y2 d).inv = true := (C02.scr_ops_inv s h).1 y1 y2 d

theorem lineDown_inv (s : Scr) (h : s.inv = true) : s.lineDown.inv = true :=
  (C02.scr_ops_inv s h).2.1

theorem lineUp_inv (s : Scr) (h : s.inv = true) : s.lineUp.inv = true :=
  (C02.scr_ops_inv s h).2.2.1

theorem setMargins_inv (s : Scr) (t b : Int) (h : s.inv = true) : (s.setMargins t b).inv = true :=
  have ⟨_, _, _, _, _, margins, _⟩ := C02.scr_ops_inv s h
  margins t b

/-- every token of this property keeps the invariant of the active buffer: SU, SD, IL, DL,
    DECSTBM with arbitrary parameter lists, LF, FF, IND, RI -/
theorem tokens_inv (cw : Nat → Nat) (t : Term) (tok : Tok)
    (ht : (∃ ps fin, (fin = 0x4c ∨ fin = 0x4d ∨ fin = 0x53 ∨ fin = 0x54 ∨ fin = 0x72) ∧
              tok = .csi 0 ps true fin) ∨
          tok = .ctl 10 ∨ tok = .ctl 12 ∨ tok = .esc [] 0x44 ∨ tok = .esc [] 0x4d)
    (h : t.scr.inv = true) : (Term.apply cw t tok).1.scr.inv = true := by
  rcases ht with ⟨ps, fin, hf, rfl⟩ | rfl | rfl | rfl | rfl
  · refine scroll_ops_cases (Q := fun t' => t'.scr.inv = true) cw t ps fin hf (fun _ _ => ?_)
      (fun _ _ => ?_) h
    · rw [Term.scr_setScr]; exact scroll_inv _ _ _ _ h
    · rw [Term.scr_setScr]; exact setMargins_inv _ _ _ h
  · rw [lf_dispatch, withScr_scr]
    exact lineDown_inv _ (inv_cx h (geo_of_inv h).w_pos)
  · rw [ind_ff_dispatch cw t _ (.inl rfl), withScr_scr]; exact lineDown_inv _ h
  · rw [ind_ff_dispatch cw t _ (.inr rfl), withScr_scr]; exact lineDown_inv _ h
  · rw [ri_dispatch, withScr_scr]; exact lineUp_inv _ h

/-! ## non-vacuity: a 3-column, 5-row screen with rows `a`…`e`, margins 1..3 (0-based) -/

namespace Demo

def rowOf (c : UInt8) : Row := List.replicate 3 ⟨.ch [c] 1, Style.default⟩
def bl : Row := blankRow 3 Style.default

/-- cursor on the bottom margin, last column, DECAWM on -/
def demo : Scr :=
  { Scr.init 3 5 with grid := [rowOf 0x61, rowOf 0x62, rowOf 0x63, rowOf 0x64, rowOf 0x65],
                      top := 1, bot := 3, cx := 2, cy := 3, wrap := true }
/-- the same with the cursor above the region -/
def demoOut : Scr := { demo with cy := 0 }
def demoT : Term := { Term.init .blank 3 5 with main := demo }
def demoOutT : Term := { Term.init .keep 3 5 with main := demoOut }
def cw1 : Nat → Nat := fun _ => 1

example : demo.inv = true := by decide
example : demoOut.inv = true := by decide
example : RegionOK demoT.scr := RegionOK_of_inv _ (by decide)

-- the model computes what the theorems say
example : (demo.scroll 1 3 (-1)).grid = [rowOf 0x61, rowOf 0x63, rowOf 0x64, bl, rowOf 0x65] := by decide
example : (demo.scroll 1 3 2).grid = [rowOf 0x61, bl, bl, rowOf 0x62, rowOf 0x65] := by decide
example : (demo.scroll 1 3 3).grid = [rowOf 0x61, bl, bl, bl, rowOf 0x65] := by decide
example : (demo.scroll 1 3 (-2147483647)).grid = [rowOf 0x61, bl, bl, bl, rowOf 0x65] := by decide
example : demo.scroll 1 3 0 = demo := by decide
example : demo.scroll 3 1 1 = demo ∧ demo.scroll 1 5 1 = demo := by decide
example : (Term.apply cw1 demoT (.csi 0 [2] true 0x53)).1.scr.grid =
    [rowOf 0x61, rowOf 0x64, bl, bl, rowOf 0x65] := by decide
example : (Term.apply cw1 demoT (.csi 0 [] true 0x54)).1.scr.grid =
    [rowOf 0x61, bl, rowOf 0x62, rowOf 0x63, rowOf 0x65] := by decide
example : (Term.apply cw1 demoT (.csi 0 [1] true 0x4c)).1.scr.grid =
    [rowOf 0x61, rowOf 0x62, rowOf 0x63, bl, rowOf 0x65] := by decide
example : (Term.apply cw1 demoOutT (.csi 0 [1] true 0x4d)).1.scr = demoOut := by decide
example : (Term.apply cw1 demoT (.ctl 10)).1.scr.grid =
    [rowOf 0x61, rowOf 0x63, rowOf 0x64, bl, rowOf 0x65] := by decide
example : (Term.apply cw1 demoT (.esc [] 0x4d)).1.scr.grid = demo.grid := by decide
example : (Term.apply cw1 demoT (.csi 0 [4, 2] true 0x72)).1.scr = demo := by decide
example : ((Term.apply cw1 demoT (.csi 0 [2, 3] true 0x72)).1.scr.top,
           (Term.apply cw1 demoT (.csi 0 [2, 3] true 0x72)).1.scr.bot) = (1, 2) := by decide
-- inverted although both margins lie beyond the screen: ignored (the margins stay 1..3)
example : ((Term.apply cw1 demoT (.csi 0 [9, 7] true 0x72)).1.scr.top,
           (Term.apply cw1 demoT (.csi 0 [9, 7] true 0x72)).1.scr.bot) = (1, 3) := by decide
example : ((Term.apply cw1 demoT (.csi 0 [7, 9] true 0x72)).1.scr.top,
           (Term.apply cw1 demoT (.csi 0 [7, 9] true 0x72)).1.scr.bot) = (4, 4) := by decide
example : (Term.apply cw1 demoT (.text [0x78] 0x78)).1.scr.grid =
    [rowOf 0x61, rowOf 0x63,
     [⟨.ch [0x64] 1, Style.default⟩, ⟨.ch [0x64] 1, Style.default⟩, ⟨.ch [0x78] 1, Style.default⟩],
     bl, rowOf 0x65] := by decide

-- the hypotheses of the theorems hold on these states (the theorems are not vacuous)
example := scroll_spec demo 1 3 (-2) (by decide) (by decide) (by decide) 2
example := scroll_big demo 1 3 (-5) (by decide) (by decide) (by decide) 2 (by decide) (by decide)
example := scroll_cell demo 1 3 1 (by decide) (by decide) 0 2 (by decide) (by decide)
example := su_rows cw1 demoT [2] (RegionOK_of_inv _ (by decide)) (by decide) 1
example := sd_rows cw1 demoT [] (RegionOK_of_inv _ (by decide)) (by decide) 2
example := il_rows cw1 demoT [1] (RegionOK_of_inv _ (by decide)) (by decide) (by decide) 3
example := dl_rows cw1 demoT [7] (RegionOK_of_inv _ (by decide)) (by decide) (by decide) 3
example := il_dl_outside cw1 demoOutT [3] 0x4c (Or.inl rfl) (by decide)
example := su_sd_big cw1 demoT [2147483647] 0x53 (Or.inl rfl) (RegionOK_of_inv _ (by decide))
  (by decide) 2 (by decide)
example := il_dl_big cw1 demoT [1] 0x4d (Or.inr rfl) (RegionOK_of_inv _ (by decide)) (by decide)
  (by decide) 3 (by decide)
example := stbm_inverted_ignored demo 3 1 (by decide)
example := decstbm_inverted cw1 demoT 4 2 (by decide)
example := decstbm_valid cw1 demoT 2 3 (by decide) (by decide) (by decide)
example := decstbm_out_of_range cw1 demoT 7 9 (by decide) (by decide)
example := lineDown_scrolls demo (RegionOK_of_inv _ (by decide)) (by decide) 2
example := lineDown_moves demoOut (by decide)
example := lineUp_scrolls { demo with cy := 1 } (RegionOK_of_inv _ (by decide)) (by decide) 2
example := lineUp_moves demo (by decide)
example := lf_scrolls cw1 demoT (RegionOK_of_inv _ (by decide)) (by decide) 2
example := lf_moves cw1 demoOutT (by decide)
example := ind_ff_scrolls cw1 demoT (.esc [] 0x44) (Or.inr rfl) (RegionOK_of_inv _ (by decide)) (by decide) 2
example := ri_scrolls cw1 { demoT with main := { demo with cy := 1 } } (RegionOK_of_inv _ (by decide))
  (by decide) 1
example := ri_moves cw1 demoT (by decide)
example := autowrap_scrolls .blank demo [0x78] 1 (RegionOK_of_inv _ (by decide)) (by decide)
  (by decide) (by decide) (by decide) 2
example := autowrap_moves .keep { demoOut with cx := 1 } [0xe4, 0xb8, 0x96] 2 (by decide) (by decide)
  (by decide) (by decide)
example := put_early_wrap .keep demo [0xe4, 0xb8, 0x96] 2 (by decide) (by decide) (by decide)
example := put_frame .keep demo [0xe4, 0xb8, 0x96] 2 (by decide) 0 (by decide) (by decide) (by decide)
example := put_nowrap_frame .keep { demo with wrap := false } [0x78] 1 (by decide) 1 (by decide)

end Demo

end TM.C06

#print axioms TM.C06.scroll_noop
#print axioms TM.C06.scroll_spec
#print axioms TM.C06.scroll_rows
#print axioms TM.C06.scroll_frame
#print axioms TM.C06.scroll_zero
#print axioms TM.C06.scroll_big
#print axioms TM.C06.scroll_clamp
#print axioms TM.C06.scroll_cell
#print axioms TM.C06.scroll_up_rows
#print axioms TM.C06.scroll_down_rows
#print axioms TM.C06.setMargins_attrs
#print axioms TM.C06.setMargins_wf
#print axioms TM.C06.stbm_inverted_iff
#print axioms TM.C06.stbm_inverted_ignored
#print axioms TM.C06.stbm_inverted_ignored_raw
#print axioms TM.C06.stbm_ignored_iff
#print axioms TM.C06.stbm_sets
#print axioms TM.C06.stbm_valid
#print axioms TM.C06.stbm_out_of_range
#print axioms TM.C06.lineDown_scrolls
#print axioms TM.C06.lineDown_moves
#print axioms TM.C06.lineDown_frame
#print axioms TM.C06.lineUp_scrolls
#print axioms TM.C06.lineUp_moves
#print axioms TM.C06.lineUp_frame
#print axioms TM.C06.su_rows
#print axioms TM.C06.sd_rows
#print axioms TM.C06.il_rows
#print axioms TM.C06.dl_rows
#print axioms TM.C06.il_dl_outside
#print axioms TM.C06.count_default
#print axioms TM.C06.count_zero
#print axioms TM.C06.su_sd_big
#print axioms TM.C06.il_dl_big
#print axioms TM.C06.scroll_ops_rest
#print axioms TM.C06.decstbm_frame
#print axioms TM.C06.decstbm_default
#print axioms TM.C06.decstbm_valid
#print axioms TM.C06.decstbm_inverted
#print axioms TM.C06.decstbm_out_of_range
#print axioms TM.C06.lf_scrolls
#print axioms TM.C06.lf_moves
#print axioms TM.C06.ind_ff_scrolls
#print axioms TM.C06.ind_ff_moves
#print axioms TM.C06.ri_scrolls
#print axioms TM.C06.ri_moves
#print axioms TM.C06.autowrap_scrolls
#print axioms TM.C06.autowrap_moves
#print axioms TM.C06.put_early_wrap
#print axioms TM.C06.put_frame
#print axioms TM.C06.put_nowrap_frame
#print axioms TM.C06.scroll_inv
#print axioms TM.C06.lineDown_inv
#print axioms TM.C06.lineUp_inv
#print axioms TM.C06.setMargins_inv
#print axioms TM.C06.tokens_inv
