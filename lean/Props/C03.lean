import TM.Term
import Props.C02
import Proofs.Refine
import Proofs.RowIns
/-!
# C03 — printable characters: storage, cursor advance, autowrap, wide characters

"Each printable character is stored in the cell(s) starting at the cursor with the current
attributes and advances the cursor by its cell width, leaving all other cells unchanged. At the
right edge it continues on the next row (scrolling at the bottom of the scroll region) when
autowrap is on, and keeps overwriting the last column when autowrap is off; a wide character is
never left half-visible."

Model: `TM.Scr.put` (`TM/Screen.lean`), built from `Row.put` / `Row.putKeep`, `Scr.lineDown`,
`Scr.scroll`; `Term.apply` on `Tok.text` calls it on the active screen (`apply_text`).

Everything is stated for every row / screen / text / nominal width / size; well-formedness enters
only as `rowWF r = true` or `s.inv = true`.

The sections: §1 `Row.put` cell by cell; §2 the character fits after the cursor; §3 it does not
fit (reduced to §2); §4 what `Scr.put` leaves alone and where its rows come from; §5 when the two
buffer policies agree; §6 the screen invariant; §7 the span policy on a continuation cell
(`Row.putKeep`), for characters of every width; §8 `Tok.text`.

`effW s w0` / `effText s text w0` are the width and bytes really used: `max w0 1` and `text`,
or `1` and U+FFFD when `max w0 1 > s.w` (`effW_normal`, `effText_normal` in `Proofs/Put`).
-/
namespace TM.C03

/-- the character covering cell `i` of `r` is cut by the column boundary `c`: it starts before
    column `c` and extends past it (only a wide character can be) -/
def cutBy (r : Row) (i c : Nat) : Prop :=
  headOf r i < c ∧ c < headOf r i + widthAt r (headOf r i)

instance (r : Row) (i c : Nat) : Decidable (cutBy r i c) := by unfold cutBy; infer_instance

namespace Lemmas

theorem headOf_congr {r r' : Row} {x : Nat}
    (h : ∀ j, headOf r x ≤ j → j ≤ x → r'[j]? = r[j]?) : headOf r' x = headOf r x :=
  TM.headOf_congr fun j a b => contAt_congr (h j a b)

theorem widthAt_pos (r : Row) (x : Nat) : 1 ≤ widthAt r x := TM.widthAt_pos r x

theorem wf_head {r : Row} (hwf : rowWF r = true) {x : Nat} (hx : x < r.length) :
    ∃ t w st, r[headOf r x]? = some ⟨.ch t w, st⟩ ∧ 1 ≤ w ∧ x < headOf r x + w ∧
      headOf r x + w ≤ r.length ∧ widthAt r (headOf r x) = w := by
  obtain ⟨t, w, st, hch, h1, h2, h3, _⟩ := TM.wf_head hwf hx
  exact ⟨t, w, st, hch, h1, h2, h3, wf_widthAt hwf hch⟩

/-! ### `blankRange`, `fixAt`, `blankStraddlers` cell by cell; `cutBy` -/

theorem getElem?_blankRange {r : Row} {a n i : Nat} {st : Style} (hi : i < r.length) :
    (blankRange r a n st)[i]? = if a ≤ i ∧ i < a + n then some (blank st) else r[i]? := by
  rw [TM.getElem?_blankRange]
  exact ite_congr (propext ⟨fun h => ⟨h.1, h.2.1⟩, fun h => ⟨h.1, h.2, hi⟩⟩) (fun _ => rfl)
    (fun _ => rfl)

theorem blankStraddlers_eq (r : Row) (a b : Nat) (st : Style) :
    blankStraddlers r a b st = fixAt (fixAt r a st) b st := rfl

theorem fixAt_of_not_cont {r : Row} {c : Nat} {st : Style} (h : contAt r c = false) : fixAt r c st = r :=
  Row.fixAt_of_not_cont h

theorem fixAt_of_cont {r : Row} {c : Nat} {st : Style} (h : contAt r c = true) :
    fixAt r c st = blankRange r (headOf r c) (widthAt r (headOf r c)) st :=
  Row.fixAt_of_cont h

theorem length_fixAt (r : Row) (c : Nat) (st : Style) : (fixAt r c st).length = r.length :=
  Row.fixAt_length r c st

theorem getElem?_fixAt {r : Row} {c i : Nat} {st : Style} (hi : i < r.length) :
    (fixAt r c st)[i]? = if Row.inCut r c i then some (blank st) else r[i]? := by
  rw [Row.getElem?_fixAt]
  exact ite_congr (propext ⟨fun h => h.1, fun h => ⟨h, hi⟩⟩) (fun _ => rfl) (fun _ => rfl)

theorem cutBy_iff {r : Row} (hwf : rowWF r = true) {c i : Nat} (hi : i < r.length) :
    cutBy r i c ↔ (contAt r c = true ∧ headOf r c = headOf r i) := by
  constructor
  · intro ⟨h1, h2⟩
    obtain ⟨t, w, st, hch, _, hx, _, hw⟩ := wf_head hwf hi
    rw [hw] at h2
    exact ⟨(wf_ch hwf hch).2.2.1 c h1 h2, wf_headOf_eq hwf hch (by omega) h2⟩
  · intro ⟨hc, e⟩
    obtain ⟨_, w, _, _, _, hw, hlt, hcw, _⟩ := wf_cut hwf hc
    unfold cutBy
    rw [← e, hw]; exact ⟨hlt, hcw⟩

theorem inChar_iff_cutBy {r : Row} (hwf : rowWF r = true) {c i : Nat} (hi : i < r.length) :
    Row.inCut r c i ↔ cutBy r i c := by
  rw [cutBy_iff hwf hi]
  constructor
  · intro ⟨hc, h1, h2⟩
    obtain ⟨_, w, _, hch, _, hw, _⟩ := wf_cut hwf hc
    exact ⟨hc, (wf_headOf_eq hwf hch h1 (hw ▸ h2)).symm⟩
  · intro ⟨hc, e⟩
    obtain ⟨_, _, _, _, _, hx, _, hw⟩ := wf_head hwf hi
    exact ⟨hc, e ▸ headOf_le r i, by rw [e, hw]; exact hx⟩

theorem getElem?_blankStraddlers_cutBy {r : Row} (hwf : rowWF r = true) {a b i : Nat} {st : Style}
    (hi : i < r.length) :
    (blankStraddlers r a b st)[i]? =
      if cutBy r i a ∨ cutBy r i b then some (blank st) else r[i]? := by
  rw [TM.getElem?_blankStraddlers hwf]
  exact ite_congr (propext (or_congr (inChar_iff_cutBy hwf hi) (inChar_iff_cutBy hwf hi)))
    (fun _ => rfl) (fun _ => rfl)

/-! ### preservation of `rowWF` -/

/-- blanking all cells of one whole character keeps the row well formed -/
theorem wf_blank_char {r r' : Row} (hwf : rowWF r = true) {h : Nat} {t : Bytes} {w : Nat} {s st : Style}
    (hch : r[h]? = some ⟨.ch t w, s⟩) (hlen : r'.length = r.length)
    (hr' : ∀ j, j < r.length → r'[j]? = if h ≤ j ∧ j < h + w then some (blank st) else r[j]?) :
    rowWF r' = true := by
  obtain ⟨_, hl, _, hend⟩ := wf_ch hwf hch
  have e : r' = blankRange r h w st := List.ext_getElem? fun j => by
    by_cases hj : j < r.length
    · rw [hr' j hj, getElem?_blankRange hj]
    · rw [List.getElem?_eq_none (by omega), List.getElem?_eq_none (by rw [blankRange_length]; omega)]
  rw [e]
  exact closed_wf.blankRange trivial trivial hwf (contAt_ch hch) hend hl

theorem fixAt_wf {r : Row} (hwf : rowWF r = true) (c : Nat) (st : Style) : rowWF (fixAt r c st) = true :=
  rowWF_fixAt hwf c st

theorem contAt_fixAt_self {r : Row} (hwf : rowWF r = true) (c : Nat) (st : Style) :
    contAt (fixAt r c st) c = false := Row.contAt_fixAt_self hwf c st

theorem contAt_blankStraddlers_left {r : Row} (hwf : rowWF r = true) (a b : Nat) (st : Style) :
    contAt (blankStraddlers r a b st) a = false := (C02.blankStraddlers_rowWF r a b st hwf).2.1

theorem contAt_blankStraddlers_right {r : Row} (hwf : rowWF r = true) (a b : Nat) (st : Style) :
    contAt (blankStraddlers r a b st) b = false := (C02.blankStraddlers_rowWF r a b st hwf).2.2

/-! ### `setRange`, `charCells` -/

theorem length_charCells (text : Bytes) (w : Nat) (st : Style) (hw : 1 ≤ w) :
    (charCells text w st).length = w :=
  charCells_length_pos text hw st

theorem getElem?_setRange {r : Row} {a i : Nat} {cells : List Cell} (hi : i < r.length) :
    (setRange r a cells)[i]? =
      if a ≤ i ∧ i < a + cells.length then cells[i - a]? else r[i]? := by
  rw [TM.getElem?_setRange]
  exact ite_congr (propext ⟨fun h => ⟨h.1, h.2.1⟩, fun h => ⟨h.1, h.2, hi⟩⟩) (fun _ => rfl)
    (fun _ => rfl)

theorem getElem?_charCells (text : Bytes) (w : Nat) (st : Style) (k : Nat) (hk : k < w) :
    (charCells text w st)[k]? = some (if k = 0 then ⟨.ch text w, st⟩ else ⟨.cont, st⟩) := by
  rw [TM.getElem?_charCells]
  by_cases h0 : k = 0
  · rw [if_pos h0, if_pos h0]
  · rw [if_neg h0, if_pos hk, if_neg h0]

end Lemmas
open Lemmas

/-! ## 1. Row level: `Row.put` -/

theorem Row.put_length (r : Row) (x : Nat) (text : Bytes) (w : Nat) (st : Style) :
    (Row.put r x text w st).length = r.length := TM.put_length r x text w st

theorem Row.put_head (r : Row) (x : Nat) (text : Bytes) (w : Nat) (st : Style) (hx : x < r.length) :
    (Row.put r x text w st)[x]? = some ⟨.ch text w, st⟩ := by
  rw [getElem?_put, if_pos ⟨Nat.le_refl _, by omega, hx⟩, if_pos rfl]

theorem Row.put_tail (r : Row) (x : Nat) (text : Bytes) (w : Nat) (st : Style) (k : Nat)
    (h1 : x < k) (h2 : k < x + w) (hk : k < r.length) :
    (Row.put r x text w st)[k]? = some ⟨.cont, st⟩ := by
  rw [getElem?_put, if_pos ⟨by omega, by omega, hk⟩, if_neg (by omega)]

theorem Row.put_outside (r : Row) (x : Nat) (text : Bytes) (w : Nat) (st : Style) (hw : 1 ≤ w) (i : Nat)
    (hout : i < x ∨ x + w ≤ i) :
    (Row.put r x text w st)[i]? = (blankStraddlers r x (x + w) st)[i]? := by
  rw [getElem?_put, if_neg (by omega)]

/-- **C03 row level, other cells.** A cell outside `[x, x+w)` is unchanged, unless the (wide)
    character covering it is cut by column `x` or by column `x+w`; then it becomes a blank in the
    given style. (`Lemmas.cutBy_iff`: under `rowWF`, `cutBy r i c` says exactly that column `c` is
    a continuation cell of the character covering cell `i`.) -/
theorem Row.put_other (r : Row) (x : Nat) (text : Bytes) (w : Nat) (st : Style)
    (hwf : rowWF r = true) (hw : 1 ≤ w) (i : Nat) (hi : i < r.length) (hout : i < x ∨ x + w ≤ i) :
    (Row.put r x text w st)[i]? =
      if cutBy r i x ∨ cutBy r i (x + w) then some (blank st) else r[i]? := by
  rw [Row.put_outside r x text w st hw i hout, getElem?_blankStraddlers_cutBy hwf hi]

/-- the same without any well-formedness assumption, when neither edge of the written range
    is a continuation cell: every other cell is unchanged -/
theorem Row.put_other_clean (r : Row) (x : Nat) (text : Bytes) (w : Nat) (st : Style)
    (hl : contAt r x = false) (hr : contAt r (x + w) = false) (hw : 1 ≤ w) (i : Nat)
    (hout : i < x ∨ x + w ≤ i) :
    (Row.put r x text w st)[i]? = r[i]? := by
  rw [Row.put_outside r x text w st hw i hout, blankStraddlers_clean hl hr]

/-- **C03 row level, all cells at once.** -/
theorem Row.put_cell (r : Row) (x : Nat) (text : Bytes) (w : Nat) (st : Style)
    (hwf : rowWF r = true) (hw : 1 ≤ w) (i : Nat) (hi : i < r.length) :
    (Row.put r x text w st)[i]? =
      if i = x then some ⟨.ch text w, st⟩
      else if x < i ∧ i < x + w then some ⟨.cont, st⟩
      else if cutBy r i x ∨ cutBy r i (x + w) then some (blank st)
      else r[i]? := by
  by_cases h1 : i = x
  · rw [if_pos h1, h1]; exact Row.put_head r x text w st (by omega)
  · rw [if_neg h1]
    by_cases h2 : x < i ∧ i < x + w
    · rw [if_pos h2]; exact Row.put_tail r x text w st i h2.1 h2.2 hi
    · rw [if_neg h2]; exact Row.put_other r x text w st hwf hw i hi (by omega)

/-- **"A wide character is never left half-visible."** `Row.put` preserves row well-formedness:
    every `.ch _ w` head is followed by exactly `w - 1` continuation cells inside the row and
    every continuation cell belongs to such a head. -/
theorem Row.put_wf (r : Row) (x : Nat) (text : Bytes) (w : Nat) (st : Style)
    (hwf : rowWF r = true) (hw : 1 ≤ w) (hx : x + w ≤ r.length) :
    rowWF (Row.put r x text w st) = true := (C02.put_rowWF r x text w st hwf hw hx).1

/-- every cell that `Row.put` changes carries the given style (no well-formedness needed) -/
theorem Row.put_sty (r : Row) (x : Nat) (text : Bytes) (w : Nat) (st : Style) (i : Nat) :
    (Row.put r x text w st)[i]? = r[i]? ∨ ∃ g, (Row.put r x text w st)[i]? = some ⟨g, st⟩ := by
  rw [getElem?_put]
  split
  · exact Or.inr (by split <;> exact ⟨_, rfl⟩)
  · rw [blankStraddlers_eq_fixAt, Row.getElem?_fixAt, Row.getElem?_fixAt]
    split
    · exact Or.inr ⟨_, rfl⟩
    · split
      · exact Or.inr ⟨_, rfl⟩
      · exact Or.inl rfl

/-! ## 2. Screen level: the character fits after the cursor -/

/-- the row `Scr.put` produces when the character is written at the cursor with `Row.put`:
    section 1 describes it cell by cell -/
def putRow (s : Scr) (text : Bytes) (w0 : Nat) : Row :=
  Row.put (s.row s.cy) s.cx (effText s text w0) (effW s w0) s.sty

namespace Lemmas

theorem effW_pos (s : Scr) (w0 : Nat) : 1 ≤ effW s w0 := TM.effW_pos s w0

theorem effW_le (s : Scr) (w0 : Nat) (h : 1 ≤ s.w) : effW s w0 ≤ s.w := TM.effW_le s w0 h

theorem row_set (s s1 : Scr) (c : Nat) (r : Row) (hs1 : s1.grid = s.grid.set c r) (y : Nat)
    (hc : c < s.grid.length) : s1.row y = if y = c then r else s.row y := by
  rw [row_eq, row_eq, hs1]
  simp only [List.getElem?_set]
  by_cases h : c = y
  · subst h; simp [hc]
  · rw [if_neg h, if_neg (fun e => h e.symm)]

end Lemmas

theorem effW_effText_normal (s : Scr) (text : Bytes) (w0 : Nat) (h : max w0 1 ≤ s.w) :
    effW s w0 = max w0 1 ∧ effText s text w0 = text := ⟨effW_normal h, effText_normal h text⟩

/-- **C03 (2a), no edge, strictly inside.** Grid policy always, span policy when the cursor is
    not on a continuation cell: the cursor row becomes `Row.put …`, every other row and every
    other field is unchanged, the cursor advances by the cell width. -/
theorem put_inside (pol : WidePolicy) (s : Scr) (text : Bytes) (w0 : Nat)
    (hpol : pol = .blank ∨ contAt (s.row s.cy) s.cx = false) (h : s.cx + effW s w0 < s.w) :
    Scr.put pol s text w0 =
      { s with grid := s.grid.set s.cy (putRow s text w0), cx := s.cx + effW s w0 } := by
  rw [put_of_fit pol s text w0 (by omega) hpol, putFinish_lt (s := s.setRow _ _) h]
  rfl

/-- **C03 (2b), character ends exactly at the right edge, autowrap off**: the cursor stays on the
    last column. -/
theorem put_lastcol_nowrap (pol : WidePolicy) (s : Scr) (text : Bytes) (w0 : Nat)
    (hpol : pol = .blank ∨ contAt (s.row s.cy) s.cx = false) (h : s.cx + effW s w0 = s.w)
    (hwrap : s.wrap = false) :
    Scr.put pol s text w0 = { s with grid := s.grid.set s.cy (putRow s text w0), cx := s.w - 1 } := by
  rw [put_of_fit pol s text w0 (by omega) hpol,
    putFinish_nowrap (s := s.setRow _ _) (show ¬ s.cx + effW s w0 < s.w by omega) hwrap]
  rfl

/-- **C03 (2c), character ends exactly at the right edge, autowrap on**: column 0 and one line down. -/
theorem put_lastcol_wrap (pol : WidePolicy) (s : Scr) (text : Bytes) (w0 : Nat)
    (hpol : pol = .blank ∨ contAt (s.row s.cy) s.cx = false) (h : s.cx + effW s w0 = s.w)
    (hwrap : s.wrap = true) :
    Scr.put pol s text w0 =
      ({ s with grid := s.grid.set s.cy (putRow s text w0), cx := 0 } : Scr).lineDown := by
  rw [put_of_fit pol s text w0 (by omega) hpol,
    putFinish_wrap (s := s.setRow _ _) (show ¬ s.cx + effW s w0 < s.w by omega) hwrap]
  show ({ s with grid := _, cx := s.cx + effW s w0 - s.w } : Scr).lineDown = _
  rw [h, Nat.sub_self]
  rfl

/-- (2c) spelled out when the cursor is not on the bottom margin: next row if there is one,
    otherwise (last screen row, below the region) it stays; nothing scrolls. -/
theorem put_lastcol_wrap_noscroll (pol : WidePolicy) (s : Scr) (text : Bytes) (w0 : Nat)
    (hpol : pol = .blank ∨ contAt (s.row s.cy) s.cx = false) (h : s.cx + effW s w0 = s.w)
    (hwrap : s.wrap = true) (hb : s.cy ≠ s.bot) :
    Scr.put pol s text w0 =
      { s with grid := s.grid.set s.cy (putRow s text w0), cx := 0,
               cy := if s.cy + 1 < s.h then s.cy + 1 else s.cy } := by
  rw [put_lastcol_wrap pol s text w0 hpol h hwrap]
  exact lineDown_of_ne hb

/-- (2c) spelled out on the bottom margin: the cursor row is written, then the scroll region
    moves up by one row (the top row of the region is lost, the bottom row becomes blank in the
    current style); rows outside the region and the cursor row number are unchanged. -/
theorem put_lastcol_wrap_scroll (pol : WidePolicy) (s : Scr) (text : Bytes) (w0 : Nat)
    (hinv : s.inv = true)
    (hpol : pol = .blank ∨ contAt (s.row s.cy) s.cx = false) (h : s.cx + effW s w0 = s.w)
    (hwrap : s.wrap = true) (hb : s.cy = s.bot) :
    (Scr.put pol s text w0).cx = 0 ∧ (Scr.put pol s text w0).cy = s.cy ∧
    ∀ y, (Scr.put pol s text w0).row y =
      if s.top ≤ y ∧ y < s.bot then (if y + 1 = s.bot then putRow s text w0 else s.row (y + 1))
      else if y = s.bot then blankRow s.w s.sty
      else s.row y := by
  obtain ⟨hg, _, geo⟩ := (inv_iff_geo s).1 hinv
  have hcy := geo.cy_lt; have htb := geo.top_le; have hbh := geo.bot_lt
  rw [put_lastcol_wrap pol s text w0 hpol h hwrap]
  refine ⟨lineDown_cx _, ?_, ?_⟩
  · rw [lineDown_cy]; simp [hb]
  · intro y
    rw [lineDown_row ({ s with grid := s.grid.set s.cy (putRow s text w0), cx := 0 } : Scr) htb hbh
      (by simp [hg])]
    simp only [hb, if_true]
    have hc : s.bot < s.grid.length := by omega
    split
    · rw [row_set s _ s.bot _ rfl (y + 1) (by omega)]
    · split
      · rfl
      · next h1 h2 => rw [row_set s _ s.bot _ rfl y (by omega), if_neg (by omega)]

/-- **"Keeps overwriting the last column when autowrap is off."** A character of width (at most)
    1 written on the last column with autowrap off replaces the cell under the cursor and leaves
    the cursor where it is; the state after it satisfies the same hypotheses again. -/
theorem put_nowrap_last_column (pol : WidePolicy) (s : Scr) (text : Bytes) (w0 : Nat)
    (hpol : pol = .blank ∨ contAt (s.row s.cy) s.cx = false) (hw0 : w0 ≤ 1)
    (hwrap : s.wrap = false) (hcx : s.cx + 1 = s.w) :
    Scr.put pol s text w0 =
      { s with grid := s.grid.set s.cy (Row.put (s.row s.cy) s.cx text 1 s.sty) } := by
  have hW : effW s w0 = 1 := by unfold effW; split <;> omega
  have hT : effText s text w0 = text := by
    unfold effText; rw [if_neg (by omega)]
  rw [put_lastcol_nowrap pol s text w0 hpol (by omega) hwrap]
  unfold putRow
  rw [hW, hT]
  have : s.w - 1 = s.cx := by omega
  rw [this]

/-- **"Stored in the cell(s) starting at the cursor with the current attributes."** Whenever the
    character fits after the cursor and the write does not scroll the cursor row away, the cell at
    the old cursor position holds the character (U+FFFD if it is wider than the screen) with its
    width and the current style, and the next `width - 1` cells are continuation cells in the
    current style. -/
theorem put_cursor_cell (pol : WidePolicy) (s : Scr) (text : Bytes) (w0 : Nat) (hinv : s.inv = true)
    (hpol : pol = .blank ∨ contAt (s.row s.cy) s.cx = false) (hfit : s.cx + effW s w0 ≤ s.w)
    (hns : ¬ (s.cx + effW s w0 = s.w ∧ s.wrap = true ∧ s.cy = s.bot)) :
    ((Scr.put pol s text w0).row s.cy)[s.cx]? =
      some ⟨.ch (effText s text w0) (effW s w0), s.sty⟩ ∧
    ∀ k, s.cx < k → k < s.cx + effW s w0 →
      ((Scr.put pol s text w0).row s.cy)[k]? = some ⟨.cont, s.sty⟩ := by
  obtain ⟨hg, hrows, geo⟩ := (inv_iff_geo s).1 hinv
  have hcx := geo.cx_lt; have hcy := geo.cy_lt
  have hl : (s.row s.cy).length = s.w := (hrows _ (row_mem s s.cy (by omega))).1
  have hrow : (Scr.put pol s text w0).row s.cy = putRow s text w0 := by
    by_cases h1 : s.cx + effW s w0 < s.w
    · rw [put_inside pol s text w0 hpol h1, row_set s _ s.cy _ rfl s.cy (by omega), if_pos rfl]
    · by_cases hwrap : s.wrap = true
      · have hb : s.cy ≠ s.bot := fun e => hns ⟨by omega, hwrap, e⟩
        rw [put_lastcol_wrap_noscroll pol s text w0 hpol (by omega) hwrap hb,
          row_set s _ s.cy _ rfl s.cy (by omega), if_pos rfl]
      · have hwrap' : s.wrap = false := by simpa using hwrap
        rw [put_lastcol_nowrap pol s text w0 hpol (by omega) hwrap',
          row_set s _ s.cy _ rfl s.cy (by omega), if_pos rfl]
  rw [hrow]
  unfold putRow
  exact ⟨Row.put_head _ _ _ _ _ (by omega),
    fun k k1 k2 => Row.put_tail _ _ _ _ _ k k1 k2 (by omega)⟩

/-! ## 3. The right edge: the character does not fit after the cursor -/

namespace Lemmas

theorem row_cont0 (s : Scr) (hinv : s.inv = true) (y : Nat) : contAt (s.row y) 0 = false := by
  have hrows := inv_rows hinv
  by_cases hy : y < s.grid.length
  · exact wf_cont0 (hrows _ (row_mem s y hy)).2
  · rw [row_eq, List.getElem?_eq_none (by omega)]; rfl

theorem lineDown_inv (s : Scr) (h : s.inv = true) : s.lineDown.inv = true := (C02.scr_ops_inv s h).2.1

end Lemmas

/-- **C03 (3a), autowrap on.** A character that does not fit after the cursor is written exactly
    as if the cursor had first gone to column 0 and one line down (`lineDown`: next row, or the
    region scrolled by one on the bottom margin, or the same row on the last screen row below the
    region); section 2 then applies, since at column 0 the character fits (second conjunct). -/
theorem put_edge_wrap (pol : WidePolicy) (s : Scr) (text : Bytes) (w0 : Nat) (hw : 1 ≤ s.w)
    (h : s.cx + effW s w0 > s.w) (hwrap : s.wrap = true) :
    Scr.put pol s text w0 = Scr.put pol ({ s with cx := 0 } : Scr).lineDown text w0 ∧
    ({ s with cx := 0 } : Scr).lineDown.cx + effW ({ s with cx := 0 } : Scr).lineDown w0
      ≤ ({ s with cx := 0 } : Scr).lineDown.w := by
  have := put_putPre pol s text w0 hw
  rwa [putPre_wrap (w := effW s w0) h hwrap] at this

/-- **C03 (3b), autowrap off.** A character that does not fit after the cursor is written exactly
    as if the cursor had first been pulled back to column `s.w - width`, so that the character ends
    on the last column. -/
theorem put_edge_nowrap (pol : WidePolicy) (s : Scr) (text : Bytes) (w0 : Nat) (hw : 1 ≤ s.w)
    (h : s.cx + effW s w0 > s.w) (hwrap : s.wrap = false) :
    Scr.put pol s text w0 = Scr.put pol { s with cx := s.w - effW s w0 } text w0 := by
  have := (put_putPre pol s text w0 hw).1
  rwa [putPre_nowrap (w := effW s w0) h hwrap] at this

/-- (3b) spelled out: the character is written at column `s.w - width` of the same row and the
    cursor ends on the last column; nothing else changes. For width 1 this situation does not
    arise from a state with `cx < w` (see `put_lastcol_nowrap`, which is the "keeps overwriting
    the last column" case). -/
theorem put_edge_nowrap_explicit (pol : WidePolicy) (s : Scr) (text : Bytes) (w0 : Nat) (hw : 1 ≤ s.w)
    (hpol : pol = .blank ∨ contAt (s.row s.cy) (s.w - effW s w0) = false)
    (h : s.cx + effW s w0 > s.w) (hwrap : s.wrap = false) :
    Scr.put pol s text w0 =
      { s with grid := s.grid.set s.cy
                 (Row.put (s.row s.cy) (s.w - effW s w0) (effText s text w0) (effW s w0) s.sty),
               cx := s.w - 1 } := by
  have hle := TM.effW_le s w0 hw
  have hlast : s.w - effW s w0 + effW s w0 = s.w := by omega
  rw [put_edge_nowrap pol s text w0 hw h hwrap,
    put_lastcol_nowrap pol { s with cx := s.w - effW s w0 } text w0 hpol hlast hwrap]
  rfl

/-- (3a) spelled out away from the bottom margin, for a character narrower than the screen: it
    is written at column 0 of the next row (of the same row when the cursor is on the last
    screen row below the region); the cursor ends right after it; nothing else changes. -/
theorem put_edge_wrap_noscroll (pol : WidePolicy) (s : Scr) (text : Bytes) (w0 : Nat)
    (hinv : s.inv = true) (h : s.cx + effW s w0 > s.w) (hwrap : s.wrap = true)
    (hb : s.cy ≠ s.bot) (hlt : effW s w0 < s.w) :
    Scr.put pol s text w0 =
      (let y' := if s.cy + 1 < s.h then s.cy + 1 else s.cy
       { s with grid := s.grid.set y' (Row.put (s.row y') 0 (effText s text w0) (effW s w0) s.sty),
                cx := effW s w0, cy := y' }) := by
  have hw := (geo_of_inv hinv).w_pos
  have e0 : ({ s with cx := 0 } : Scr).lineDown =
      { s with cx := 0, cy := if s.cy + 1 < s.h then s.cy + 1 else s.cy } := lineDown_of_ne hb
  generalize hy' : (if s.cy + 1 < s.h then s.cy + 1 else s.cy) = y' at e0
  rw [(put_edge_wrap pol s text w0 hw h hwrap).1, e0,
    put_inside pol _ text w0 (Or.inr (row_cont0 s hinv y'))
      (show 0 + effW s w0 < s.w by omega)]
  simp only [Nat.zero_add]
  rfl

/-- (3a) spelled out on the bottom margin, for a character narrower than the screen: the scroll
    region moves up by one row and the character is written at column 0 of the fresh blank bottom
    row; rows outside the region are unchanged; the cursor stays on the bottom margin, right after
    the character. -/
theorem put_edge_wrap_scroll (pol : WidePolicy) (s : Scr) (text : Bytes) (w0 : Nat)
    (hinv : s.inv = true) (h : s.cx + effW s w0 > s.w) (hwrap : s.wrap = true)
    (hb : s.cy = s.bot) (hlt : effW s w0 < s.w) :
    (Scr.put pol s text w0).cx = effW s w0 ∧ (Scr.put pol s text w0).cy = s.cy ∧
    ∀ y, (Scr.put pol s text w0).row y =
      if s.top ≤ y ∧ y < s.bot then s.row (y + 1)
      else if y = s.bot then
        Row.put (blankRow s.w s.sty) 0 (effText s text w0) (effW s w0) s.sty
      else s.row y := by
  obtain ⟨hg, _, geo⟩ := (inv_iff_geo s).1 hinv
  have hw := geo.w_pos; have hcy := geo.cy_lt; have htb := geo.top_le; have hbh := geo.bot_lt
  obtain ⟨e, _⟩ := put_edge_wrap pol s text w0 hw h hwrap
  have hrow : ∀ y, ({ s with cx := 0 } : Scr).lineDown.grid.getD y [] =
      if s.top ≤ y ∧ y < s.bot then s.row (y + 1)
      else if y = s.bot then blankRow s.w s.sty else s.row y :=
    fun y => (lineDown_row ({ s with cx := 0 } : Scr) htb hbh hg y).trans (if_pos hb)
  have hlen : _ = s.grid.length := (shift_lineDown ({ s with cx := 0 } : Scr)).len hg
  -- the early wrap scrolls: only the rows change, so the fields of the screen written on are `s`'s
  rw [lineDown_bot (s := { s with cx := 0 }) hb] at e
  generalize ({ s with cx := 0 } : Scr).lineDown.grid = G at e hrow hlen
  have hrb : G.getD s.cy [] = blankRow s.w s.sty := by
    rw [hrow, if_neg (by omega), if_pos hb]
  rw [e, put_inside pol _ text w0 (Or.inr (by
    show contAt (G.getD s.cy []) 0 = false
    rw [hrb]; exact wf_cont0 (blankRow_wf _ _))) (show 0 + effW s w0 < s.w by omega)]
  refine ⟨Nat.zero_add _, rfl, fun y => ?_⟩
  rw [row_set { s with cx := 0, grid := G } _ s.cy _ rfl y (by show s.cy < G.length; omega)]
  by_cases hy : y = s.bot
  · rw [if_pos (hy.trans hb.symm), if_neg (by omega), if_pos hy]
    show Row.put (G.getD s.cy []) 0 _ _ _ = _
    rw [hrb]; rfl
  · rw [if_neg (fun e => hy (e.trans hb))]
    refine (hrow y).trans ?_
    by_cases hr : s.top ≤ y ∧ y < s.bot
    · rw [if_pos hr, if_pos hr]
    · rw [if_neg hr, if_neg hr, if_neg hy, if_neg hy]

/-! ## 4. Style and frame -/

/-- **C03 (4), frame.** Under either policy and in every case `Scr.put` leaves the size, the
    margins, the saved cursor, the autowrap flag and the current style alone. -/
theorem put_frame (pol : WidePolicy) (s : Scr) (text : Bytes) (w0 : Nat) :
    (Scr.put pol s text w0).w = s.w ∧ (Scr.put pol s text w0).h = s.h ∧
    (Scr.put pol s text w0).sx = s.sx ∧ (Scr.put pol s text w0).sy = s.sy ∧
    (Scr.put pol s text w0).top = s.top ∧ (Scr.put pol s text w0).bot = s.bot ∧
    (Scr.put pol s text w0).wrap = s.wrap ∧ (Scr.put pol s text w0).sty = s.sty :=
  have f := frame_put pol s text w0
  ⟨f.w, f.h, f.sx, f.sy, f.top, f.bot, f.wrap, f.sty⟩

/-! ### where the rows of the result come from (style of every touched cell) -/

/-- **C03 (4), style of everything that changes (grid policy).** Every row of the screen after
    `Scr.put` is a row of the old screen, or a fresh blank row in the current style (scrolling),
    or `Row.put … s.sty` applied to such a row. By `Row.put_sty` a cell of `Row.put r … s.sty`
    either equals the cell of `r` at the same column or carries exactly `s.sty`; so no cell with
    a style other than the current one is ever created. (For the span policy combine with
    `put_keep_eq_blank`.) -/
theorem put_rows_origin (s : Scr) (text : Bytes) (w0 : Nat) (hinv : s.inv = true) (r' : Row)
    (h : r' ∈ (Scr.put .blank s text w0).grid) :
    r' ∈ s.grid ∨ r' = blankRow s.w s.sty ∨
    ∃ r0 x, (r0 ∈ s.grid ∨ r0 = blankRow s.w s.sty) ∧
      r' = Row.put r0 x (effText s text w0) (effW s w0) s.sty := by
  obtain ⟨hg, _, hgeo⟩ := (inv_iff_geo s).1 hinv
  have hp := s.putPre_wrapped (effW s w0)
  rcases put_grid_mem .blank s text w0 h with h | h | h
  · exact Or.inl h
  · exact Or.inr (Or.inl h)
  · refine Or.inr (Or.inr ⟨_, (s.putPre (effW s w0)).cx,
      hp.shift.mem (row_mem _ (s.putPre (effW s w0)).cy ?_), ?_⟩)
    · rw [hp.shift.len hg, hg, ← hp.shift.h]
      exact (hgeo.putPre (TM.effW_le s w0 hgeo.w_pos)).1.cy_lt
    · rw [h, putRow_plain (.inl rfl), hp.shift.sty]

/-! ## 5. The two buffer policies agree away from continuation cells -/

/-- **C03 (5).** The span buffer (`.keep`) and the grid buffer (`.blank`) store a character
    identically whenever the column where it is written is not a continuation cell. That column
    is the cursor column when the character fits; column 0 of the next row at the edge with
    autowrap on (never a continuation cell); and column `s.w - width` at the edge with autowrap
    off, hence the third hypothesis (it cannot be dropped, see `put_keep_ne_blank_example`). -/
theorem put_keep_eq_blank (s : Scr) (text : Bytes) (w0 : Nat) (hinv : s.inv = true)
    (h : contAt (s.row s.cy) s.cx = false)
    (h2 : s.cx + effW s w0 ≤ s.w ∨ s.wrap = true ∨
      contAt (s.row s.cy) (s.w - effW s w0) = false) :
    Scr.put .keep s text w0 = Scr.put .blank s text w0 := by
  refine put_pol .keep .blank s text w0 ?_
  rw [putPre_contAt s _ fun r hr => (inv_rows hinv r hr).2]
  split
  · exact h
  · next hfit =>
    split
    · rfl
    · next hwrap => exact (h2.resolve_left hfit).resolve_left hwrap

/-- (5) for characters of width at most 1: on a well-formed screen they always fit -/
theorem put_keep_eq_blank_width1 (s : Scr) (text : Bytes) (w0 : Nat) (hinv : s.inv = true)
    (hw0 : w0 ≤ 1) (h : contAt (s.row s.cy) s.cx = false) :
    Scr.put .keep s text w0 = Scr.put .blank s text w0 := by
  have hw := (geo_of_inv hinv).w_pos; have hcx := (geo_of_inv hinv).cx_lt
  apply put_keep_eq_blank s text w0 hinv h
  left
  have : effW s w0 = 1 := by unfold effW; split <;> omega
  omega

/-! ## 6. The screen invariant is preserved ("never left half-visible", whole screen) -/

theorem put_blank_inv (s : Scr) (text : Bytes) (w0 : Nat) (hinv : s.inv = true) :
    (Scr.put .blank s text w0).inv = true := C02.put_inv .blank s text w0 hinv

/-- the same for the span policy whenever it coincides with the grid policy (section 5) -/
theorem put_keep_inv_off_cont (s : Scr) (text : Bytes) (w0 : Nat) (hinv : s.inv = true)
    (h : contAt (s.row s.cy) s.cx = false)
    (h2 : s.cx + effW s w0 ≤ s.w ∨ s.wrap = true ∨
      contAt (s.row s.cy) (s.w - effW s w0) = false) :
    (Scr.put .keep s text w0).inv = true := by
  rw [put_keep_eq_blank s text w0 hinv h h2]; exact put_blank_inv s text w0 hinv

/-! ## 7. Span policy on a continuation cell: `Row.putKeep` -/

namespace Lemmas

theorem fixAt_mem (r : Row) (c : Nat) (st : Style) (x : Cell) (h : x ∈ fixAt r c st) :
    x ∈ r ∨ x = blank st := Row.mem_fixAt h

open C02Span in
/-- `Row.putKeep` as a list, with `e` the first column after the kept character: the old row up to
    `e`; then blanks, when the new character no longer fits; else the new character and the old
    cells `[x + w, r.length - (e - x))`, which is what moves right by `e - x` and stays inside the
    row, the characters cut by either end of that window blanked. The cut at the right edge of the
    row of `putKeep_rowIns` is pushed through its three pieces (`takeB_append`, `takeB_charCells`,
    `takeB_drop`); on the last one it is the second cut of `blankStraddlers`. -/
theorem putKeep_cells {r : Row} (hwf : rowWF r = true) {x : Nat} (hc : contAt r x = true)
    (text : Bytes) {w : Nat} (hw : 1 ≤ w) (st : Style)
    {e : Nat} (he : headOf r x + widthAt r (headOf r x) = e) :
    Row.putKeep r x text w st =
      r.take e ++
        if r.length < e + w then List.replicate (r.length - e) (blank st)
        else charCells text w st ++
          ((blankStraddlers r (x + w) (r.length - (e - x)) st).take (r.length - (e - x))).drop
            (x + w) := by
  obtain ⟨hxe, hel, _⟩ := endOf_bounds hwf hc
  have hE : endOf r x = e := by simp only [endOf, hc, if_true, he]
  rw [hE] at hxe hel
  have hte : (r.take e).length = e := by rw [List.length_take]; omega
  have hwfF := rowWF_fixAt hwf (x + w) st
  have hF0 := Row.contAt_fixAt_self hwf (x + w) st
  have h1 := takeB_append (r.take e)
    (B := charCells text w st ++ (Row.fixAt r (x + w) st).drop (x + w))
    (contAt_ch (t := text) (w := w) (st := st) (by simp [charCells])) (r.length - e) st
  rw [hte, Nat.add_sub_cancel' hel, ← List.append_assoc] at h1
  rw [putKeep_rowIns hwf hc, cutRow_takeB (closed_wf.keepRow trivial hwf hw trivial trivial)
      (putKeep_rowIns_length hwf hc w text st), hE, dropB_eq hwf, h1]
  congr 1
  split
  · exact takeB_charCells text (by omega) st _ st
  · have h2 := takeB_append (charCells text w st) (B := (Row.fixAt r (x + w) st).drop (x + w))
      (by rw [contAt_drop]; exact hF0) (r.length - e - w) st
    rw [length_charCells _ _ _ hw, show w + (r.length - e - w) = r.length - e by omega] at h2
    rw [h2, takeB_drop (by rw [Row.fixAt_length]; omega) hF0,
      takeB_eq hwfF (by rw [Row.fixAt_length]; omega),
      show x + w + (r.length - e - w) = r.length - (e - x) by omega]
    rfl

end Lemmas

theorem Row.putKeep_length (r : Row) (x : Nat) (text : Bytes) (w : Nat) (st : Style)
    (hwf : rowWF r = true) (hc : contAt r x = true) (_hw : 1 ≤ w) :
    (Row.putKeep r x text w st).length = r.length := TM.putKeep_length r x text w st hwf hc

/-- **C03 (7), "never half-visible" for the span policy on a continuation cell**, for characters
    of EVERY width (kept, written, or cut by the right edge): the new row is well formed. -/
theorem Row.putKeep_wf (r : Row) (x : Nat) (text : Bytes) (w : Nat) (st : Style)
    (hwf : rowWF r = true) (hc : contAt r x = true) (hw : 1 ≤ w) :
    rowWF (Row.putKeep r x text w st) = true := closed_wf.putKeep trivial hwf hc hw trivial trivial

/-- **C03 (7), span policy on a continuation cell, cell by cell**, for characters of every
    width. Let `e` be the first column after the wide character under the cursor; the rest of the
    row is shifted right by `e - x` cells. Then the new row is: the old row up to column `e` (the
    kept character and everything to its left, unchanged); the text at `e … e+w-1` — unless it
    does not fit any more (`r.length < e + w`), then blanks; then the old cells from column
    `x + w` on, shifted — where a character cut by column `x + w` (the kept character itself
    when it is wider than `x + w - head`, or the next one) and the character that the shift
    pushes across the right edge are blanked whole. -/
theorem Row.putKeep_cell (r : Row) (x : Nat) (text : Bytes) (w : Nat) (st : Style)
    (hwf : rowWF r = true) (hc : contAt r x = true) (hw : 1 ≤ w) (i : Nat) (hi : i < r.length) :
    (Row.putKeep r x text w st)[i]? =
      (let e := headOf r x + widthAt r (headOf r x)
       if i < e then r[i]?
       else if i < e + w then
         (if r.length < e + w then some (blank st)
          else if i = e then some ⟨.ch text w, st⟩ else some ⟨.cont, st⟩)
       else if cutBy r (i - (e - x)) (x + w) ∨ cutBy r (i - (e - x)) (r.length - (e - x))
         then some (blank st)
       else r[i - (e - x)]?) := by
  obtain ⟨hxe, hel, _⟩ := C02Span.endOf_bounds hwf hc
  simp only [C02Span.endOf, hc, if_true] at hxe hel
  rw [putKeep_cells hwf hc text hw st rfl]
  simp only
  generalize headOf r x + widthAt r (headOf r x) = e at hxe hel
  have hte : (r.take e).length = e := by rw [List.length_take]; omega
  by_cases h1 : i < e
  · rw [if_pos h1, List.getElem?_append_left (by omega), List.getElem?_take_of_lt h1]
  · rw [if_neg h1, List.getElem?_append_right (by omega), hte]
    by_cases h3 : r.length < e + w
    · rw [if_pos h3, if_pos (by omega), if_pos h3, List.getElem?_replicate, if_pos (by omega)]
    · rw [if_neg h3, List.getElem?_append, length_charCells _ _ _ hw]
      by_cases h2 : i < e + w
      · rw [if_pos h2, if_neg h3, if_pos (by omega), Lemmas.getElem?_charCells _ _ _ _ (by omega)]
        by_cases h4 : i = e
        · rw [if_pos h4, if_pos (by omega)]
        · rw [if_neg h4, if_neg (by omega)]
      · rw [if_neg h2, if_neg (by omega), List.getElem?_drop, List.getElem?_take_of_lt (by omega),
          show x + w + (i - e - w) = i - (e - x) by omega,
          getElem?_blankStraddlers_cutBy hwf (by omega)]

/-- (7) the wide character under the cursor is kept, and so is everything to its left — for a
    kept character of every width -/
theorem Row.putKeep_kept (r : Row) (x : Nat) (text : Bytes) (w : Nat) (st : Style)
    (hwf : rowWF r = true) (hc : contAt r x = true) (hw : 1 ≤ w) (i : Nat)
    (hi : i < headOf r x + widthAt r (headOf r x)) :
    (Row.putKeep r x text w st)[i]? = r[i]? := by
  obtain ⟨t, wd, s', hch, hwd1, hx, hlen, hwd⟩ := Lemmas.wf_head hwf (contAt_lt hc)
  rw [Row.putKeep_cell r x text w st hwf hc hw i (by rw [hwd] at hi; omega)]
  simp only [if_pos hi]

/-- (7) the written character: when it still fits after the kept character, its cells are at
    columns `e … e+w-1` in the current style -/
theorem Row.putKeep_text (r : Row) (x : Nat) (text : Bytes) (w : Nat) (st : Style)
    (hwf : rowWF r = true) (hc : contAt r x = true) (hw : 1 ≤ w)
    (hfit : headOf r x + widthAt r (headOf r x) + w ≤ r.length) (k : Nat) (hk : k < w) :
    (Row.putKeep r x text w st)[headOf r x + widthAt r (headOf r x) + k]? =
      some (if k = 0 then ⟨.ch text w, st⟩ else ⟨.cont, st⟩) := by
  rw [Row.putKeep_cell r x text w st hwf hc hw _ (by omega)]
  simp only
  rw [if_neg (by omega), if_pos (by omega), if_neg (by omega)]
  by_cases h0 : k = 0
  · rw [if_pos (by omega), if_pos h0]
  · rw [if_neg (by omega), if_neg h0]

/-- (7) at screen level: under the span policy, with the cursor on a continuation cell and room
    for the character after the cursor column, the cursor row becomes `Row.putKeep …` and the
    cursor goes to the column after the inserted text (`e + w`, where `e` is the first column
    after the kept wide character), wrapping or clamping at the right edge like in section 2. -/
theorem put_keep_on_cont (s : Scr) (text : Bytes) (w0 : Nat) (hinv : s.inv = true)
    (hc : contAt (s.row s.cy) s.cx = true) (hfit : s.cx + effW s w0 ≤ s.w) :
    Scr.put .keep s text w0 =
      (let e := headOf (s.row s.cy) s.cx + widthAt (s.row s.cy) (headOf (s.row s.cy) s.cx)
       let s1 : Scr :=
         { s with grid := s.grid.set s.cy
                    (Row.putKeep (s.row s.cy) s.cx (effText s text w0) (effW s w0) s.sty) }
       if e + effW s w0 < s.w then { s1 with cx := e + effW s w0 }
       else if s.wrap then ({ s1 with cx := e + effW s w0 - s.w } : Scr).lineDown
       else { s1 with cx := s.w - 1 }) := by
  have hg := inv_glen hinv; have hrows := inv_rows hinv; have hcy := (geo_of_inv hinv).cy_lt
  have hwf := (hrows _ (row_mem s s.cy (by omega))).2
  obtain ⟨t, wd, s', hch, hwd1, hx, hlen, hwd⟩ := Lemmas.wf_head hwf (contAt_lt hc)
  have hle := headOf_le (s.row s.cy) s.cx
  have e1 := putRow_keep hc (effText s text w0) (effW s w0)
  have e2 := putX_of_cont hc (effW s w0)
  -- the column after the write is `cx + w + (e - cx)`, with `cx < e` (`hx`)
  rw [put_eq, putPre_fit (w := effW s w0) hfit, e1, e2,
    show s.cx + effW s w0 + (headOf (s.row s.cy) s.cx +
        widthAt (s.row s.cy) (headOf (s.row s.cy) s.cx) - s.cx) =
      headOf (s.row s.cy) s.cx + widthAt (s.row s.cy) (headOf (s.row s.cy) s.cx) + effW s w0 by
      rw [hwd]; omega]
  rfl

/-! ### `Scr.put` under the span policy keeps the screen invariant, for every width -/

theorem put_keep_inv (s : Scr) (text : Bytes) (w0 : Nat) (hinv : s.inv = true) :
    (Scr.put .keep s text w0).inv = true := C02.put_inv .keep s text w0 hinv

/-- no character of the row is wider than two cells -/
def narrow (r : Row) : Prop := ∀ c ∈ r, ∀ t cw, c.g = .ch t cw → cw ≤ 2

/-- `put_keep_inv` for width functions bounded by 2 (the hypotheses `_hn`, `_hw0` are not needed) -/
theorem put_keep_inv_narrow (s : Scr) (text : Bytes) (w0 : Nat) (hinv : s.inv = true)
    (_hn : ∀ r ∈ s.grid, narrow r) (_hw0 : w0 ≤ 2) :
    (Scr.put .keep s text w0).inv = true := put_keep_inv s text w0 hinv

/-! ## 8. Terminal level: `Tok.text` -/

/-- A text token is `Scr.put` on the active screen, with the buffer policy of the terminal and
    the width given by the width function; the inactive screen and every other component of the
    terminal are untouched. Together with sections 1–7 this is C03 for `Term.apply`. -/
theorem apply_text (cw : Nat → Nat) (t : Term) (stored : Bytes) (cp : Nat) :
    (Term.apply cw t (.text stored cp)).1.scr = t.scr.put t.pol stored (cw cp) ∧
    (Term.apply cw t (.text stored cp)).1.onAlt = t.onAlt ∧
    (Term.apply cw t (.text stored cp)).1.pol = t.pol ∧
    (if t.onAlt then (Term.apply cw t (.text stored cp)).1.main = t.main
     else (Term.apply cw t (.text stored cp)).1.alt = t.alt) ∧
    (Term.apply cw t (.text stored cp)).1.vflags = t.vflags ∧
    (Term.apply cw t (.text stored cp)).1.vints = t.vints ∧
    (Term.apply cw t (.text stored cp)).1.vstrs = t.vstrs ∧
    (Term.apply cw t (.text stored cp)).1.kmain = t.kmain ∧
    (Term.apply cw t (.text stored cp)).1.kalt = t.kalt := by
  unfold Term.apply Term.setScr Term.scr
  cases h : t.onAlt <;> simp

/-! ## Non-vacuity examples, the counterexample for (5), width-3 examples for `Row.putKeep` -/

section Examples

private abbrev d : Style := Style.default
private abbrev zi : Bytes := [0xE5, 0xAD, 0x97]     -- a double-width character

/-- a well-formed row with two double-width characters -/
def exRow : Row := [⟨.ch zi 2, d⟩, ⟨.cont, d⟩, blank d, ⟨.ch zi 2, d⟩, ⟨.cont, d⟩]

-- hypotheses of `Row.put_other` / `Row.put_cell` / `Row.put_wf` with both wide characters cut
example : rowWF exRow = true ∧ 1 + 3 ≤ exRow.length ∧ cutBy exRow 0 1 ∧ cutBy exRow 4 (1 + 3) := by
  decide
example : Row.put exRow 1 [0x58] 3 d =
    [blank d, ⟨.ch [0x58] 3, d⟩, ⟨.cont, d⟩, ⟨.cont, d⟩, blank d] := by decide
-- hypotheses of `Row.put_other_clean`
example : contAt exRow 2 = false ∧ contAt exRow (2 + 1) = false := by decide
-- hypotheses of `Row.putKeep_cell` / `Row.putKeep_kept`
example : rowWF exRow = true ∧ contAt exRow 1 = true ∧
    headOf exRow 1 + widthAt exRow (headOf exRow 1) ≤ 1 + 1 := by decide
example : Row.putKeep exRow 1 [0x58] 1 d =
    [⟨.ch zi 2, d⟩, ⟨.cont, d⟩, ⟨.ch [0x58] 1, d⟩, blank d, blank d] := by decide

/-- a 4×2 screen, autowrap off, cursor on the last column of row 0, whose columns 1–2 hold a
    double-width character -/
def exScr : Scr :=
  { Scr.init 4 2 with
    grid := [[blank d, ⟨.ch zi 2, d⟩, ⟨.cont, d⟩, blank d], blankRow 4 d],
    cx := 3 }

example : exScr.inv = true := by decide
example : contAt (exScr.row exScr.cy) exScr.cx = false := by decide

-- `put_inside` (cursor at column 0, narrow character)
example : ({ exScr with cx := 0 } : Scr).inv = true ∧
    ({ exScr with cx := 0 } : Scr).cx + effW { exScr with cx := 0 } 1 < 4 := by decide
-- `put_lastcol_nowrap`: a narrow character on the last column, autowrap off
example : exScr.cx + effW exScr 1 = exScr.w ∧ exScr.wrap = false := by decide
-- `put_lastcol_wrap_noscroll` / `put_lastcol_wrap_scroll`: autowrap on, off / on the bottom margin
example : ({ exScr with wrap := true } : Scr).inv = true ∧
    ({ exScr with wrap := true } : Scr).cy ≠ ({ exScr with wrap := true } : Scr).bot := by decide
example : ({ exScr with wrap := true, cy := 1 } : Scr).inv = true ∧
    ({ exScr with wrap := true, cy := 1 } : Scr).cy = ({ exScr with wrap := true, cy := 1 } : Scr).bot ∧
    exScr.cx + effW { exScr with wrap := true, cy := 1 } 1 = 4 := by decide
-- `put_edge_wrap*`, `put_edge_nowrap*`: a double-width character on the last column
example : exScr.cx + effW exScr 2 > exScr.w ∧ effW exScr 2 < exScr.w := by decide
-- `put_keep_on_cont`: cursor on the continuation cell
example : ({ exScr with cx := 2 } : Scr).inv = true ∧
    contAt (({ exScr with cx := 2 } : Scr).row 0) 2 = true ∧ 2 + effW { exScr with cx := 2 } 1 ≤ 4 := by
  decide
-- a character wider than the whole screen is stored as U+FFFD with width 1
example : effW exScr 5 = 1 ∧ effText exScr zi 5 = replacementChar := by decide

/-- Without the third hypothesis of `put_keep_eq_blank` the two policies differ: a double-width
    character written at the last column with autowrap off is pulled back onto the continuation
    cell of the existing wide character. -/
theorem put_keep_ne_blank_example :
    exScr.inv = true ∧ contAt (exScr.row exScr.cy) exScr.cx = false ∧
    Scr.put .keep exScr zi 2 ≠ Scr.put .blank exScr zi 2 := by
  decide

/-- Characters of width 3 under the span policy: the character that the insertion pushes across
    the right edge is blanked whole, and the row stays well formed (`Row.putKeep_wf`). -/
theorem putKeep_width3_wf_example :
    let r : Row := [⟨.ch [0x41] 2, d⟩, ⟨.cont, d⟩, ⟨.ch [0x42] 3, d⟩, ⟨.cont, d⟩, ⟨.cont, d⟩]
    rowWF r = true ∧ contAt r 1 = true ∧
    Row.putKeep r 1 [0x43] 1 d = [⟨.ch [0x41] 2, d⟩, ⟨.cont, d⟩, ⟨.ch [0x43] 1, d⟩, blank d, blank d] ∧
    rowWF (Row.putKeep r 1 [0x43] 1 d) = true := by
  decide

/-- a kept character of width 3 with the cursor on its second cell and a write of width 1 (which
    addresses only that cell): the character is kept whole, the text goes after it, and the
    third cell of the kept character — right of the addressed range — is handed on as a blank
    before the shifted rest of the row -/
theorem putKeep_kept_width3_example :
    let r : Row := [⟨.ch [0x42] 3, d⟩, ⟨.cont, d⟩, ⟨.cont, d⟩, ⟨.ch [0x61] 1, d⟩, ⟨.ch [0x62] 1, d⟩,
      ⟨.ch [0x63] 1, d⟩]
    Row.putKeep r 1 [0x43] 1 d =
      [⟨.ch [0x42] 3, d⟩, ⟨.cont, d⟩, ⟨.cont, d⟩, ⟨.ch [0x43] 1, d⟩, blank d, ⟨.ch [0x61] 1, d⟩] := by
  decide

end Examples

end TM.C03

#print axioms TM.C03.Row.put_length
#print axioms TM.C03.Row.put_head
#print axioms TM.C03.Row.put_tail
#print axioms TM.C03.Row.put_other
#print axioms TM.C03.Row.put_other_clean
#print axioms TM.C03.Row.put_cell
#print axioms TM.C03.Row.put_wf
#print axioms TM.C03.Row.put_sty
#print axioms TM.C03.put_inside
#print axioms TM.C03.put_lastcol_nowrap
#print axioms TM.C03.put_lastcol_wrap
#print axioms TM.C03.put_lastcol_wrap_noscroll
#print axioms TM.C03.put_lastcol_wrap_scroll
#print axioms TM.C03.put_nowrap_last_column
#print axioms TM.C03.put_cursor_cell
#print axioms TM.C03.put_edge_wrap
#print axioms TM.C03.put_edge_nowrap
#print axioms TM.C03.put_edge_nowrap_explicit
#print axioms TM.C03.put_edge_wrap_noscroll
#print axioms TM.C03.put_edge_wrap_scroll
#print axioms TM.C03.put_frame
#print axioms TM.C03.put_rows_origin
#print axioms TM.C03.put_keep_eq_blank
#print axioms TM.C03.put_keep_eq_blank_width1
#print axioms TM.C03.put_keep_ne_blank_example
#print axioms TM.C03.put_blank_inv
#print axioms TM.C03.put_keep_inv_off_cont
#print axioms TM.C03.put_keep_inv
#print axioms TM.C03.put_keep_inv_narrow
#print axioms TM.C03.Row.putKeep_length
#print axioms TM.C03.Row.putKeep_cell
#print axioms TM.C03.Row.putKeep_kept
#print axioms TM.C03.Row.putKeep_text
#print axioms TM.C03.Row.putKeep_wf
#print axioms TM.C03.put_keep_on_cont
#print axioms TM.C03.putKeep_width3_wf_example
#print axioms TM.C03.putKeep_kept_width3_example
#print axioms TM.C03.apply_text
