import Props.C11SpanAnsi
import Props.C20GridAnsi
import Props.C02SpanTerm
import Props.C20Grid
import Props.C11Inner
/-!
# C11 for both real buffers, for every input stream

This is the first sentence of property C11 ("Feeding ANSILine(y) for every row into a fresh terminal
of the same size and mode reproduces the same characters and the same attributes in every cell")
for both buffer implementations as the code stores and renders them — the span buffer (rows of
runs, `TM.lineANSI`: one escape per run) and the grid buffer (five arrays per cell, `GRow.ansi`
read from the rune array) — for every input byte stream (rune mode).

Assembled from `stream_rows` of the two buffers (each stored row shows the model terminal's row),
`C11M.InnerOK'` (every row the model terminal reaches is `C11.RowOK`) and the round trip of one
row under `C11.RowOK` (`C11SpanAnsi.lineANSI_roundtrip`, `C20GridAnsi.grid_ansi_roundtrip`).

Hypotheses that remain: the width function gives the space and U+FFFD at most one cell; the size
is `1 ≤ w, h ≤ paramMax` (a CUP parameter must address the row).
-/
namespace TM.C11Streams
open TM.C11

/-! ## 1. every row the model terminal reaches is `C11.RowOK` -/

/-- for every byte stream, both policies, every size within `1 ≤ w, h ≤ paramMax` and every width
    function giving the space and U+FFFD at most one cell: every row of BOTH buffers (not only the
    active one) of the model terminal after the stream satisfies `C11.RowOK` — well formed,
    continuation cells in the style of their head, valid styles, one printable scalar value with
    its own width per character cell. -/
theorem model_rows_rowOK (cw : Nat → Nat) (hsp : cw 32 ≤ 1) (hrep : cw 0xFFFD ≤ 1)
    (pol : WidePolicy) {w h : Nat} (hw : 1 ≤ w) (hh : 1 ≤ h) (hW : w ≤ paramMax) (hH : h ≤ paramMax)
    (bs : Bytes) (y : Nat) :
    RowOK cw ((run cw (Term.init pol w h) bs).1.main.row y) ∧
    RowOK cw ((run cw (Term.init pol w h) bs).1.alt.row y) := by
  have hI := C11M.innerOK'_run cw hsp hrep (C11M.innerOK_init cw pol w h hw hh hW hH hsp) bs
  exact ⟨hI.rowOK_main y, hI.rowOK_alt y⟩

/-! ## 2. the span buffer -/

/-- C11, first sentence, for the span buffer as the code stores and renders it, for every input
    stream. `S` is the run-level terminal (rows of runs, Go-shaped operations) after the tokens of
    the byte stream `bs`; `T` is the model terminal after `bs`.
    For every row `y < h` of either buffer: feeding `CUP(y+1,1)` and the bytes of the span buffer's
    `ANSILine(y)` (`lineANSI` of the stored run list: the full escape in front of every run) to a
    fresh terminal of the same size (either policy) reproduces row `y` of the model terminal —
    the same text, widths / continuation cells and packed style in every cell —, which is the row
    of cells the stored run list shows; and every other row is as in the fresh terminal. -/
theorem span_ansiline_stream (cw : Nat → Nat) (hsp : cw 32 ≤ 1) (hrep : cw 0xFFFD ≤ 1)
    {w h : Nat} (hw : 1 ≤ w) (hh : 1 ≤ h) (hW : w ≤ paramMax) (hH : h ≤ paramMax)
    (bs : Bytes) (pol : WidePolicy) (y : Nat) (hy : y < h) :
    let S := C02SpanTerm.sStateAfter cw (STerm.init w h) (C10.toksOf bs)
    let T := (run cw (Term.init .keep w h) bs).1
    ((run cw (Term.init pol w h) (cupRow y ++ lineANSI (S.main.line y))).1.main.row y = T.main.row y ∧
     T.main.row y = lineCells cw (S.main.line y) ∧
     ∀ y', y' ≠ y →
      (run cw (Term.init pol w h) (cupRow y ++ lineANSI (S.main.line y))).1.main.row y' =
        (Term.init pol w h).main.row y') ∧
    ((run cw (Term.init pol w h) (cupRow y ++ lineANSI (S.alt.line y))).1.main.row y = T.alt.row y ∧
     T.alt.row y = lineCells cw (S.alt.line y) ∧
     ∀ y', y' ≠ y →
      (run cw (Term.init pol w h) (cupRow y ++ lineANSI (S.alt.line y))).1.main.row y' =
        (Term.init pol w h).main.row y') := by
  intro S T
  obtain ⟨_, _, _, _, _, _, _, hrows⟩ := C02SpanTerm.stream_rows (cw := cw) hsp hrep hw hh bs
  obtain ⟨m1, m2, a1, a2⟩ := hrows y hy
  obtain ⟨rm, ra⟩ := model_rows_rowOK cw hsp hrep .keep hw hh hW hH bs y
  have hmax : y < paramMax := by omega
  rw [m2] at rm
  rw [a2] at ra
  refine ⟨⟨?_, m2, ?_⟩, ⟨?_, a2, ?_⟩⟩
  · rw [m2]; exact C11SpanAnsi.lineANSI_roundtrip cw pol w h y _ hy hmax m1 rm
  · exact fun y' hne => C11SpanAnsi.lineANSI_other_rows cw pol w h y _ hy hmax m1 rm y' hne
  · rw [a2]; exact C11SpanAnsi.lineANSI_roundtrip cw pol w h y _ hy hmax a1 ra
  · exact fun y' hne => C11SpanAnsi.lineANSI_other_rows cw pol w h y _ hy hmax a1 ra y' hne

/-! ## 3. the grid buffer -/

/-- the same for the grid buffer as the code stores it (five arrays per cell; `GRow.ansi` is
    `renderLineANSI` of `screen_grid.go`, reading the rune array). `G` is the array-level terminal
    after the tokens of `bs`; `T` the model terminal after `bs` (policy `.blank`, the grid
    buffer's). For every row `y < h` of either buffer: `CUP(y+1,1)` and the grid's `ANSILine(y)`
    fed to a fresh terminal of the same size (either policy) reproduce row `y` of the model
    terminal, which is the row of cells the stored arrays show; every other row is as in the fresh
    terminal. -/
theorem grid_ansiline_stream (cw : Nat → Nat) (hsp : cw 32 ≤ 1) (hrep : cw 0xFFFD ≤ 1)
    {w h : Nat} (hw : 1 ≤ w) (hh : 1 ≤ h) (hW : w ≤ paramMax) (hH : h ≤ paramMax)
    (bs : Bytes) (pol : WidePolicy) (y : Nat) (hy : y < h) :
    let G := C20Grid.gStateAfter cw (GTerm.init w h) (C10.toksOf bs)
    let T := (run cw (Term.init .blank w h) bs).1
    ((run cw (Term.init pol w h) (cupRow y ++ GRow.ansi (G.main.row y))).1.main.row y = T.main.row y ∧
     T.main.row y = (G.main.row y).map GCell.abs ∧
     ∀ y', y' ≠ y →
      (run cw (Term.init pol w h) (cupRow y ++ GRow.ansi (G.main.row y))).1.main.row y' =
        (Term.init pol w h).main.row y') ∧
    ((run cw (Term.init pol w h) (cupRow y ++ GRow.ansi (G.alt.row y))).1.main.row y = T.alt.row y ∧
     T.alt.row y = (G.alt.row y).map GCell.abs ∧
     ∀ y', y' ≠ y →
      (run cw (Term.init pol w h) (cupRow y ++ GRow.ansi (G.alt.row y))).1.main.row y' =
        (Term.init pol w h).main.row y') := by
  intro G T
  obtain ⟨_, _, _, _, _, _, _, hrows⟩ := C20Grid.stream_rows cw hw hh bs
  obtain ⟨m1, m2, a1, a2⟩ := hrows y hy
  have hok : C20GridAnsi.TermOK G := C20GridAnsi.stream_chOK cw w h bs
  have cm := C20GridAnsi.row_chOK hok.1 y
  have ca := C20GridAnsi.row_chOK hok.2 y
  obtain ⟨rm, ra⟩ := model_rows_rowOK cw hsp hrep .blank hw hh hW hH bs y
  have hmax : y < paramMax := by omega
  rw [m2] at rm
  rw [a2] at ra
  refine ⟨⟨?_, m2, ?_⟩, ⟨?_, a2, ?_⟩⟩
  · rw [m2]; exact C20GridAnsi.grid_ansi_roundtrip cw pol w h y _ cm hy hmax m1.1 rm
  · intro y' hne
    rw [C20GridAnsi.ansi_eq_renderRowANSI cm]
    exact other_rows_untouched cw pol w h y _ hy hmax (by rw [List.length_map]; exact m1.1) rm y' hne
  · rw [a2]; exact C20GridAnsi.grid_ansi_roundtrip cw pol w h y _ ca hy hmax a1.1 ra
  · intro y' hne
    rw [C20GridAnsi.ansi_eq_renderRowANSI ca]
    exact other_rows_untouched cw pol w h y _ hy hmax (by rw [List.length_map]; exact a1.1) ra y' hne

/-! ## 4. non-vacuity: a short concrete stream with attributes, a wide character and both buffers -/

namespace Examples
open TM.C02SpanScreen (cwS)

/-- `SGR 1;31`, `A`, `世` (two cells under `cwS`), `SGR 0`, `b`, `?1049h` (alternate buffer), `SGR 4`, `z` -/
def exBs : Bytes :=
  [0x1b, 0x5b, 0x31, 0x3b, 0x33, 0x31, 0x6d, 0x41, 0xe4, 0xb8, 0x96, 0x1b, 0x5b, 0x6d, 0x62,
   0x1b, 0x5b, 0x3f, 0x31, 0x30, 0x34, 0x39, 0x68, 0x1b, 0x5b, 0x34, 0x6d, 0x7a]

/-- bold, red foreground -/
def boldRed : Style := ⟨0x01000001#32, 0x00000100#32, 0x00000100#32⟩
/-- underlined -/
def under : Style := ⟨0x08000100#32, 0x00000100#32, 0x00000100#32⟩

/-- the span-level, grid-level and model terminals (6 × 2) after the stream -/
def exS : STerm := C02SpanTerm.sStateAfter cwS (STerm.init 6 2) (C10.toksOf exBs)
def exG : GTerm := C20Grid.gStateAfter cwS (GTerm.init 6 2) (C10.toksOf exBs)
def exT (pol : WidePolicy) : Term := (run cwS (Term.init pol 6 2) exBs).1

-- the hypotheses of the theorems on this instance
example : cwS 32 ≤ 1 ∧ cwS 0xFFFD ≤ 1 ∧ 1 ≤ 6 ∧ 1 ≤ 2 ∧ 6 ≤ paramMax ∧ 2 ≤ paramMax := by decide

-- (the stream contains SGR: `applySGR` is a well-founded recursion, which `decide` does not unfold;
-- `decide +kernel` lets the kernel evaluate the same `Decidable` instance — no compiler, no axiom)
-- what is stored: four runs in the span buffer's main row 0 …
set_option maxRecDepth 100000 in
example : exS.main.line 0 =
    ⟨[⟨boldRed, [0x41], 0, 1⟩, ⟨boldRed, [0xe4, 0xb8, 0x96], 0, 2⟩, ⟨Style.default, [0x62], 0, 1⟩,
      ⟨Style.default, [], 0x20, 2⟩], 6⟩ := by decide +kernel
-- … which the model terminal shows as six cells, with two renditions and a continuation cell
set_option maxRecDepth 100000 in
example : (exT .keep).main.row 0 =
    [⟨.ch [0x41] 1, boldRed⟩, ⟨.ch [0xe4, 0xb8, 0x96] 2, boldRed⟩, ⟨.cont, boldRed⟩,
     ⟨.ch [0x62] 1, Style.default⟩, ⟨.ch [0x20] 1, Style.default⟩, ⟨.ch [0x20] 1, Style.default⟩] := by
  decide +kernel
set_option maxRecDepth 100000 in
example : ((exT .keep).alt.row 0).take 2 = [⟨.ch [0x7a] 1, under⟩, ⟨.ch [0x20] 1, Style.default⟩] := by
  decide +kernel

-- the two `ANSILine(0)` byte strings: the span buffer repeats the escape in front of `世`, the grid
-- buffer does not — different bytes, the same row
set_option maxRecDepth 100000 in
example : lineANSI (exS.main.line 0) =
    boldRed.ansiEscape ++ [0x41] ++ boldRed.ansiEscape ++ [0xe4, 0xb8, 0x96] ++
      Style.default.ansiEscape ++ [0x62] ++ Style.default.ansiEscape ++ [0x20, 0x20] := by decide +kernel
set_option maxRecDepth 100000 in
example : GRow.ansi (exG.main.row 0) =
    boldRed.ansiEscape ++ [0x41, 0xe4, 0xb8, 0x96] ++ Style.default.ansiEscape ++ [0x62, 0x20, 0x20] := by
  decide +kernel
set_option maxRecDepth 100000 in
example : lineANSI (exS.alt.line 0) =
    under.ansiEscape ++ [0x7a] ++ Style.default.ansiEscape ++ [0x20, 0x20, 0x20, 0x20, 0x20] := by decide +kernel

/-- `model_rows_rowOK` on the instance -/
example (pol : WidePolicy) (y : Nat) : RowOK cwS ((exT pol).main.row y) ∧ RowOK cwS ((exT pol).alt.row y) :=
  model_rows_rowOK cwS (by decide) (by decide) pol (by decide) (by decide) (by decide) (by decide) exBs y

/-- `span_ansiline_stream` on the instance: row 0 of the main and of the alternate buffer -/
example (pol : WidePolicy) :
    (run cwS (Term.init pol 6 2) (cupRow 0 ++ lineANSI (exS.main.line 0))).1.main.row 0 =
      (exT .keep).main.row 0 ∧
    (run cwS (Term.init pol 6 2) (cupRow 0 ++ lineANSI (exS.alt.line 0))).1.main.row 0 =
      (exT .keep).alt.row 0 ∧
    (run cwS (Term.init pol 6 2) (cupRow 0 ++ lineANSI (exS.main.line 0))).1.main.row 1 =
      (Term.init pol 6 2).main.row 1 := by
  have h := span_ansiline_stream cwS (by decide) (by decide) (w := 6) (h := 2) (by decide) (by decide)
    (by decide) (by decide) exBs pol 0 (by decide)
  exact ⟨h.1.1, h.2.1, h.1.2.2 1 (by decide)⟩

/-- `grid_ansiline_stream` on the instance -/
example (pol : WidePolicy) :
    (run cwS (Term.init pol 6 2) (cupRow 0 ++ GRow.ansi (exG.main.row 0))).1.main.row 0 =
      (exT .blank).main.row 0 ∧
    (run cwS (Term.init pol 6 2) (cupRow 0 ++ GRow.ansi (exG.alt.row 0))).1.main.row 0 =
      (exT .blank).alt.row 0 ∧
    (run cwS (Term.init pol 6 2) (cupRow 0 ++ GRow.ansi (exG.main.row 0))).1.main.row 1 =
      (Term.init pol 6 2).main.row 1 := by
  have h := grid_ansiline_stream cwS (by decide) (by decide) (w := 6) (h := 2) (by decide) (by decide)
    (by decide) (by decide) exBs pol 0 (by decide)
  exact ⟨h.1.1, h.2.1, h.1.2.2 1 (by decide)⟩

end Examples

end TM.C11Streams

#print axioms TM.C11Streams.model_rows_rowOK
#print axioms TM.C11Streams.span_ansiline_stream
#print axioms TM.C11Streams.grid_ansiline_stream
