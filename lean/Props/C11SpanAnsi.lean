import Props.C11
import Props.C02Span
import TM.SpanLine
import TM.Ansi
/-!
# C11 for the span buffer: `ANSILine` as the run list really renders it reproduces the row

`Props/C11.lean` proves the round trip for the cell-level rendering `renderRowANSI` (the escape
only where the attributes change). The span buffer renders per RUN (`TM.lineANSI`): in front of
EVERY run of positive width the complete `Style.ansiEscape`, then the run's text (a repeated rune
written `width` times) — also when the next run has the same attributes. This file proves the
round trip for that byte string: `run cw (Term.init pol w h) (cupRow y ++ lineANSI l)` has
`lineCells cw l` in row `y` and every other row untouched.

Route: the induction of `C11.Lemmas.exec_chars`, over runs instead of characters, with the exact
terminal state `C11.stT` as invariant. An escape that repeats the attributes in force is harmless because
`C11.exec_ansiEscape` (from `sgr_roundtrip`) holds for every start style.
-/
namespace TM.C11SpanAnsi
open TM.C07 TM.C11 TM.C11.Lemmas TM.C02Span

/-- a stored character `t` of width `w` is the UTF-8 encoding of ONE printable scalar value with
    its own width (the `text` field of `C11.RowOK`, for one character) -/
def CharOK (cw : Nat → Nat) (t : Bytes) (w : Nat) : Prop :=
  ∃ cp, validScalar cp ∧ 32 ≤ cp ∧ cp ≠ 127 ∧ t = encodeRune cp ∧ w = max (cw cp) 1

/-- run-level hypothesis: the style of the run is a valid packed style; a repeated rune is a
    printable scalar value (its width ≤ 1 is part of `spanWF`); every character of a stored text
    is one printable scalar value with its own width -/
def RunOK (cw : Nat → Nat) (sp : Span) : Prop :=
  Style.valid sp.sty ∧
  (if sp.text.isEmpty then validScalar sp.rune ∧ 32 ≤ sp.rune ∧ sp.rune ≠ 127
   else ∀ p ∈ clusters cw sp.text, CharOK cw p.1 p.2)

/-- Boolean checker for `RunOK` (sound: `runOK_of_check`), for concrete runs -/
def runOKb (cw : Nat → Nat) (sp : Span) : Bool :=
  decide (Style.valid sp.sty) &&
  if sp.text.isEmpty then decide (validScalar sp.rune ∧ 32 ≤ sp.rune ∧ sp.rune ≠ 127)
  else (clusters cw sp.text).all fun p => txtOKb cw p.1 p.2

theorem runOK_of_check {cw : Nat → Nat} {sp : Span} (h : runOKb cw sp = true) : RunOK cw sp := by
  simp only [runOKb, Bool.and_eq_true, decide_eq_true_eq] at h
  refine ⟨h.1, ?_⟩
  split
  · next he => simpa [he] using h.2
  · next he =>
    have h2 := h.2
    rw [if_neg he, List.all_eq_true] at h2
    exact fun p hp => txtOK_of_check (h2 p hp)

theorem runsOK_of_check {cw : Nat → Nat} {l : List Span} (h : l.all (runOKb cw) = true) :
    ∀ sp ∈ l, RunOK cw sp :=
  fun sp hsp => runOK_of_check (List.all_eq_true.mp h sp hsp)

/-- what the induction over the runs uses: a valid style, characters that are printable scalar
    values. Follows from `RunOK` and from `RowOK` of the cells. -/
def SpanCharsOK (cw : Nat → Nat) (sp : Span) : Prop :=
  Style.valid sp.sty ∧ ∀ p ∈ spanCl cw sp, CharOK cw p.1 p.2

/-- the bytes `lineANSI` writes for the text of a run -/
def spanText (sp : Span) : Bytes :=
  if sp.text.isEmpty then (List.replicate sp.width (encodeRune sp.rune)).flatten else sp.text

/-- `lineANSI` on a list of runs -/
def spansANSI (S : List Span) : Bytes :=
  S.flatMap fun sp => if sp.width = 0 then [] else sp.sty.ansiEscape ++ spanText sp

theorem lineANSI_eq (l : SLine) : lineANSI l = spansANSI l.spans := rfl

namespace Lemmas

theorem spansANSI_cons (sp : Span) (S : List Span) (h : 0 < sp.width) :
    spansANSI (sp :: S) = sp.sty.ansiEscape ++ (spanText sp ++ spansANSI S) := by
  simp [spansANSI, Nat.ne_of_gt h]

theorem runOK_chars {cw : Nat → Nat} {sp : Span} (hwf : spanWF cw sp = true) (h : RunOK cw sp) :
    ∀ p ∈ spanCl cw sp, CharOK cw p.1 p.2 := by
  unfold spanCl
  cases ht : sp.text.isEmpty
  · have := h.2
    simp only [ht, Bool.false_eq_true, if_false] at this ⊢
    exact this
  · have := h.2
    simp only [ht, if_true] at this ⊢
    intro p hp
    rw [(List.mem_replicate.1 hp).2]
    unfold spanWF at hwf
    simp only [ht, if_true, Bool.and_eq_true, decide_eq_true_eq] at hwf
    exact ⟨sp.rune, this.1, this.2.1, this.2.2, rfl, by simp only; omega⟩

/-- the text of a run read by the re-interpreting terminal in the run's style: one text token
    per character, each landing right behind the cells already written -/
theorem exec_text (cw : Nat → Nat) (pol : WidePolicy) (W H y : Nat) (hy : y < H) (st : Style)
    (rest : Bytes) : ∀ (cs : List Cl) (done : Row),
    (∀ p ∈ cs, CharOK cw p.1 p.2) → done.length + ws cs ≤ W →
    (run cw (stT pol W H y done st) (flat cs ++ rest)).1 =
      (run cw (stT pol W H y (done ++ cellsK (cs.map fun c => (c, st))) st) rest).1 := by
  intro cs
  induction cs with
  | nil =>
    intro done _ _
    simp
  | cons p r ih =>
    intro done hok hfit
    obtain ⟨cp, hcp, h32, h127, ht, hw⟩ := hok p (List.mem_cons_self ..)
    have hw1 : 1 ≤ p.2 := by omega
    simp only [ws_cons] at hfit
    rw [flat_cons, List.append_assoc, ht, run_tok (next_text cp hcp h32 h127 _), ← ht,
      apply_text_stT cw pol W H y done st p.1 cp p.2 hy hw.symm (by omega),
      ih (done ++ charCells p.1 p.2 st) (fun q hq => hok q (List.mem_cons_of_mem _ hq))
        (by rw [List.length_append, charCells_length]; omega)]
    simp [List.append_assoc]

theorem exec_spans (cw : Nat → Nat) (pol : WidePolicy) (W H y : Nat) (hy : y < H) :
    ∀ (S : List Span) (done : Row) (sty : Style),
    AllWF cw S → (∀ sp ∈ S, SpanCharsOK cw sp) → done.length + sumWidths S ≤ W →
    ∃ sty', (run cw (stT pol W H y done sty) (spansANSI S)).1 =
      stT pol W H y (done ++ cellsK (lineK cw S)) sty' := by
  intro S
  induction S with
  | nil =>
    intro done sty _ _ _
    refine ⟨sty, ?_⟩
    simp only [lineK_nil, cellsK_nil, List.append_nil]
    exact run_nil cw _
  | cons sp S ih =>
    intro done sty hwf hok hfit
    have hsp := hwf.head
    have hG := SpanG.of_wf hsp
    have hrun := hok sp (List.mem_cons_self ..)
    simp only [sumWidths_cons] at hfit
    have hlen : (cellsK (spanK cw sp)).length = sp.width := by
      rw [cellsK_length hG.posK, hG.wk]
    obtain ⟨sty', hE⟩ := ih (done ++ cellsK (spanK cw sp)) sp.sty hwf.tail
      (fun q hq => hok q (List.mem_cons_of_mem _ hq))
      (by rw [List.length_append, hlen]; omega)
    refine ⟨sty', ?_⟩
    rw [spansANSI_cons sp S (spanWF_pos hsp), lineK_cons, cellsK_append, ← List.append_assoc done,
      exec_ansiEscape cw sp.sty hrun.1, withSty_stT, (show spanText sp = _ from spanText_flat hsp),
      exec_text cw pol W H y hy sp.sty _ (spanCl cw sp) done hrun.2 (by rw [← hG.1]; omega)]
    exact hE

theorem lineANSI_state (cw : Nat → Nat) (pol : WidePolicy) (w h y : Nat) (l : SLine)
    (hy : y < h) (hmax : y < paramMax) (hwf : lineWF cw w l = true)
    (hok : ∀ sp ∈ l.spans, SpanCharsOK cw sp) :
    ∃ sty', (run cw (Term.init pol w h) (cupRow y ++ lineANSI l)).1 =
      stT pol w h y (lineCells cw l) sty' := by
  obtain ⟨hall, hsum, _⟩ := lineWF_iff.1 hwf
  obtain ⟨sty', hE⟩ := exec_spans cw pol w h y hy l.spans [] Style.default hall hok
    (by simp [hsum])
  rw [List.nil_append] at hE
  exact ⟨sty', by rw [run_cupRow cw pol w h y hy hmax, lineANSI_eq, lineCells_eq]; exact hE⟩

/-- cell-level hypothesis (`C11.RowOK` of the cells, in fact only its `valid` and `text` fields)
    ⟹ what the induction uses -/
theorem rowOK_spanCharsOK {cw : Nat → Nat} {w : Nat} {l : SLine} (hwf : lineWF cw w l = true)
    (hvalid : ∀ c ∈ lineCells cw l, Style.valid c.sty)
    (htext : ∀ c ∈ lineCells cw l, ∀ t w, c.g = .ch t w → CharOK cw t w) :
    ∀ sp ∈ l.spans, SpanCharsOK cw sp := by
  intro sp hsp
  have hG := SpanG.of_wf ((lineWF_iff.1 hwf).1 sp hsp)
  have hpos := spanWF_pos ((lineWF_iff.1 hwf).1 sp hsp)
  constructor
  · cases hc : spanCl cw sp with
    | nil => rw [hG.1, hc] at hpos; simp at hpos
    | cons p r =>
      have hm : p ∈ spanCl cw sp := by rw [hc]; exact List.mem_cons_self ..
      exact hvalid ⟨.ch p.1 p.2, sp.sty⟩ (head_mem_lineCells hsp hm)
  · intro p hp
    exact htext ⟨.ch p.1 p.2, sp.sty⟩ (head_mem_lineCells hsp hp) p.1 p.2 rfl

end Lemmas
open Lemmas

/-- The two hypotheses agree: the cells of a well-formed run list whose runs are `RunOK` satisfy
    `C11.RowOK`, the hypothesis of `C11.row_roundtrip` and of `lineANSI_roundtrip`. -/
theorem lineCells_rowOK (cw : Nat → Nat) (w : Nat) (l : SLine) (hwf : lineWF cw w l = true)
    (hok : ∀ sp ∈ l.spans, RunOK cw sp) : RowOK cw (lineCells cw l) := by
  have hall := (lineWF_iff.1 hwf).1
  rw [lineCells_eq]
  refine closed_rowOK.cellsK fun k hk => ?_
  obtain ⟨sp, hsp, hs, hm⟩ := mem_lineK hk
  exact ⟨posK_lineK hall k hk, runOK_chars (hall sp hsp) (hok sp hsp) k.1 hm, hs ▸ (hok sp hsp).1⟩

/-- C11 for the span buffer. Feeding `CUP(y+1,1) ++ ANSILine(y)` — the bytes the span buffer
    really produces (`lineANSI`) — to a fresh terminal of the same size reproduces the cells of the
    row exactly: the same text, the same widths / continuation cells and the same packed style in
    every cell. Hypotheses: the invariant `lineWF` of the run list, and the
    hypothesis of `C11.row_roundtrip` on its cells. For all sizes, rows `y`, both policies, every
    width function. -/
theorem lineANSI_roundtrip (cw : Nat → Nat) (pol : WidePolicy) (w h y : Nat) (l : SLine)
    (hy : y < h) (hmax : y < paramMax) (hwf : lineWF cw w l = true)
    (hr : RowOK cw (lineCells cw l)) :
    (run cw (Term.init pol w h) (cupRow y ++ lineANSI l)).1.main.row y = lineCells cw l := by
  obtain ⟨sty', hs⟩ := lineANSI_state cw pol w h y l hy hmax hwf
    (rowOK_spanCharsOK hwf hr.valid hr.text)
  rw [hs]
  exact stT_row_full pol w h y _ sty' hy (lineWF_length hwf)

/-- … and every other row is as in the fresh terminal (nothing scrolls, nothing wraps) -/
theorem lineANSI_other_rows (cw : Nat → Nat) (pol : WidePolicy) (w h y : Nat) (l : SLine)
    (hy : y < h) (hmax : y < paramMax) (hwf : lineWF cw w l = true)
    (hr : RowOK cw (lineCells cw l)) (y' : Nat) (hne : y' ≠ y) :
    (run cw (Term.init pol w h) (cupRow y ++ lineANSI l)).1.main.row y' =
      (Term.init pol w h).main.row y' := by
  obtain ⟨sty', hs⟩ := lineANSI_state cw pol w h y l hy hmax hwf
    (rowOK_spanCharsOK hwf hr.valid hr.text)
  rw [hs]
  exact stT_row_other pol w h y _ sty' y' hne

/-- The same from the run-level hypothesis `RunOK` — nothing is assumed about the cells. -/
theorem lineANSI_roundtrip_runs (cw : Nat → Nat) (pol : WidePolicy) (w h y : Nat) (l : SLine)
    (hy : y < h) (hmax : y < paramMax) (hwf : lineWF cw w l = true)
    (hok : ∀ sp ∈ l.spans, RunOK cw sp) :
    (run cw (Term.init pol w h) (cupRow y ++ lineANSI l)).1.main.row y = lineCells cw l :=
  lineANSI_roundtrip cw pol w h y l hy hmax hwf (lineCells_rowOK cw w l hwf hok)

theorem lineANSI_other_rows_runs (cw : Nat → Nat) (pol : WidePolicy) (w h y : Nat) (l : SLine)
    (hy : y < h) (hmax : y < paramMax) (hwf : lineWF cw w l = true)
    (hok : ∀ sp ∈ l.spans, RunOK cw sp) (y' : Nat) (hne : y' ≠ y) :
    (run cw (Term.init pol w h) (cupRow y ++ lineANSI l)).1.main.row y' =
      (Term.init pol w h).main.row y' :=
  lineANSI_other_rows cw pol w h y l hy hmax hwf (lineCells_rowOK cw w l hwf hok) y' hne

/-- The two renderings are interchangeable: the per-run bytes of the span buffer and the
    per-attribute-change bytes of the cell-level model (`renderRowANSI` of the cells, the subject of
    `C11.row_roundtrip`) are different byte strings that a fresh terminal reads to the same row. -/
theorem lineANSI_agrees_renderRowANSI (cw : Nat → Nat) (pol : WidePolicy) (w h y : Nat) (l : SLine)
    (hy : y < h) (hmax : y < paramMax) (hwf : lineWF cw w l = true)
    (hr : RowOK cw (lineCells cw l)) :
    (run cw (Term.init pol w h) (cupRow y ++ lineANSI l)).1.main.row y =
      reinterpretRow cw pol w h y (lineCells cw l) := by
  rw [lineANSI_roundtrip cw pol w h y l hy hmax hwf hr,
    row_roundtrip cw pol w h y _ hy hmax (lineWF_length hwf) hr]

/-! ## non-vacuity -/

namespace Examples
open TM.C11.Examples (cw boldRedOn200 fancy)

/-- three runs on a row of 6 cells: the text `A世` (three cells, `世` is wide), two blanks as a
    repeated rune in the SAME style, and the text `b` in another style -/
def line : SLine :=
  ⟨[⟨boldRedOn200, [0x41, 0xE4, 0xB8, 0x96], 0, 3⟩, ⟨boldRedOn200, [], 0x20, 2⟩, ⟨fancy, [0x62], 0, 1⟩], 6⟩

example : lineWF cw 6 line = true := by decide

set_option maxRecDepth 100000 in
example : lineCells cw line =
    [⟨.ch [0x41] 1, boldRedOn200⟩, ⟨.ch [0xE4, 0xB8, 0x96] 2, boldRedOn200⟩, ⟨.cont, boldRedOn200⟩,
     ⟨.ch [0x20] 1, boldRedOn200⟩, ⟨.ch [0x20] 1, boldRedOn200⟩, ⟨.ch [0x62] 1, fancy⟩] := by decide +kernel

/-- the span buffer writes the escape of the second run although nothing changes; the cell-level
    rendering does not: two different byte strings -/
example : lineANSI line ≠ renderRowANSI (lineCells cw line) := by
  intro h
  exact absurd (congrArg List.length h) (by decide +kernel)

example : lineANSI line =
    boldRedOn200.ansiEscape ++ [0x41, 0xE4, 0xB8, 0x96] ++ boldRedOn200.ansiEscape ++ [0x20, 0x20] ++
      fancy.ansiEscape ++ [0x62] := by decide +kernel

example : renderRowANSI (lineCells cw line) =
    boldRedOn200.ansiEscape ++ [0x41, 0xE4, 0xB8, 0x96] ++ [0x20, 0x20] ++
      fancy.ansiEscape ++ [0x62] := by decide +kernel

theorem runsOK : ∀ sp ∈ line.spans, RunOK cw sp := runsOK_of_check (by decide)

/-- the span rendering reproduces the row (6 × 3 screen, row 1, both policies) -/
example (pol : WidePolicy) :
    (run cw (Term.init pol 6 3) (cupRow 1 ++ lineANSI line)).1.main.row 1 = lineCells cw line :=
  lineANSI_roundtrip_runs cw pol 6 3 1 line (by decide) (by decide) (by decide) runsOK

theorem rowOK : RowOK cw (lineCells cw line) := lineCells_rowOK cw 6 line (by decide) runsOK

/-- the same from the cell-level hypothesis -/
example (pol : WidePolicy) :
    (run cw (Term.init pol 6 3) (cupRow 1 ++ lineANSI line)).1.main.row 1 = lineCells cw line :=
  lineANSI_roundtrip cw pol 6 3 1 line (by decide) (by decide) (by decide) rowOK

/-- the cell-level rendering (other bytes) reproduces the row as well -/
example (pol : WidePolicy) :
    reinterpretRow cw pol 6 3 1 (lineCells cw line) = lineCells cw line :=
  row_roundtrip cw pol 6 3 1 _ (by decide) (by decide)
    (lineWF_length (cw := cw) (W := 6) (l := line) (by decide)) rowOK

/-- rows 0 and 2 stay blank -/
example (pol : WidePolicy) :
    (run cw (Term.init pol 6 3) (cupRow 1 ++ lineANSI line)).1.main.row 2 =
      (Term.init pol 6 3).main.row 2 :=
  lineANSI_other_rows cw pol 6 3 1 line (by decide) (by decide) (by decide) rowOK 2 (by decide)

end Examples

end TM.C11SpanAnsi

#print axioms TM.C11SpanAnsi.lineANSI_roundtrip
#print axioms TM.C11SpanAnsi.lineANSI_other_rows
#print axioms TM.C11SpanAnsi.lineANSI_roundtrip_runs
#print axioms TM.C11SpanAnsi.lineANSI_other_rows_runs
#print axioms TM.C11SpanAnsi.lineANSI_agrees_renderRowANSI
#print axioms TM.C11SpanAnsi.lineCells_rowOK
