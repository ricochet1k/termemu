import Props.C02
import Proofs.Scr
/-!
# C18 — Resize

"Resize(w,h) to any positive size at any moment leaves every cell of the old/new overlap (clipped
to whole characters) with its previous text and attributes on both buffers, fills new cells with
blanks, and reports the new size from Size. Cursor, saved cursor and scroll region are brought
inside the new screen, so any subsequent input behaves as on a terminal that always had that size
and that content."

Model: `TM.Scr.resize`, `TM.fitRow`, `TM.blankCharAt` (`TM/Screen.lean`); `TM.Term.resize`
(`TM/Term.lean`) resizes both buffers.
-/
namespace TM.C18

def GridOK (s : Scr) : Prop := s.grid.length = s.h ∧ ∀ r ∈ s.grid, r.length = s.w

/-- `Scr.inv` without the well-formedness of the rows; the same proposition as `Scr.geo` of
    `Props/C02`, and more than `TM.Geo` of `Proofs/Scr`, which says nothing of the rows -/
def Geo (s : Scr) : Prop :=
  1 ≤ s.w ∧ 1 ≤ s.h ∧ s.grid.length = s.h ∧ (∀ r ∈ s.grid, r.length = s.w) ∧
  s.cx < s.w ∧ s.cy < s.h ∧ s.sx < s.w ∧ s.sy < s.h ∧ s.top ≤ s.bot ∧ s.bot < s.h

theorem Geo.gridOK {s : Scr} (h : Geo s) : GridOK s := ⟨h.2.2.1, h.2.2.2.1⟩

namespace Lemmas

theorem widthAt_pos (r : Row) (x : Nat) : 1 ≤ widthAt r x := TM.widthAt_pos r x

theorem row_length {s : Scr} (hg : GridOK s) {y : Nat} (hy : y < s.h) : (s.row y).length = s.w :=
  hg.2 _ (row_mem s y (by rw [hg.1]; exact hy))

/-- the bottom margin keeps its distance from the last row when the screen grows … -/
theorem clamp_bot_up {H h b : Nat} (hb : b < h) (hh : h ≤ H) :
    clampNat ((H : Int) - ((h : Int) - (b : Int))) (H - 1) = H - (h - b) := by
  unfold clampNat; omega

end Lemmas
open Lemmas

/-! ## size -/

/-- `Size` after `Resize(w,h)` is `(w,h)`, the grid has exactly `h` rows and every row has exactly
    `w` cells — for every old state whatsoever. -/
theorem resize_size (s : Scr) (w h : Nat) :
    (s.resize w h).w = w ∧ (s.resize w h).h = h ∧ (s.resize w h).grid.length = h ∧
      ∀ r ∈ (s.resize w h).grid, r.length = w := by
  refine ⟨rfl, rfl, resize_grid_length s w h, fun r hr => ?_⟩
  rcases resize_mem hr with ⟨r0, _, rfl⟩ | rfl
  · exact fitRow_length ..
  · exact blankRow_length ..

/-- the result has a well-shaped grid (so `Scr.row y` for `y < h` is a row of `w` cells) -/
theorem resize_gridOK (s : Scr) (w h : Nat) : GridOK (s.resize w h) :=
  ⟨(resize_size s w h).2.2.1, (resize_size s w h).2.2.2⟩

/-! ## the overlap -/

/-- Cell `(x,y)` of the old/new overlap keeps its text and attributes, except for the cells of a
    wide character cut by the new right edge (column `w` of the old row is a continuation cell):
    the cells of that character, `[hd, hd + width)` with `hd = headOf oldRow w`, are blanked in
    the current style. -/
theorem resize_overlap (s : Scr) (w h x y : Nat) (hg : GridOK s)
    (hy : y < min h s.h) (hx : x < min w s.w) :
    ((s.resize w h).row y)[x]? =
      if contAt (s.row y) w = true ∧ headOf (s.row y) w ≤ x ∧
          x < headOf (s.row y) w + widthAt (s.row y) (headOf (s.row y) w)
      then some (blank s.sty) else (s.row y)[x]? := by
  have hlen := row_length hg (y := y) (by omega)
  rw [resize_row_old s w h y (by omega) (by rw [hg.1]; omega)]
  exact getElem?_fitRow_old _ _ _ _ (by omega) (by omega)

theorem cut_only_when_narrower (s : Scr) (w y : Nat) (hg : GridOK s) (hy : y < s.h)
    (hc : contAt (s.row y) w = true) : w < s.w := by
  have := contAt_lt hc
  rwa [row_length hg hy] at this

theorem resize_overlap_uncut (s : Scr) (w h x y : Nat) (hg : GridOK s)
    (hy : y < min h s.h) (hx : x < min w s.w) (hc : contAt (s.row y) w = false) :
    ((s.resize w h).row y)[x]? = (s.row y)[x]? := by
  rw [resize_overlap s w h x y hg hy hx]; simp [hc]

theorem resize_overlap_wider (s : Scr) (w h x y : Nat) (hg : GridOK s)
    (hy : y < min h s.h) (hx : x < s.w) (hw : s.w ≤ w) :
    ((s.resize w h).row y)[x]? = (s.row y)[x]? := by
  apply resize_overlap_uncut s w h x y hg hy (by omega)
  apply contAt_ge
  rw [row_length hg (by omega)]; exact hw

/-- On a well-formed row (`rowWF`, part of `Scr.inv`) the cut character covers exactly
    `[headOf oldRow w, w)` of the new row: those cells become blanks, every other cell of the
    overlap is unchanged. -/
theorem resize_overlap_wf (s : Scr) (w h x y : Nat) (hg : GridOK s)
    (hy : y < min h s.h) (hx : x < min w s.w) (hwf : rowWF (s.row y) = true) :
    ((s.resize w h).row y)[x]? =
      if w < s.w ∧ contAt (s.row y) w = true ∧ headOf (s.row y) w ≤ x
      then some (blank s.sty) else (s.row y)[x]? := by
  rw [resize_overlap s w h x y hg hy hx]
  by_cases hc : contAt (s.row y) w = true
  · have hlt := cut_only_when_narrower s w y hg (by omega) hc
    obtain ⟨t, cw, st, hhd, h1, h2, _⟩ := wf_head hwf (contAt_lt hc)
    rw [widthAt_ch hhd]
    have : x < headOf (s.row y) w + max cw 1 := by omega
    simp [hc, hlt, this]
  · simp [hc]

/-! ## new cells -/

/-- every cell of the new screen outside the old one is a blank in the current style -/
theorem resize_new_cells (s : Scr) (w h x y : Nat) (hg : GridOK s) (hy : y < h) (hx : x < w)
    (hnew : s.w ≤ x ∨ s.h ≤ y) : ((s.resize w h).row y)[x]? = some (blank s.sty) := by
  by_cases hys : y < s.h
  · have hxs : s.w ≤ x := by omega
    rw [resize_row_old s w h y hy (by rw [hg.1]; exact hys)]
    exact getElem?_fitRow_new _ _ _ _ hx (by rw [row_length hg hys]; exact hxs)
  · rw [resize_row_new s w h y hy (by rw [hg.1]; omega)]
    simp [blankRow, hx]

/-! ## cursor, saved cursor, margins -/

/-- cursor, saved cursor and scroll region are inside the new screen — for every old state -/
theorem resize_valid (s : Scr) (w h : Nat) (hw : 1 ≤ w) (hh : 1 ≤ h) :
    let s' := s.resize w h
    s'.cx < w ∧ s'.cy < h ∧ s'.sx < w ∧ s'.sy < h ∧ s'.top ≤ s'.bot ∧ s'.bot < h := by
  obtain ⟨_, _, _, _, e, f, g, i, j, k⟩ := C02.Lemmas.geo_resize s w h hw hh
  exact ⟨e, f, g, i, j, k⟩

theorem resize_cursor (s : Scr) (w h : Nat) :
    let s' := s.resize w h
    (s'.cx = if s.cx < w then s.cx else 0) ∧ (s'.cy = if s.cy < h then s.cy else 0) ∧
    (s'.sx = if s.sx < w then s.sx else 0) ∧ (s'.sy = if s.sy < h then s.sy else 0) :=
  ⟨rfl, rfl, rfl, rfl⟩

theorem resize_cursor_kept (s : Scr) (w h : Nat) :
    (s.cx < w → (s.resize w h).cx = s.cx) ∧ (s.cy < h → (s.resize w h).cy = s.cy) ∧
    (s.sx < w → (s.resize w h).sx = s.sx) ∧ (s.sy < h → (s.resize w h).sy = s.sy) := by
  simp only [Scr.resize]
  refine ⟨?_, ?_, ?_, ?_⟩ <;> intro hlt <;> simp [hlt]

/-- the scroll region: the bottom margin keeps its distance from the last row (clamped to the
    screen), the top margin is kept unless it would pass the bottom margin -/
theorem resize_margins (s : Scr) (w h : Nat) (hh : 1 ≤ h) (hb : s.bot < s.h) :
    let s' := s.resize w h
    (h - 1 - s'.bot = min (s.h - 1 - s.bot) (h - 1)) ∧ s'.top = min s.top s'.bot := by
  simp only [Scr.resize, clampNat]
  refine ⟨?_, trivial⟩
  omega

/-- full-screen margins stay full-screen -/
theorem resize_full_margins (s : Scr) (w h : Nat) (hs : 1 ≤ s.h) :
    (s.bot = s.h - 1 → (s.resize w h).bot = h - 1) ∧
    (s.top = 0 → (s.resize w h).top = 0) := by
  simp only [Scr.resize, clampNat]
  omega

theorem resize_other (s : Scr) (w h : Nat) :
    (s.resize w h).sty = s.sty ∧ (s.resize w h).wrap = s.wrap := ⟨rfl, rfl⟩

/-- for `C18.Geo`, with the rows; `TM.resize_geo` (`Proofs/Refine`) has `TM.Geo`, without them -/
theorem resize_geo (s : Scr) (w h : Nat) (hw : 1 ≤ w) (hh : 1 ≤ h) : Geo (s.resize w h) :=
  C02.Lemmas.geo_resize s w h hw hh

/-! ## "as on a terminal that always had that size" -/

theorem resize_same_size (s : Scr) (hg : Geo s) : s.resize s.w s.h = s := by
  obtain ⟨_, h1, hl, hr, hcx, hcy, hsx, hsy, htb, hb⟩ := hg
  have hgrid : (s.resize s.w s.h).grid = s.grid := by
    show List.map (fun r => fitRow r s.w s.sty) (s.grid.take s.h) ++ _ = s.grid
    rw [List.take_of_length_le (by omega), (List.map_congr_left
      (fun r hr' => fitRow_self s.sty (hr r hr'))).trans (List.map_id' _), hl, Nat.sub_self]
    exact List.append_nil _
  have hbot : (s.resize s.w s.h).bot = s.bot := by
    show clampNat ((s.h : Int) - ((s.h : Int) - (s.bot : Int))) (s.h - 1) = s.bot
    rw [clamp_bot_up hb (Nat.le_refl _)]; omega
  exact Scr.ext rfl rfl hgrid (if_pos hcx) (if_pos hcy) (if_pos hsx) (if_pos hsy)
    (by show min s.top (s.resize s.w s.h).bot = s.top; rw [hbot]; exact Nat.min_eq_left htb)
    hbot rfl rfl

theorem fitRow_grow_shrink (r : Row) (w : Nat) (st : Style) (hw : r.length ≤ w) :
    fitRow (fitRow r w st) r.length st = r := by
  by_cases he : r.length = w
  · rw [fitRow_self st he]; exact fitRow_self st rfl
  · have h1 : fitRow r w st = r ++ List.replicate (w - r.length) (blank st) := by
      unfold fitRow; rw [if_neg (by omega)]
    rw [h1]
    have hc : contAt (r ++ List.replicate (w - r.length) (blank st)) r.length = false := by
      apply contAt_blank (st := st)
      rw [List.getElem?_append, if_neg (by omega), List.getElem?_replicate, if_pos (by omega)]
    unfold fitRow
    rw [if_pos (by simp)]
    simp only [hc]
    exact List.take_left' rfl

/-- Growing the screen and shrinking it back to the old size restores the old state exactly:
    nothing is lost or invented by `Resize`. -/
theorem resize_grow_shrink (s : Scr) (hg : Geo s) (w h : Nat) (hw : s.w ≤ w) (hh : s.h ≤ h) :
    (s.resize w h).resize s.w s.h = s := by
  obtain ⟨w1, h1, hl, hr, hcx, hcy, hsx, hsy, htb, hb⟩ := hg
  have hgrid : ((s.resize w h).resize s.w s.h).grid = s.grid := by
    show List.map (fun r => fitRow r s.w s.sty)
        (List.take s.h (List.map (fun r => fitRow r w s.sty) (s.grid.take h) ++ _)) ++ _ = s.grid
    rw [List.take_of_length_le (show s.grid.length ≤ h by omega),
      List.take_left' (by rw [List.length_map, hl]), List.map_map,
      (List.map_congr_left (fun r hr' => by
        have := fitRow_grow_shrink r w s.sty (by rw [hr r hr']; exact hw)
        rw [hr r hr'] at this
        exact this)).trans (List.map_id' _), List.length_map, List.length_take, resize_grid_length,
      Nat.min_eq_left hh, Nat.sub_self]
    exact List.append_nil _
  have hb1 : (s.resize w h).bot = h - (s.h - s.bot) := clamp_bot_up hb hh
  have hbot : ((s.resize w h).resize s.w s.h).bot = s.bot := by
    show clampNat ((s.h : Int) - ((h : Int) - ((s.resize w h).bot : Int))) (s.h - 1) = s.bot
    rw [hb1]; unfold clampNat; omega
  have kept := resize_cursor_kept s w h
  have kept' := resize_cursor_kept (s.resize w h) s.w s.h
  have ecx := kept.1 (by omega)
  have ecy := kept.2.1 (by omega)
  have esx := kept.2.2.1 (by omega)
  have esy := kept.2.2.2 (by omega)
  refine Scr.ext rfl rfl hgrid ((kept'.1 (by omega)).trans ecx) ((kept'.2.1 (by omega)).trans ecy)
    ((kept'.2.2.1 (by omega)).trans esx) ((kept'.2.2.2 (by omega)).trans esy) ?_ hbot rfl rfl
  show min (min s.top (s.resize w h).bot) ((s.resize w h).resize s.w s.h).bot = s.top
  rw [hbot, hb1]; omega

theorem resize_idem (s : Scr) (w h : Nat) (hw : 1 ≤ w) (hh : 1 ≤ h) :
    (s.resize w h).resize w h = s.resize w h :=
  resize_same_size _ (resize_geo s w h hw hh)

theorem resize_init (w0 h0 w h : Nat) : (Scr.init w0 h0).resize w h = Scr.init w h := by
  have hbot : clampNat ((h : Int) - ((h0 : Int) - ((h0 - 1 : Nat) : Int))) (h - 1) = h - 1 := by
    unfold clampNat; omega
  simp only [Scr.init, Scr.resize, hbot]
  simp only [List.take_replicate, List.map_replicate, fitRow_blankRow, List.length_replicate,
    List.replicate_append_replicate]
  have : min h h0 + (h - min h h0) = h := by omega
  simp only [this, Nat.zero_min]
  congr 1 <;> exact ite_self _

/-! ## both buffers (`Term.resize`) -/

def TGeo (t : Term) : Prop := Geo t.main ∧ Geo t.alt ∧ t.main.w = t.alt.w ∧ t.main.h = t.alt.h

/-- `Resize` acts on both buffers with `Scr.resize`, and touches nothing else (which buffer is
    shown, view flags, mouse modes, titles, both keyboard-flag stacks, the text policy). -/
theorem term_resize_fields (t : Term) (w h : Nat) :
    let t' := (t.resize w h).1
    t'.main = t.main.resize w h ∧ t'.alt = t.alt.resize w h ∧ t'.onAlt = t.onAlt ∧
    t'.pol = t.pol ∧ t'.vflags = t.vflags ∧ t'.vints = t.vints ∧ t'.vstrs = t.vstrs ∧
    t'.kmain = t.kmain ∧ t'.kalt = t.kalt ∧ t'.scr = t.scr.resize w h := by
  refine ⟨rfl, rfl, rfl, rfl, rfl, rfl, rfl, rfl, rfl, ?_⟩
  simp only [Term.resize, Term.scr]
  split <;> rfl

theorem term_resize_size (t : Term) (w h : Nat) :
    let t' := (t.resize w h).1
    t'.scr.w = w ∧ t'.scr.h = h ∧ t'.main.w = w ∧ t'.main.h = h ∧ t'.alt.w = w ∧ t'.alt.h = h := by
  refine ⟨?_, ?_, rfl, rfl, rfl, rfl⟩ <;> simp only [Term.resize, Term.scr] <;> split <;> rfl

/-- the overlap / new-cell description holds for the main and for the alternate buffer, whichever
    is active -/
theorem term_resize_cells (t : Term) (w h x y : Nat) (hx : x < w) (hy : y < h)
    (b : Term → Scr) (hb : b = Term.main ∨ b = Term.alt) (hg : GridOK (b t)) :
    let old := b t
    let new := b (t.resize w h).1
    (y < old.h → x < old.w →
      (new.row y)[x]? =
        if contAt (old.row y) w = true ∧ headOf (old.row y) w ≤ x ∧
            x < headOf (old.row y) w + widthAt (old.row y) (headOf (old.row y) w)
        then some (blank old.sty) else (old.row y)[x]?) ∧
    (old.w ≤ x ∨ old.h ≤ y → (new.row y)[x]? = some (blank old.sty)) := by
  have hnew : b (t.resize w h).1 = (b t).resize w h := by
    rcases hb with rfl | rfl <;> rfl
  simp only [hnew]
  exact ⟨fun h1 h2 => resize_overlap _ w h x y hg (by omega) (by omega),
    fun h1 => resize_new_cells _ w h x y hg hy hx h1⟩

/-- after `Resize(w,h)` with `w,h ≥ 1` the terminal is a valid `w × h` terminal, whatever it was
    before: this is what makes every later input behave as on a terminal of that size (all
    later processing starts from a state satisfying the invariant of a `w × h` terminal, see
    `C02.apply_geo`). -/
theorem term_resize_geo (t : Term) (w h : Nat) (hw : 1 ≤ w) (hh : 1 ≤ h) :
    TGeo (t.resize w h).1 ∧ (t.resize w h).1.scr.w = w ∧ (t.resize w h).1.scr.h = h :=
  ⟨⟨resize_geo t.main w h hw hh, resize_geo t.alt w h hw hh, rfl, rfl⟩,
    (term_resize_size t w h).1, (term_resize_size t w h).2.1⟩

/-- the events of a resize: both renditions, then cursor and rendition of the active buffer;
    the reported cursor is inside the new screen -/
theorem term_resize_events (t : Term) (w h : Nat) (hw : 1 ≤ w) (hh : 1 ≤ h) :
    let s' := t.scr.resize w h       -- the new active screen, see `term_resize_fields`
    (t.resize w h).2 = [.style t.main.sty, .style t.alt.sty, .cursor s'.cx s'.cy, .style t.scr.sty] ∧
    s'.cx < w ∧ s'.cy < h := by
  obtain ⟨a, b, _⟩ := resize_valid t.scr w h hw hh
  refine ⟨?_, a, b⟩
  obtain ⟨pol, main, alt, onAlt, vf, vi, vs, km, ka⟩ := t
  cases onAlt <;> rfl

/-- A valid terminal resized to the size it already has is unchanged: it behaves afterwards
    exactly as if the `Resize` had not happened. -/
theorem term_resize_same_size (t : Term) (hg : TGeo t) : (t.resize t.main.w t.main.h).1 = t := by
  obtain ⟨hm, ha, hw, hh⟩ := hg
  have h1 : t.main.resize t.main.w t.main.h = t.main := resize_same_size _ hm
  have h2 : t.alt.resize t.main.w t.main.h = t.alt := by rw [hw, hh]; exact resize_same_size _ ha
  simp only [Term.resize, h1, h2]

/-- A freshly created terminal resized to `(w,h)` is the freshly created `w × h` terminal: it
    behaves afterwards exactly as a terminal that always had that size. -/
theorem term_resize_init (pol : WidePolicy) (w0 h0 w h : Nat) :
    ((Term.init pol w0 h0).resize w h).1 = Term.init pol w h := by
  simp only [Term.resize, Term.init, resize_init]

theorem term_resize_idem (t : Term) (w h : Nat) (hw : 1 ≤ w) (hh : 1 ≤ h) :
    ((t.resize w h).1.resize w h).1 = (t.resize w h).1 :=
  term_resize_same_size (t.resize w h).1 (term_resize_geo t w h hw hh).1

/-! ## well-formedness of rows -/

theorem fitRow_rowWF (r : Row) (w : Nat) (st : Style) (hwf : rowWF r = true) :
    rowWF (fitRow r w st) = true := (C02.fitRow_rowWF r w st hwf).1

theorem resize_inv (s : Scr) (w h : Nat) (hw : 1 ≤ w) (hh : 1 ≤ h)
    (hwf : ∀ r ∈ s.grid, rowWF r = true) : (s.resize w h).inv = true :=
  -- C02's `sok_resize` at `rowInv_top` (`rowWF`, no condition on widths); `sok_iff` gives `Scr.inv`
  ((C02.Lemmas.sok_iff _ _).1 (C02.Lemmas.sok_resize (C02.Lemmas.rowInv_top .blank) s
    (fun r m => ⟨hwf r m, fun _ _ _ _ => trivial⟩) trivial w h hw hh)).1

/-! ## Non-vacuity -/

section Examples

/-- 4 × 2 screen, row 0 = `a`, a double-width character, a blank; cursor in the last column of
    the last row; saved cursor (2,1); margins 0..1 -/
def exS : Scr :=
  { w := 4, h := 2,
    grid := [[⟨.ch [0x61] 1, Style.default⟩, ⟨.ch [0xe4, 0xb8, 0xad] 2, Style.default⟩,
              ⟨.cont, Style.default⟩, blank Style.default],
             [⟨.ch [0x62] 1, Style.default⟩, blank Style.default, blank Style.default,
              ⟨.ch [0x63] 1, Style.default⟩]],
    cx := 3, cy := 1, sx := 2, sy := 1, top := 0, bot := 1, wrap := true, sty := Style.default }

example : Geo exS := by simp [Geo, exS, blank]
example : GridOK exS := by simp [GridOK, exS, blank]
example : exS.inv = true := by decide
-- the hypotheses of `resize_overlap_wf` hold, and the cut really happens: shrinking to width 2
-- cuts the wide character at columns 1–2, column 1 becomes a blank, column 0 is kept
example : contAt (exS.row 0) 2 = true ∧ headOf (exS.row 0) 2 = 1 ∧ rowWF (exS.row 0) = true := by
  decide
example : ((exS.resize 2 3).row 0)[1]? = some (blank Style.default) := by decide
example : ((exS.resize 2 3).row 0)[0]? = (exS.row 0)[0]? := by decide
example : ((exS.resize 2 3).row 2)[1]? = some (blank Style.default) := by decide
-- cursor outside the new width goes to column 0, the row is kept; margins stay full-screen
example : (exS.resize 2 3).cx = 0 ∧ (exS.resize 2 3).cy = 1 ∧ (exS.resize 2 3).sx = 0 ∧
    (exS.resize 2 3).top = 0 ∧ (exS.resize 2 3).bot = 2 := by decide
-- growing keeps everything
example : (exS.resize 6 2).row 0 = exS.row 0 ++ [blank Style.default, blank Style.default] := by
  decide
example : TGeo (Term.init .keep 80 24) := by
  simp [TGeo, Geo, Term.init, Scr.init, blankRow]

end Examples

end TM.C18

#print axioms TM.C18.resize_size
#print axioms TM.C18.resize_overlap
#print axioms TM.C18.resize_overlap_uncut
#print axioms TM.C18.resize_overlap_wider
#print axioms TM.C18.resize_overlap_wf
#print axioms TM.C18.cut_only_when_narrower
#print axioms TM.C18.resize_new_cells
#print axioms TM.C18.resize_valid
#print axioms TM.C18.resize_cursor_kept
#print axioms TM.C18.resize_margins
#print axioms TM.C18.resize_full_margins
#print axioms TM.C18.resize_geo
#print axioms TM.C18.resize_same_size
#print axioms TM.C18.resize_idem
#print axioms TM.C18.resize_grow_shrink
#print axioms TM.C18.resize_init
#print axioms TM.C18.term_resize_fields
#print axioms TM.C18.term_resize_size
#print axioms TM.C18.term_resize_cells
#print axioms TM.C18.term_resize_geo
#print axioms TM.C18.term_resize_events
#print axioms TM.C18.term_resize_same_size
#print axioms TM.C18.term_resize_init
#print axioms TM.C18.term_resize_idem
#print axioms TM.C18.fitRow_rowWF
#print axioms TM.C18.resize_inv
