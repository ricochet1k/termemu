import TM.Stream
/-!
# C16 — `Terminal.Write` when a backend call may fail after accepting bytes

`io.Writer` allows `Write` to return `n > 0` together with an error; `Terminal.Write` counts the
bytes of the failing call and returns the error. Model: `TM/Stream.lean` — `WCall`, `WScriptP`,
`writeAllP`, `terminalWriteP`. A script whose failing calls accept nothing (`WScript`,
`terminalWrite`) is the special case `WScript.toP` (`writeP_embeds`): the loop is analysed here, and
`Props/C16.lean` reads its statements off. How many bytes go out and which error is returned depends
only on `len(b)` and the script (`Lemmas.wlen`, `writeAllP_eq`); what is proved about the loop is
arithmetic about `wlen` (`wlen_spec`, `wlen_pre`).

For every slice and every script: the count returned is exact (`writeP_prefix`); no error means
everything was delivered, but `n = len(b)` does not mean no error, since a failing call may accept
all that remains (`writeP_nil_iff_all`, counterexample in `Examples`); an error is never dropped,
whatever progress the failing call made (`writeP_fail_with_progress`), and it names its culprit in
the script (`writeP_error_sound`).
-/
namespace TM.C16P
open TM

namespace Lemmas

theorem writeAllP_embeds : ∀ (fuel : Nat) (b : Bytes) (s : WScript) (total : Nat) (del : Bytes),
    writeAllP fuel b s.toP total del = writeAll fuel b s total del := by
  intro fuel
  induction fuel with
  | zero => intro b s total del; rfl
  | succ fuel ih =>
    intro b s total del
    unfold writeAllP writeAll
    split
    · rfl
    · cases s with
      | nil => rfl
      | cons c rest =>
        cases c with
        | none => simp [WScript.toP]
        | some k =>
          have := ih (b.drop (min k b.length)) rest (total + min k b.length)
            (del ++ b.take (min k b.length))
          simp only [WScript.toP] at this
          simp [WScript.toP, this]

/-- The loop `writeAllP` in closed form (`writeAllP_eq`): on a slice of `L` bytes it returns
    `(total + n, e, del ++ b.take n)` with `(n, e) = wlen L script`. Which bytes they are plays no part,
    and there is no fuel: each step uses up one call of the script. -/
def wlen : Nat → WScriptP → Nat × WErr
  | L, [] => (L, .nil)
  | L, c :: rest =>
    if L = 0 then (0, .nil)
    else if c.fails then (min c.k L, .injected)
    else if min c.k L = 0 then (0, .shortWrite)
    else (min c.k L + (wlen (L - min c.k L) rest).1, (wlen (L - min c.k L) rest).2)

theorem writeAllP_eq : ∀ (script : WScriptP) (fuel : Nat) (b : Bytes) (total : Nat) (del : Bytes),
    b.length < fuel → writeAllP fuel b script total del =
      (total + (wlen b.length script).1, (wlen b.length script).2, del ++ b.take (wlen b.length script).1) := by
  intro script
  induction script with
  | nil =>
    intro fuel b total del hf
    obtain ⟨f, rfl⟩ : ∃ f, fuel = f + 1 := ⟨fuel - 1, by omega⟩
    cases b <;> simp [writeAllP, wlen]
  | cons c rest ih =>
    intro fuel b total del hf
    obtain ⟨f, rfl⟩ : ∃ f, fuel = f + 1 := ⟨fuel - 1, by omega⟩
    cases b with
    | nil => simp [writeAllP, wlen]
    | cons x xs =>
      have hk : min c.k (x :: xs).length ≤ (x :: xs).length := Nat.min_le_right _ _
      have h0 : (x :: xs).length ≠ 0 := by simp
      rw [writeAllP, wlen, if_neg h0]
      simp only [List.isEmpty_cons, Bool.false_eq_true, if_false]
      split
      · rfl
      · split
        · simp
        · rw [ih f _ _ _ (by rw [List.length_drop]; omega), List.length_drop, List.take_add,
            List.append_assoc, Nat.add_assoc]

theorem wlen_zero (s : WScriptP) : wlen 0 s = (0, .nil) := by
  cases s <;> simp [wlen]

theorem wlen_cons {L : Nat} (hL : L ≠ 0) (c : WCall) (rest : WScriptP) : wlen L (c :: rest) =
    if c.fails then (min c.k L, .injected)
    else if min c.k L = 0 then (0, .shortWrite)
    else (min c.k L + (wlen (L - min c.k L) rest).1, (wlen (L - min c.k L) rest).2) := by
  rw [wlen, if_neg hL]

/-- Everything about a finished `Write`: no error means all `L` bytes went out; all of them with an
    error means a failing call that accepted something; each error names its culprit in the script. -/
theorem wlen_spec : ∀ (script : WScriptP) (L : Nat),
    (wlen L script).1 ≤ L ∧ ((wlen L script).2 = .nil → (wlen L script).1 = L) ∧
      ((wlen L script).1 = L → (wlen L script).2 = .nil ∨ ∃ c ∈ script, c.fails = true ∧ 0 < c.k) ∧
      ((wlen L script).2 = .injected → ∃ c ∈ script, c.fails = true) ∧
      ((wlen L script).2 = .shortWrite → ∃ c ∈ script, c.fails = false ∧ c.k = 0) := by
  intro script
  induction script with
  | nil => intro L; exact ⟨Nat.le_refl _, fun _ => rfl, fun _ => .inl rfl, nofun, nofun⟩
  | cons c rest ih =>
    intro L
    by_cases hL : L = 0
    · subst hL; rw [wlen_zero]; exact ⟨Nat.le_refl _, fun _ => rfl, fun _ => .inl rfl, nofun, nofun⟩
    rw [wlen_cons hL]
    have hk : min c.k L ≤ L := Nat.min_le_right _ _
    split
    · rename_i hf
      exact ⟨hk, nofun, fun hm => .inr ⟨c, List.mem_cons_self .., hf, by omega⟩,
        fun _ => ⟨c, List.mem_cons_self .., hf⟩, nofun⟩
    · rename_i hf
      split
      · exact ⟨Nat.zero_le _, nofun, fun hm => absurd hm.symm hL, nofun,
          fun _ => ⟨c, List.mem_cons_self .., by simpa using hf, by omega⟩⟩
      · obtain ⟨h1, h2, h3, h4, h5⟩ := ih (L - min c.k L)
        have up : ∀ {P : WCall → Prop}, (∃ c' ∈ rest, P c') → ∃ c' ∈ c :: rest, P c' :=
          fun ⟨c', m, p⟩ => ⟨c', List.mem_cons_of_mem _ m, p⟩
        exact ⟨by omega, fun h => by have := h2 h; omega, fun h => (h3 (by omega)).imp id up,
          fun h => up (h4 h), fun h => up (h5 h)⟩

/-- calls that accept their full `k > 0`: while more than that remains the loop goes on to the rest
    of the script; once they cover the slice it stops, whatever follows -/
theorem wlen_pre (rest : WScriptP) : ∀ (pre : List Nat) (L : Nat), (∀ k ∈ pre, 0 < k) →
    wlen L (pre.map (⟨·, false⟩) ++ rest) =
      if pre.sum < L then (pre.sum + (wlen (L - pre.sum) rest).1, (wlen (L - pre.sum) rest).2)
      else (L, .nil) := by
  intro pre
  induction pre with
  | nil => intro L _; cases L <;> simp [wlen_zero]
  | cons k pre ih =>
    intro L hp
    have hk0 : 0 < k := hp k (List.mem_cons_self ..)
    by_cases hL : L = 0
    · subst hL; rw [wlen_zero, if_neg (Nat.not_lt_zero _)]
    rw [List.map_cons, List.cons_append, wlen_cons hL]
    dsimp only
    rw [if_neg Bool.false_ne_true, if_neg (by omega), ih _ fun x hx => hp x (List.mem_cons_of_mem _ hx),
      List.sum_cons]
    by_cases hkL : k ≤ L
    · rw [Nat.min_eq_left hkL]
      by_cases hs : k + pre.sum < L
      · rw [if_pos (by omega), if_pos hs, Nat.sub_sub, Nat.add_assoc]
      · rw [if_neg (by omega), if_neg hs]; congr 1; omega
    · rw [Nat.min_eq_right (by omega), if_neg (by omega), if_neg (by omega)]; congr 1; omega

theorem terminalWriteP_eq (b : Bytes) (script : WScriptP) : terminalWriteP b script =
    ((wlen b.length script).1, (wlen b.length script).2, b.take (wlen b.length script).1) := by
  rw [terminalWriteP, writeAllP_eq _ _ _ _ _ (Nat.lt_succ_self _), Nat.zero_add, List.nil_append]

end Lemmas
open Lemmas

/-- **The scripts of `terminalWrite` are a special case**: a failing call that writes nothing is `⟨0, true⟩`. -/
theorem writeP_embeds (b : Bytes) (s : WScript) : terminalWriteP b s.toP = terminalWrite b s :=
  writeAllP_embeds _ b s 0 []

/-- `wlen_spec` for `terminalWriteP`: the statement from which the theorems below, and those about
`terminalWrite` in `Props/C16.lean`, are read off -/
theorem writeP_spec (b : Bytes) (script : WScriptP) (n : Nat) (e : WErr) (del : Bytes)
    (h : terminalWriteP b script = (n, e, del)) :
    n ≤ b.length ∧ del = b.take n ∧ (e = .nil → n = b.length) ∧
      (n = b.length → e = .nil ∨ ∃ c ∈ script, c.fails = true ∧ 0 < c.k) ∧
      (e = .injected → ∃ c ∈ script, c.fails = true) ∧
      (e = .shortWrite → ∃ c ∈ script, c.fails = false ∧ c.k = 0) := by
  rw [terminalWriteP_eq] at h
  cases h
  exact ⟨(wlen_spec script _).1, rfl, (wlen_spec script _).2⟩

/-- **The count is exact**, also when a failing call made progress: the backend received exactly
the prefix of `b` of the reported length. -/
theorem writeP_prefix (b : Bytes) (script : WScriptP) (n : Nat) (e : WErr) (del : Bytes)
    (h : terminalWriteP b script = (n, e, del)) : del = b.take n ∧ n ≤ b.length :=
  have := writeP_spec b script n e del h
  ⟨this.2.1, this.1⟩

/-- **No error ⇒ everything was delivered; something undelivered ⇒ an error.** (The converse of
the first part is false: see `Examples`.) -/
theorem writeP_nil_iff_all (b : Bytes) (script : WScriptP) (n : Nat) (e : WErr) (del : Bytes)
    (h : terminalWriteP b script = (n, e, del)) :
    (e = .nil → n = b.length ∧ del = b) ∧ (n < b.length → e ≠ .nil) := by
  obtain ⟨_, h2, h3, _⟩ := writeP_spec b script n e del h
  refine ⟨fun he => ⟨h3 he, by rw [h2, h3 he, List.take_length]⟩, fun hn he => ?_⟩
  have := h3 he; omega

/-- **An error is never dropped, whatever progress the failing call made, at every call index.**
After calls accepting `pre = [k₁, …, kⱼ]` bytes (all positive, together fewer than `len(b)`), a
call that accepts `k` bytes AND fails makes `Write` return the error with the count including the
bytes of the failing call, the backend having received exactly that prefix. -/
theorem writeP_fail_with_progress (b : Bytes) (pre : List Nat) (k : Nat) (rest : WScriptP)
    (hp : ∀ x ∈ pre, 0 < x) (hs : pre.sum < b.length) :
    terminalWriteP b (pre.map (⟨·, false⟩) ++ ⟨k, true⟩ :: rest) =
      (pre.sum + min k (b.length - pre.sum), .injected,
        b.take (pre.sum + min k (b.length - pre.sum))) := by
  rw [terminalWriteP_eq, wlen_pre _ pre _ hp, if_pos hs, wlen_cons (by omega), if_pos rfl]

/-- `.injected` only from a failing call of the script, `io.ErrShortWrite` only from a
non-failing call that accepts 0 bytes. -/
theorem writeP_error_sound (b : Bytes) (script : WScriptP) (n : Nat) (e : WErr) (del : Bytes)
    (h : terminalWriteP b script = (n, e, del)) :
    (e = .injected → ∃ c ∈ script, c.fails = true) ∧
    (e = .shortWrite → ∃ c ∈ script, c.fails = false ∧ c.k = 0) :=
  (writeP_spec b script n e del h).2.2.2.2

theorem writeP_fuel_suffices (b : Bytes) (script : WScriptP) (f : Nat) (h : b.length < f) :
    writeAllP f b script 0 [] = terminalWriteP b script := by
  rw [terminalWriteP, writeAllP_eq _ _ _ _ _ h, writeAllP_eq _ _ _ _ _ (Nat.lt_succ_self _)]

namespace Examples

/-- a failing call that accepts ALL remaining bytes: `n = len(b)` WITH an error — so
    `e = .nil ↔ n = b.length` (true for `terminalWrite`) is false here -/
example : terminalWriteP [1, 2, 3] [⟨1, false⟩, ⟨5, true⟩] = (3, .injected, [1, 2, 3]) := by decide
/-- a failing call with partial progress -/
example : terminalWriteP [1, 2, 3, 4] [⟨1, false⟩, ⟨2, true⟩, ⟨9, false⟩] = (3, .injected, [1, 2, 3]) := by
  decide
/-- a failing call without progress: the `none` of `terminalWrite`'s script -/
example : terminalWriteP [1, 2, 3] [⟨2, false⟩, ⟨0, true⟩] = (2, .injected, [1, 2]) ∧
    terminalWrite [1, 2, 3] [some 2, none] = (2, .injected, [1, 2]) := by decide
/-- short writes, then success; a zero-length accept -/
example : terminalWriteP [1, 2, 3] [⟨1, false⟩, ⟨1, false⟩] = (3, .nil, [1, 2, 3]) ∧
    terminalWriteP [1, 2, 3] [⟨1, false⟩, ⟨0, false⟩] = (1, .shortWrite, [1]) := by decide
/-- the failing call is never reached when everything is written before it -/
example : terminalWriteP [1, 2] [⟨2, false⟩, ⟨1, true⟩] = (2, .nil, [1, 2]) := by decide

end Examples

end TM.C16P

#print axioms TM.C16P.writeP_embeds
#print axioms TM.C16P.writeP_prefix
#print axioms TM.C16P.writeP_nil_iff_all
#print axioms TM.C16P.writeP_fail_with_progress
#print axioms TM.C16P.writeP_error_sound
#print axioms TM.C16P.writeP_fuel_suffices
