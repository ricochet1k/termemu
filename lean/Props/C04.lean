import Props.C06
import Proofs.Refine
import Proofs.Term
/-!
# C04 — cursor motion controls

BS, DEL, HT, CR, LF / FF / IND / RI, CUU / CUD / CUF / CUB, CHA, VPA, CUP / HVP and
save / restore cursor (`CSI s` / `CSI u`) move the cursor to the position the control function
defines (omitted parameters default to 1, targets clamp to the screen). They change screen
content only when an index or line feed crosses the edge of the scroll region, and then only by
scrolling that region.

Model: `TM.Term.apply` on `.ctl 8/127/9/10/12/13`, `.esc [] 0x44/0x4d` and the `A B C D G d H f s u`
rows of `TM.Term.csiPlain`. Everything is stated for the *active* screen `t.scr` of an arbitrary
terminal `t`, for every `Int` parameter list (absent, 0, 1, in range, beyond the screen, huge,
even negative), every cursor position, every margin setting and every size. The cursor formulas
assume the part `Scr.CursorIn` (`cx < w ∧ cy < h`) of `Scr.inv` (`cursorIn_of_inv`); `CSI u` lands
on the screen when the saved cursor is there (`Scr.SavedIn`); the row-by-row description of a
scroll uses the parts `grid.length = h`, `top ≤ bot`, `bot < h`; `run_preserves_inv` is about the
whole of `Scr.inv`.

Coordinates are 0-based; positions are compared in `Int` so that `x - n` is a true subtraction.
-/
namespace TM.C04

/-! ## Positions on the screen, the eighteen controls and their tokens -/

/-- the cursor is on the screen (part of `Scr.inv`) -/
def _root_.TM.Scr.CursorIn (s : Scr) : Prop := s.cx < s.w ∧ s.cy < s.h

/-- the saved cursor is on the screen (part of `Scr.inv`) -/
def _root_.TM.Scr.SavedIn (s : Scr) : Prop := s.sx < s.w ∧ s.sy < s.h

instance (s : Scr) : Decidable s.CursorIn := by unfold Scr.CursorIn; infer_instance
instance (s : Scr) : Decidable s.SavedIn := by unfold Scr.SavedIn; infer_instance

def after (cw : Nat → Nat) (t : Term) (tok : Tok) : Scr := (t.apply cw tok).1.scr

def events (cw : Nat → Nat) (t : Term) (tok : Tok) : List Ev := (t.apply cw tok).2

def inactive (t : Term) : Scr := if t.onAlt then t.main else t.alt

/-- everything of the terminal that is not the active screen buffer is identical -/
def SameOutside (t t' : Term) : Prop :=
  t'.pol = t.pol ∧ t'.onAlt = t.onAlt ∧ inactive t' = inactive t ∧
  t'.vflags = t.vflags ∧ t'.vints = t.vints ∧ t'.vstrs = t.vstrs ∧
  t'.kmain = t.kmain ∧ t'.kalt = t.kalt

inductive Motion
  | bs | del | ht | cr | lf | ff | ind | ri
  | cuu (ps : List Int) | cud (ps : List Int) | cuf (ps : List Int) | cub (ps : List Int)
  | cha (ps : List Int) | vpa (ps : List Int) | cup (ps : List Int) | hvp (ps : List Int)
  | save (ps : List Int) | restore (ps : List Int)
deriving Repr

def Motion.tok : Motion → Tok
  | .bs => .ctl 8
  | .del => .ctl 127
  | .ht => .ctl 9
  | .cr => .ctl 13
  | .lf => .ctl 10
  | .ff => .ctl 12
  | .ind => .esc [] 0x44
  | .ri => .esc [] 0x4d
  | .cuu ps => .csi 0 ps true 0x41
  | .cud ps => .csi 0 ps true 0x42
  | .cuf ps => .csi 0 ps true 0x43
  | .cub ps => .csi 0 ps true 0x44
  | .cha ps => .csi 0 ps true 0x47
  | .vpa ps => .csi 0 ps true 0x64
  | .cup ps => .csi 0 ps true 0x48
  | .hvp ps => .csi 0 ps true 0x66
  | .save ps => .csi 0 ps true 0x73
  | .restore ps => .csi 0 ps true 0x75

def Motion.isSave : Motion → Bool | .save _ => true | _ => false
/-- LF, FF, IND, RI: the controls that may scroll -/
def Motion.isIndex : Motion → Bool | .lf | .ff | .ind | .ri => true | _ => false
def Motion.isDown : Motion → Bool | .lf | .ff | .ind => true | _ => false

def run (cw : Nat → Nat) (t : Term) (ms : List Motion) : Term :=
  ms.foldl (fun t m => (t.apply cw m.tok).1) t

/-! ## What each control does to the active screen -/

namespace Lemmas

def step : Motion → Scr → Scr
  | .bs, s | .del, s => { s with cx := s.cx - 1 }
  | .ht, s => s.setCursor (((s.cx / 8) + 1) * 8 : Nat) s.cy
  | .cr, s => { s with cx := 0 }
  | .lf, s => ({ s with cx := 0 } : Scr).lineDown
  | .ff, s | .ind, s => s.lineDown
  | .ri, s => s.lineUp
  | .cuu ps, s => s.setCursor s.cx (s.cy - pMove ps)
  | .cud ps, s => s.setCursor s.cx (s.cy + pMove ps)
  | .cuf ps, s => s.setCursor (s.cx + pMove ps) s.cy
  | .cub ps, s => s.setCursor (s.cx - pMove ps) s.cy
  | .cha ps, s => s.setCursor (p0 ps 1 - 1) s.cy
  | .vpa ps, s => s.setCursor s.cx (p0 ps 1 - 1)
  | .cup ps, s | .hvp ps, s => s.setCursor (pAt ps 1 1 - 1) (pAt ps 0 1 - 1)
  | .save _, s => s.saveCursor
  | .restore _, s => s.restoreCursor

theorem apply_tok (cw : Nat → Nat) (t : Term) (m : Motion) :
    t.apply cw m.tok =
      if m.isSave then (t.setScr (step m t.scr), []) else t.withScr (step m t.scr) := by
  cases m <;> rfl

theorem apply_tok_congr (cw : Nat → Nat) (t : Term) (m m' : Motion) (hs : m.isSave = m'.isSave)
    (h : step m t.scr = step m' t.scr) : t.apply cw m.tok = t.apply cw m'.tok := by
  rw [apply_tok, apply_tok, hs, h]

theorem after_tok (cw : Nat → Nat) (t : Term) (m : Motion) : after cw t m.tok = step m t.scr := by
  unfold after; rw [apply_tok]; cases m.isSave <;> simp [Term.withScr]

theorem events_tok (cw : Nat → Nat) (t : Term) (m : Motion) :
    events cw t m.tok =
      if m.isSave then [] else [.cursor (after cw t m.tok).cx (after cw t m.tok).cy] := by
  rw [after_tok]; unfold events; rw [apply_tok]; cases m.isSave <;> simp [Term.withScr]

theorem sameOutside_setScr (t : Term) (s : Scr) : SameOutside t (t.setScr s) := by
  refine ⟨t.setScr_pol s, t.setScr_onAlt s, ?_, t.setScr_vflags s, t.setScr_vints s, t.setScr_vstrs s,
    t.setScr_kmain s, t.setScr_kalt s⟩
  unfold inactive
  rw [t.setScr_onAlt s]
  cases h : t.onAlt
  · exact Term.setScr_alt_of_main h s
  · exact Term.setScr_main_of_alt h s

theorem outside_tok (cw : Nat → Nat) (t : Term) (m : Motion) :
    SameOutside t (t.apply cw m.tok).1 := by
  rw [apply_tok]; cases m.isSave <;> simp [Term.withScr, sameOutside_setScr]

/-- A fact about every motion control follows from the same fact about: placing the cursor, moving
    it to a column not right of where it is, a line feed from such a column (LF, FF, IND only), a
    reverse index (RI only), saving (`CSI s` only) and restoring the cursor. -/
theorem step_cases {Q : Scr → Prop} (m : Motion) (s : Scr)
    (place : ∀ x y, Q (s.setCursor x y)) (col : ∀ c, c ≤ s.cx → Q { s with cx := c })
    (down : m.isDown = true → ∀ c, c ≤ s.cx → Q ({ s with cx := c } : Scr).lineDown)
    (up : m = .ri → Q s.lineUp) (save : m.isSave = true → Q s.saveCursor)
    (restore : Q s.restoreCursor) : Q (step m s) := by
  cases m with
  | bs | del => exact col _ (Nat.sub_le ..)
  | cr => exact col _ (Nat.zero_le _)
  | lf => exact down rfl _ (Nat.zero_le _)
  | ff | ind => exact down rfl _ (Nat.le_refl _)
  | ri => exact up rfl
  | save => exact save rfl
  | restore => exact restore
  | ht | cuu | cud | cuf | cub | cha | vpa | cup | hvp => exact place _ _

theorem isIndex_of_isDown (m : Motion) (h : m.isDown = true) : m.isIndex = true := by
  cases m <;> first | rfl | cases h

theorem clampNat_eq (v : Int) (hi : Nat) :
    ((clampNat v hi : Nat) : Int) = min (max v 0) (hi : Int) := by
  unfold clampNat; omega

theorem setCursor_in (s : Scr) (x y : Int) (hc : s.CursorIn) :
    ((s.setCursor x y).cx : Int) = min (max x 0) ((s.w : Int) - 1) ∧
    ((s.setCursor x y).cy : Int) = min (max y 0) ((s.h : Int) - 1) ∧ (s.setCursor x y).CursorIn := by
  have hw : ((s.w - 1 : Nat) : Int) = (s.w : Int) - 1 := by have := hc.1; omega
  have hh : ((s.h - 1 : Nat) : Int) = (s.h : Int) - 1 := by have := hc.2; omega
  refine ⟨by rw [← hw]; exact clampNat_eq x _, by rw [← hh]; exact clampNat_eq y _, ?_, ?_⟩
  · have := clampNat_le x (s.w - 1); have := hc.1; show clampNat x (s.w - 1) < s.w; omega
  · have := clampNat_le y (s.h - 1); have := hc.2; show clampNat y (s.h - 1) < s.h; omega

theorem setCursor_keep (s : Scr) (x y : Int) (hc : s.CursorIn) :
    (s.setCursor s.cx y).cx = s.cx ∧ (s.setCursor x s.cy).cy = s.cy := by
  have := hc.1; have := hc.2
  exact ⟨by rw [setCursor_cx, clampNat_ofNat (by omega)], by rw [setCursor_cy, clampNat_ofNat (by omega)]⟩

theorem lineDown_in (s : Scr) (hc : s.CursorIn) :
    s.lineDown.cx = s.cx ∧
    s.lineDown.cy = (if s.cy = s.bot then s.cy else if s.cy + 1 < s.h then s.cy + 1 else s.cy) ∧
    s.lineDown.CursorIn := by
  unfold Scr.CursorIn at *
  rw [(shift_lineDown s).w, (shift_lineDown s).h, lineDown_cx, lineDown_cy]
  refine ⟨rfl, ?_, hc.1, ?_⟩
  · by_cases hb : s.cy = s.bot <;> by_cases hh : s.cy + 1 < s.h <;> simp [hb, hh]
  · split <;> omega

theorem lineUp_in (s : Scr) (hc : s.CursorIn) :
    s.lineUp.cx = s.cx ∧
    (s.lineUp.cy : Int) = (if s.cy = s.top then (s.cy : Int) else max ((s.cy : Int) - 1) 0) ∧
    s.lineUp.CursorIn := by
  unfold Scr.CursorIn at *
  rw [lineUp_eq]
  split
  · exact ⟨rfl, rfl, hc⟩
  · split
    · exact ⟨rfl, by show ((s.cy - 1 : Nat) : Int) = _; omega, hc.1, by show s.cy - 1 < s.h; omega⟩
    · exact ⟨rfl, by omega, hc⟩

theorem scroll_frame (s : Scr) (a b : Nat) (d : Int) :
    s.scroll a b d = { s with grid := (s.scroll a b d).grid } :=
  TM.scroll_eq_grid s a b d

end Lemmas
open Lemmas

theorem cursorIn_of_inv (s : Scr) (h : s.inv = true) :
    s.CursorIn ∧ s.SavedIn ∧ 1 ≤ s.w ∧ 1 ≤ s.h ∧ s.grid.length = s.h ∧ s.top ≤ s.bot ∧ s.bot < s.h := by
  obtain ⟨hl, _, g⟩ := (inv_iff_geo s).1 h
  exact ⟨⟨g.cx_lt, g.cy_lt⟩, ⟨g.sx_lt, g.sy_lt⟩, g.w_pos, g.h_pos, hl, g.top_le, g.bot_lt⟩

/-! ## Where the cursor goes -/

/-- BS: one column left, stopping at column 0 -/
theorem bs_cursor (cw : Nat → Nat) (t : Term) (hc : t.scr.CursorIn) :
    ((after cw t (.ctl 8)).cx : Int) = max ((t.scr.cx : Int) - 1) 0 ∧
    (after cw t (.ctl 8)).cy = t.scr.cy ∧ (after cw t (.ctl 8)).CursorIn := by
  rw [show after cw t (.ctl 8) = _ from after_tok cw t .bs]
  exact ⟨by show ((t.scr.cx - 1 : Nat) : Int) = _; omega, rfl,
    Nat.lt_of_le_of_lt (Nat.sub_le _ _) hc.1, hc.2⟩

/-- DEL is treated as BS -/
theorem del_cursor (cw : Nat → Nat) (t : Term) (hc : t.scr.CursorIn) :
    ((after cw t (.ctl 127)).cx : Int) = max ((t.scr.cx : Int) - 1) 0 ∧
    (after cw t (.ctl 127)).cy = t.scr.cy ∧ (after cw t (.ctl 127)).CursorIn := by
  rw [show after cw t (.ctl 127) = _ from after_tok cw t .del]
  exact ⟨by show ((t.scr.cx - 1 : Nat) : Int) = _; omega, rfl,
    Nat.lt_of_le_of_lt (Nat.sub_le _ _) hc.1, hc.2⟩

/-- HT: next multiple of 8, stopping at the last column -/
theorem ht_cursor (cw : Nat → Nat) (t : Term) (hc : t.scr.CursorIn) :
    ((after cw t (.ctl 9)).cx : Int) = min (((t.scr.cx : Int) / 8 + 1) * 8) ((t.scr.w : Int) - 1) ∧
    (after cw t (.ctl 9)).cy = t.scr.cy ∧ (after cw t (.ctl 9)).CursorIn := by
  rw [show after cw t (.ctl 9) = _ from after_tok cw t .ht]
  obtain ⟨hx, -, hin⟩ := setCursor_in t.scr (((t.scr.cx / 8) + 1) * 8 : Nat) t.scr.cy hc
  exact ⟨hx.trans (by omega), (setCursor_keep t.scr _ 0 hc).2, hin⟩

/-- CR: column 0 of the same row -/
theorem cr_cursor (cw : Nat → Nat) (t : Term) (hc : t.scr.CursorIn) :
    (after cw t (.ctl 13)).cx = 0 ∧ (after cw t (.ctl 13)).cy = t.scr.cy ∧
    (after cw t (.ctl 13)).CursorIn := by
  rw [show after cw t (.ctl 13) = _ from after_tok cw t .cr]
  exact ⟨rfl, rfl, Nat.lt_of_le_of_lt (Nat.zero_le _) hc.1, hc.2⟩

/-- LF: column 0; one row down unless on the bottom margin (then the region scrolls and the
    cursor stays) or on the last row of the screen -/
theorem lf_cursor (cw : Nat → Nat) (t : Term) (hc : t.scr.CursorIn) :
    (after cw t (.ctl 10)).cx = 0 ∧
    (after cw t (.ctl 10)).cy =
      (if t.scr.cy = t.scr.bot then t.scr.cy
       else if t.scr.cy + 1 < t.scr.h then t.scr.cy + 1 else t.scr.cy) ∧
    (after cw t (.ctl 10)).CursorIn := by
  rw [show after cw t (.ctl 10) = _ from after_tok cw t .lf]
  exact lineDown_in ({ t.scr with cx := 0 } : Scr) ⟨Nat.lt_of_le_of_lt (Nat.zero_le _) hc.1, hc.2⟩

/-- FF: like LF but the column is kept -/
theorem ff_cursor (cw : Nat → Nat) (t : Term) (hc : t.scr.CursorIn) :
    (after cw t (.ctl 12)).cx = t.scr.cx ∧
    (after cw t (.ctl 12)).cy =
      (if t.scr.cy = t.scr.bot then t.scr.cy
       else if t.scr.cy + 1 < t.scr.h then t.scr.cy + 1 else t.scr.cy) ∧
    (after cw t (.ctl 12)).CursorIn := by
  rw [show after cw t (.ctl 12) = _ from after_tok cw t .ff]
  exact lineDown_in t.scr hc

/-- IND (`ESC D`): one row down, column kept; scroll instead on the bottom margin -/
theorem ind_cursor (cw : Nat → Nat) (t : Term) (hc : t.scr.CursorIn) :
    (after cw t (.esc [] 0x44)).cx = t.scr.cx ∧
    (after cw t (.esc [] 0x44)).cy =
      (if t.scr.cy = t.scr.bot then t.scr.cy
       else if t.scr.cy + 1 < t.scr.h then t.scr.cy + 1 else t.scr.cy) ∧
    (after cw t (.esc [] 0x44)).CursorIn := by
  rw [show after cw t (.esc [] 0x44) = _ from after_tok cw t .ind]
  exact lineDown_in t.scr hc

/-- RI (`ESC M`): one row up, column kept; scroll instead on the top margin; stay on row 0 -/
theorem ri_cursor (cw : Nat → Nat) (t : Term) (hc : t.scr.CursorIn) :
    (after cw t (.esc [] 0x4d)).cx = t.scr.cx ∧
    ((after cw t (.esc [] 0x4d)).cy : Int) =
      (if t.scr.cy = t.scr.top then (t.scr.cy : Int) else max ((t.scr.cy : Int) - 1) 0) ∧
    (after cw t (.esc [] 0x4d)).CursorIn := by
  rw [show after cw t (.esc [] 0x4d) = _ from after_tok cw t .ri]
  exact lineUp_in t.scr hc

/-- CUU `CSI n A`: `n` rows up, clamped to the screen (never scrolls, see
    `motion_preserves_content`). For `0 ≤ n` this is `max (y - n) 0`: `cuu_cursor_nonneg`. -/
theorem cuu_cursor (cw : Nat → Nat) (t : Term) (ps : List Int) (hc : t.scr.CursorIn) :
    (after cw t (.csi 0 ps true 0x41)).cx = t.scr.cx ∧
    ((after cw t (.csi 0 ps true 0x41)).cy : Int)
      = min (max ((t.scr.cy : Int) - pMove ps) 0) ((t.scr.h : Int) - 1) ∧
    (after cw t (.csi 0 ps true 0x41)).CursorIn := by
  rw [show after cw t (.csi 0 ps true 0x41) = _ from after_tok cw t (.cuu ps)]
  obtain ⟨-, hy, hin⟩ := setCursor_in t.scr t.scr.cx (t.scr.cy - pMove ps) hc
  exact ⟨(setCursor_keep t.scr 0 _ hc).1, hy, hin⟩

theorem cuu_cursor_nonneg (cw : Nat → Nat) (t : Term) (ps : List Int) (hc : t.scr.CursorIn)
    (hn : 0 ≤ pMove ps) :
    ((after cw t (.csi 0 ps true 0x41)).cy : Int) = max ((t.scr.cy : Int) - pMove ps) 0 := by
  have := cuu_cursor cw t ps hc
  simp only [Scr.CursorIn] at *
  omega

/-- CUD `CSI n B`: `n` rows down, clamped to the screen; never scrolls. For `0 ≤ n` this is
    `min (y + n) (h - 1)`. -/
theorem cud_cursor (cw : Nat → Nat) (t : Term) (ps : List Int) (hc : t.scr.CursorIn) :
    (after cw t (.csi 0 ps true 0x42)).cx = t.scr.cx ∧
    ((after cw t (.csi 0 ps true 0x42)).cy : Int)
      = min (max ((t.scr.cy : Int) + pMove ps) 0) ((t.scr.h : Int) - 1) ∧
    (after cw t (.csi 0 ps true 0x42)).CursorIn := by
  rw [show after cw t (.csi 0 ps true 0x42) = _ from after_tok cw t (.cud ps)]
  obtain ⟨-, hy, hin⟩ := setCursor_in t.scr t.scr.cx (t.scr.cy + pMove ps) hc
  exact ⟨(setCursor_keep t.scr 0 _ hc).1, hy, hin⟩

theorem cud_cursor_nonneg (cw : Nat → Nat) (t : Term) (ps : List Int) (hc : t.scr.CursorIn)
    (hn : 0 ≤ pMove ps) :
    ((after cw t (.csi 0 ps true 0x42)).cy : Int)
      = min ((t.scr.cy : Int) + pMove ps) ((t.scr.h : Int) - 1) := by
  have := cud_cursor cw t ps hc
  simp only [Scr.CursorIn] at *
  omega

/-- CUF `CSI n C`: `n` columns right, clamped; never wraps. For `0 ≤ n`: `min (x + n) (w - 1)` -/
theorem cuf_cursor (cw : Nat → Nat) (t : Term) (ps : List Int) (hc : t.scr.CursorIn) :
    ((after cw t (.csi 0 ps true 0x43)).cx : Int)
      = min (max ((t.scr.cx : Int) + pMove ps) 0) ((t.scr.w : Int) - 1) ∧
    (after cw t (.csi 0 ps true 0x43)).cy = t.scr.cy ∧
    (after cw t (.csi 0 ps true 0x43)).CursorIn := by
  rw [show after cw t (.csi 0 ps true 0x43) = _ from after_tok cw t (.cuf ps)]
  obtain ⟨hx, -, hin⟩ := setCursor_in t.scr (t.scr.cx + pMove ps) t.scr.cy hc
  exact ⟨hx, (setCursor_keep t.scr _ 0 hc).2, hin⟩

theorem cuf_cursor_nonneg (cw : Nat → Nat) (t : Term) (ps : List Int) (hc : t.scr.CursorIn)
    (hn : 0 ≤ pMove ps) :
    ((after cw t (.csi 0 ps true 0x43)).cx : Int)
      = min ((t.scr.cx : Int) + pMove ps) ((t.scr.w : Int) - 1) := by
  have := cuf_cursor cw t ps hc
  simp only [Scr.CursorIn] at *
  omega

/-- CUB `CSI n D`: `n` columns left, clamped. For `0 ≤ n`: `max (x - n) 0` -/
theorem cub_cursor (cw : Nat → Nat) (t : Term) (ps : List Int) (hc : t.scr.CursorIn) :
    ((after cw t (.csi 0 ps true 0x44)).cx : Int)
      = min (max ((t.scr.cx : Int) - pMove ps) 0) ((t.scr.w : Int) - 1) ∧
    (after cw t (.csi 0 ps true 0x44)).cy = t.scr.cy ∧
    (after cw t (.csi 0 ps true 0x44)).CursorIn := by
  rw [show after cw t (.csi 0 ps true 0x44) = _ from after_tok cw t (.cub ps)]
  obtain ⟨hx, -, hin⟩ := setCursor_in t.scr (t.scr.cx - pMove ps) t.scr.cy hc
  exact ⟨hx, (setCursor_keep t.scr _ 0 hc).2, hin⟩

theorem cub_cursor_nonneg (cw : Nat → Nat) (t : Term) (ps : List Int) (hc : t.scr.CursorIn)
    (hn : 0 ≤ pMove ps) :
    ((after cw t (.csi 0 ps true 0x44)).cx : Int) = max ((t.scr.cx : Int) - pMove ps) 0 := by
  have := cub_cursor cw t ps hc
  simp only [Scr.CursorIn] at *
  omega

/-- CHA `CSI n G`: column `n` (1-based), clamped to the row; row kept -/
theorem cha_cursor (cw : Nat → Nat) (t : Term) (ps : List Int) (hc : t.scr.CursorIn) :
    ((after cw t (.csi 0 ps true 0x47)).cx : Int)
      = min (max (p0 ps 1 - 1) 0) ((t.scr.w : Int) - 1) ∧
    (after cw t (.csi 0 ps true 0x47)).cy = t.scr.cy ∧
    (after cw t (.csi 0 ps true 0x47)).CursorIn := by
  rw [show after cw t (.csi 0 ps true 0x47) = _ from after_tok cw t (.cha ps)]
  obtain ⟨hx, -, hin⟩ := setCursor_in t.scr (p0 ps 1 - 1) t.scr.cy hc
  exact ⟨hx, (setCursor_keep t.scr _ 0 hc).2, hin⟩

/-- VPA `CSI n d`: row `n` (1-based), clamped to the screen; column kept -/
theorem vpa_cursor (cw : Nat → Nat) (t : Term) (ps : List Int) (hc : t.scr.CursorIn) :
    (after cw t (.csi 0 ps true 0x64)).cx = t.scr.cx ∧
    ((after cw t (.csi 0 ps true 0x64)).cy : Int)
      = min (max (p0 ps 1 - 1) 0) ((t.scr.h : Int) - 1) ∧
    (after cw t (.csi 0 ps true 0x64)).CursorIn := by
  rw [show after cw t (.csi 0 ps true 0x64) = _ from after_tok cw t (.vpa ps)]
  obtain ⟨-, hy, hin⟩ := setCursor_in t.scr t.scr.cx (p0 ps 1 - 1) hc
  exact ⟨(setCursor_keep t.scr 0 _ hc).1, hy, hin⟩

/-- CUP `CSI r ; c H`: row `r`, column `c` (1-based, each defaulting to 1), both clamped.
    Absolute: independent of the old position and of the margins. -/
theorem cup_cursor (cw : Nat → Nat) (t : Term) (ps : List Int) (hc : t.scr.CursorIn) :
    ((after cw t (.csi 0 ps true 0x48)).cx : Int)
      = min (max (pAt ps 1 1 - 1) 0) ((t.scr.w : Int) - 1) ∧
    ((after cw t (.csi 0 ps true 0x48)).cy : Int)
      = min (max (pAt ps 0 1 - 1) 0) ((t.scr.h : Int) - 1) ∧
    (after cw t (.csi 0 ps true 0x48)).CursorIn := by
  rw [show after cw t (.csi 0 ps true 0x48) = _ from after_tok cw t (.cup ps)]
  exact setCursor_in t.scr _ _ hc

/-- HVP `CSI r ; c f` is CUP -/
theorem hvp_cursor (cw : Nat → Nat) (t : Term) (ps : List Int) (hc : t.scr.CursorIn) :
    ((after cw t (.csi 0 ps true 0x66)).cx : Int)
      = min (max (pAt ps 1 1 - 1) 0) ((t.scr.w : Int) - 1) ∧
    ((after cw t (.csi 0 ps true 0x66)).cy : Int)
      = min (max (pAt ps 0 1 - 1) 0) ((t.scr.h : Int) - 1) ∧
    (after cw t (.csi 0 ps true 0x66)).CursorIn := by
  rw [show after cw t (.csi 0 ps true 0x66) = _ from after_tok cw t (.hvp ps)]
  exact setCursor_in t.scr _ _ hc

theorem hvp_eq_cup (cw : Nat → Nat) (t : Term) (ps : List Int) :
    t.apply cw (.csi 0 ps true 0x66) = t.apply cw (.csi 0 ps true 0x48) := by
  exact apply_tok_congr cw t (.hvp ps) (.cup ps) rfl rfl

/-- `CSI s`: the saved position becomes the cursor position; the cursor does not move -/
theorem save_cursor (cw : Nat → Nat) (t : Term) (ps : List Int) :
    (after cw t (.csi 0 ps true 0x73)).sx = t.scr.cx ∧ (after cw t (.csi 0 ps true 0x73)).sy = t.scr.cy ∧
    (after cw t (.csi 0 ps true 0x73)).cx = t.scr.cx ∧ (after cw t (.csi 0 ps true 0x73)).cy = t.scr.cy := by
  rw [show after cw t (.csi 0 ps true 0x73) = _ from after_tok cw t (.save ps)]
  simp [step, Scr.saveCursor]

/-- `CSI u`: the cursor goes to the saved position, which is on the screen whenever the saved
    position is (as `Scr.inv` guarantees); the saved position is kept -/
theorem restore_cursor (cw : Nat → Nat) (t : Term) (ps : List Int) :
    (after cw t (.csi 0 ps true 0x75)).cx = t.scr.sx ∧ (after cw t (.csi 0 ps true 0x75)).cy = t.scr.sy ∧
    (after cw t (.csi 0 ps true 0x75)).sx = t.scr.sx ∧ (after cw t (.csi 0 ps true 0x75)).sy = t.scr.sy ∧
    (t.scr.SavedIn → (after cw t (.csi 0 ps true 0x75)).CursorIn) := by
  rw [show after cw t (.csi 0 ps true 0x75) = _ from after_tok cw t (.restore ps)]
  simp [step, Scr.restoreCursor, Scr.CursorIn, Scr.SavedIn]

/-! ## What does not change -/

/-- No motion control changes size, margins, style, autowrap or (`CSI s` apart) the saved cursor,
    nor anything outside the active screen; none emits anything but the new cursor position. -/
theorem motion_frame (cw : Nat → Nat) (t : Term) (m : Motion) :
    (after cw t m.tok).w = t.scr.w ∧ (after cw t m.tok).h = t.scr.h ∧
    (after cw t m.tok).top = t.scr.top ∧ (after cw t m.tok).bot = t.scr.bot ∧
    (after cw t m.tok).sty = t.scr.sty ∧ (after cw t m.tok).wrap = t.scr.wrap ∧
    (m.isSave = false → (after cw t m.tok).sx = t.scr.sx ∧ (after cw t m.tok).sy = t.scr.sy) ∧
    SameOutside t (t.apply cw m.tok).1 ∧
    (∀ b, Ev.reply b ∉ events cw t m.tok) ∧
    (∀ e ∈ events cw t m.tok, e = .cursor (after cw t m.tok).cx (after cw t m.tok).cy) := by
  have hf : (step m t.scr).w = t.scr.w ∧ (step m t.scr).h = t.scr.h ∧
      (step m t.scr).top = t.scr.top ∧ (step m t.scr).bot = t.scr.bot ∧
      (step m t.scr).sty = t.scr.sty ∧ (step m t.scr).wrap = t.scr.wrap ∧
      (m.isSave = false → (step m t.scr).sx = t.scr.sx ∧ (step m t.scr).sy = t.scr.sy) := by
    apply step_cases (Q := fun s' => s'.w = t.scr.w ∧ s'.h = t.scr.h ∧ s'.top = t.scr.top ∧
      s'.bot = t.scr.bot ∧ s'.sty = t.scr.sty ∧ s'.wrap = t.scr.wrap ∧
      (m.isSave = false → s'.sx = t.scr.sx ∧ s'.sy = t.scr.sy)) m t.scr
    · exact fun _ _ => ⟨rfl, rfl, rfl, rfl, rfl, rfl, fun _ => ⟨rfl, rfl⟩⟩
    · exact fun _ _ => ⟨rfl, rfl, rfl, rfl, rfl, rfl, fun _ => ⟨rfl, rfl⟩⟩
    · intro _ c _
      have f := shift_lineDown ({ t.scr with cx := c } : Scr)
      exact ⟨f.w, f.h, f.top, f.bot, f.sty, f.wrap, fun _ => ⟨f.sx, f.sy⟩⟩
    · intro _
      have f := shift_lineUp t.scr
      exact ⟨f.w, f.h, f.top, f.bot, f.sty, f.wrap, fun _ => ⟨f.sx, f.sy⟩⟩
    · exact fun h1 => ⟨rfl, rfl, rfl, rfl, rfl, rfl, fun h2 => by rw [h1] at h2; cases h2⟩
    · exact ⟨rfl, rfl, rfl, rfl, rfl, rfl, fun _ => ⟨rfl, rfl⟩⟩
  rw [after_tok]
  obtain ⟨h1, h2, h3, h4, h5, h6, h7⟩ := hf
  refine ⟨h1, h2, h3, h4, h5, h6, h7, outside_tok cw t m, ?_, ?_⟩
  · rw [events_tok]; cases m.isSave <;> simp
  · rw [events_tok, after_tok]; cases m.isSave <;> simp

/-- Every control except LF / FF / IND / RI leaves the content of the active screen alone. -/
theorem motion_preserves_content (cw : Nat → Nat) (t : Term) (m : Motion) (hm : m.isIndex = false) :
    (after cw t m.tok).grid = t.scr.grid ∧
    (after cw t m.tok).w = t.scr.w ∧ (after cw t m.tok).h = t.scr.h ∧
    (after cw t m.tok).top = t.scr.top ∧ (after cw t m.tok).bot = t.scr.bot ∧
    (after cw t m.tok).sty = t.scr.sty ∧ (after cw t m.tok).wrap = t.scr.wrap ∧
    (m.isSave = false → (after cw t m.tok).sx = t.scr.sx ∧ (after cw t m.tok).sy = t.scr.sy) ∧
    (m.isSave = true → (after cw t m.tok).cx = t.scr.cx ∧ (after cw t m.tok).cy = t.scr.cy) ∧
    SameOutside t (t.apply cw m.tok).1 ∧
    (∀ b, Ev.reply b ∉ events cw t m.tok) := by
  have hg : (step m t.scr).grid = t.scr.grid := by
    apply step_cases (Q := fun s' => s'.grid = t.scr.grid) m t.scr
    · exact fun _ _ => rfl
    · exact fun _ _ => rfl
    · intro hd; rw [isIndex_of_isDown m hd] at hm; cases hm
    · intro h; subst h; cases hm
    · exact fun _ => rfl
    · rfl
  have hs : m.isSave = true → (step m t.scr).cx = t.scr.cx ∧ (step m t.scr).cy = t.scr.cy := by
    cases m <;> intro h <;> first | (cases h; done) | exact ⟨rfl, rfl⟩
  obtain ⟨h1, h2, h3, h4, h5, h6, h7, h8, h9, _⟩ := motion_frame cw t m
  rw [after_tok] at h1 h2 h3 h4 h5 h6 h7 ⊢
  exact ⟨hg, h1, h2, h3, h4, h5, h6, h7, hs, h8, h9⟩

/-- LF / FF / IND away from the bottom margin, RI away from the top margin: the grid is
    identical (this includes the last row of the screen below a bottom margin and row 0 above
    a top margin, where the cursor simply stays) -/
theorem index_inside_preserves_grid (cw : Nat → Nat) (t : Term) (m : Motion)
    (hm : (m.isDown = true ∧ t.scr.cy ≠ t.scr.bot) ∨ (m = .ri ∧ t.scr.cy ≠ t.scr.top)) :
    (after cw t m.tok).grid = t.scr.grid := by
  rw [after_tok]
  rcases hm with ⟨hd, hne⟩ | ⟨rfl, hne⟩
  · cases m <;> simp [Motion.isDown] at hd <;>
      simp only [step, lineDown_eq, hne, if_false] <;> split <;> rfl
  · simp only [step, lineUp_eq, hne, if_false]; split <;> rfl

theorem index_down_at_margin (cw : Nat → Nat) (t : Term) (m : Motion) (hd : m.isDown = true)
    (hb : t.scr.cy = t.scr.bot) :
    (after cw t m.tok).grid = (t.scr.scroll t.scr.top t.scr.bot (-1)).grid ∧
    (after cw t m.tok).cy = t.scr.cy ∧
    (after cw t m.tok).cx = (match m with | .lf => 0 | _ => t.scr.cx) := by
  rw [after_tok]
  cases m <;> simp [Motion.isDown] at hd <;> simp [step, lineDown_eq, hb]
  -- left: LF, which scrolls `{ t.scr with cx := 0 }`, a screen with the grid of `t.scr`
  rw [scroll_eq_rows, scroll_eq_rows]; split <;> rfl

theorem ri_at_margin (cw : Nat → Nat) (t : Term) (ht : t.scr.cy = t.scr.top) :
    (after cw t (.esc [] 0x4d)).grid = (t.scr.scroll t.scr.top t.scr.bot 1).grid ∧
    (after cw t (.esc [] 0x4d)).cy = t.scr.cy ∧ (after cw t (.esc [] 0x4d)).cx = t.scr.cx := by
  rw [show after cw t (.esc [] 0x4d) = _ from after_tok cw t .ri]
  simp [step, lineUp_eq, ht]

/-- "…and then only by scrolling that region", row by row: after LF / FF / IND on the bottom
    margin every row outside `[top, bot]` is untouched, row `y` of the region shows what row
    `y + 1` showed, and the bottom row of the region is blank in the current rendition. -/
theorem index_down_rows (cw : Nat → Nat) (t : Term) (m : Motion) (hd : m.isDown = true)
    (hb : t.scr.cy = t.scr.bot)
    (hlen : t.scr.grid.length = t.scr.h) (htb : t.scr.top ≤ t.scr.bot) (hbh : t.scr.bot < t.scr.h)
    (y : Nat) :
    (after cw t m.tok).grid[y]? =
      if y < t.scr.top ∨ t.scr.bot < y then t.scr.grid[y]?
      else if y < t.scr.bot then t.scr.grid[y + 1]?
      else some (blankRow t.scr.w t.scr.sty) := by
  rw [(index_down_at_margin cw t m hd hb).1]
  have := (C06.lineDown_scrolls t.scr ⟨hlen, htb, hbh⟩ hb y).2.2
  rwa [lineDown_eq, if_pos hb] at this

theorem ri_rows (cw : Nat → Nat) (t : Term) (ht : t.scr.cy = t.scr.top)
    (hlen : t.scr.grid.length = t.scr.h) (htb : t.scr.top ≤ t.scr.bot) (hbh : t.scr.bot < t.scr.h)
    (y : Nat) :
    (after cw t (.esc [] 0x4d)).grid[y]? =
      if y < t.scr.top ∨ t.scr.bot < y then t.scr.grid[y]?
      else if t.scr.top < y then t.scr.grid[y - 1]?
      else some (blankRow t.scr.w t.scr.sty) := by
  rw [(ri_at_margin cw t ht).1]
  have := (C06.lineUp_scrolls t.scr ⟨hlen, htb, hbh⟩ ht y).2.2
  rw [lineUp_eq, if_pos ht] at this
  refine this.trans ?_
  by_cases c : y < t.scr.top ∨ t.scr.bot < y
  · rw [if_pos c, if_pos c]
  · rw [if_neg c, if_neg c]
    by_cases c2 : y = t.scr.top
    · rw [if_pos c2, if_neg (by omega)]
    · rw [if_neg c2, if_pos (by omega)]

/-- Every motion control keeps `Scr.inv`, so the hypotheses of this file hold again for the next. -/
theorem motion_preserves_inv (cw : Nat → Nat) (t : Term) (m : Motion) (h : t.scr.inv = true) :
    (after cw t m.tok).inv = true := by
  rw [after_tok]
  obtain ⟨hl, hr, hg⟩ := (inv_iff_geo _).1 h
  have hcol : ∀ c, c ≤ t.scr.cx → ({ t.scr with cx := c } : Scr).inv = true :=
    fun c hc => inv_cx h (Nat.lt_of_le_of_lt hc hg.cx_lt)
  apply step_cases (Q := fun s' => s'.inv = true) m t.scr
  · exact fun x y => (inv_iff_geo _).2 ⟨hl, hr, hg.setCursor x y⟩
  · exact hcol
  · exact fun _ c hc => C06.lineDown_inv _ (hcol c hc)
  · exact fun _ => C06.lineUp_inv _ h
  · exact fun _ => (inv_iff_geo _).2 ⟨hl, hr, hg.saveCursor⟩
  · exact (inv_iff_geo _).2 ⟨hl, hr, hg.restoreCursor⟩

theorem run_preserves_inv (cw : Nat → Nat) (ms : List Motion) (t : Term) (h : t.scr.inv = true) :
    (run cw t ms).scr.inv = true := by
  induction ms generalizing t with
  | nil => exact h
  | cons m ms ih => exact ih _ (motion_preserves_inv cw t m h)

/-! ## Save / restore round trip -/

theorem run_saved (cw : Nat → Nat) (ms : List Motion) (hms : ∀ m ∈ ms, m.isSave = false) (t : Term) :
    (run cw t ms).scr.sx = t.scr.sx ∧ (run cw t ms).scr.sy = t.scr.sy ∧
    (run cw t ms).scr.w = t.scr.w ∧ (run cw t ms).scr.h = t.scr.h ∧
    (run cw t ms).onAlt = t.onAlt := by
  induction ms generalizing t with
  | nil => simp [run]
  | cons m ms ih =>
    have hm : m.isSave = false := hms m (by simp)
    obtain ⟨ix, iy, iw, ih', ialt⟩ := ih (fun m' h' => hms m' (by simp [h'])) (t.apply cw m.tok).1
    obtain ⟨h1, h2, -, -, -, -, h7, ⟨-, halt, -⟩, -, -⟩ := motion_frame cw t m
    have h7' := h7 hm
    unfold after at h1 h2 h7'
    simp only [run, List.foldl_cons] at ix iy iw ih' ialt ⊢
    refine ⟨by omega, by omega, by omega, by omega, ?_⟩
    rw [ialt]; exact halt

/-- `CSI s`, any motion controls other than `CSI s` (scrolling ones included), `CSI u`: the cursor
    is back where it was saved, in the same buffer, on a screen of the same size. -/
theorem save_restore_roundtrip (cw : Nat → Nat) (t : Term) (ps ps' : List Int) (ms : List Motion)
    (hms : ∀ m ∈ ms, m.isSave = false) :
    let t1 := (t.apply cw (.csi 0 ps true 0x73)).1
    let t2 := run cw t1 ms
    let t3 := (t2.apply cw (.csi 0 ps' true 0x75)).1
    t3.scr.cx = t.scr.cx ∧ t3.scr.cy = t.scr.cy ∧
    t3.scr.w = t.scr.w ∧ t3.scr.h = t.scr.h ∧ t3.onAlt = t.onAlt := by
  intro t1 t2 t3
  have hs := save_cursor cw t ps
  -- of `SameOutside`, only which buffer is active is needed (`salt`, `ualt`)
  obtain ⟨sw, sh, -, -, -, -, -, ⟨-, salt, -⟩, -⟩ := motion_frame cw t (.save ps)
  obtain ⟨rx, ry, rw', rh, ralt⟩ := run_saved cw ms hms t1
  have hu := restore_cursor cw t2 ps'
  obtain ⟨uw, uh, -, -, -, -, -, ⟨-, ualt, -⟩, -⟩ := motion_frame cw t2 (.restore ps')
  unfold after at hs sw sh hu uw uh
  simp only [Motion.tok] at sw sh salt uw uh ualt
  refine ⟨?_, ?_, ?_, ?_, ?_⟩
  · show t3.scr.cx = _; rw [hu.1, rx]; exact hs.1
  · show t3.scr.cy = _; rw [hu.2.1, ry]; exact hs.2.1
  · show t3.scr.w = _; rw [uw, rw']; exact sw
  · show t3.scr.h = _; rw [uh, rh]; exact sh
  · show t3.onAlt = _; rw [ualt, ralt]; exact salt

theorem save_restore_inside (cw : Nat → Nat) (t : Term) (ps ps' : List Int) (ms : List Motion)
    (hms : ∀ m ∈ ms, m.isSave = false) (hc : t.scr.CursorIn) :
    ((run cw (t.apply cw (.csi 0 ps true 0x73)).1 ms).apply cw (.csi 0 ps' true 0x75)).1.scr.CursorIn := by
  have h := save_restore_roundtrip cw t ps ps' ms hms
  simp only [Scr.CursorIn] at *
  omega

/-! ## Defaults and extremes -/

theorem p0_absent : p0 [] 1 = 1 := rfl

/-- an absent parameter means 1: `CSI A` is `CSI 1 A`, likewise B C D G d (whole terminal and
    events identical) -/
theorem absent_is_one (cw : Nat → Nat) (t : Term) (fin : UInt8)
    (hf : fin = 0x41 ∨ fin = 0x42 ∨ fin = 0x43 ∨ fin = 0x44 ∨ fin = 0x47 ∨ fin = 0x64) :
    t.apply cw (.csi 0 [] true fin) = t.apply cw (.csi 0 [1] true fin) := by
  rcases hf with rfl | rfl | rfl | rfl | rfl | rfl
  · exact apply_tok_congr cw t (.cuu []) (.cuu [1]) rfl rfl
  · exact apply_tok_congr cw t (.cud []) (.cud [1]) rfl rfl
  · exact apply_tok_congr cw t (.cuf []) (.cuf [1]) rfl rfl
  · exact apply_tok_congr cw t (.cub []) (.cub [1]) rfl rfl
  · exact apply_tok_congr cw t (.cha []) (.cha [1]) rfl rfl
  · exact apply_tok_congr cw t (.vpa []) (.vpa [1]) rfl rfl

/-- CUP / HVP: both parameters default to 1 independently -/
theorem cup_absent (cw : Nat → Nat) (t : Term) (r : Int) (fin : UInt8) (hf : fin = 0x48 ∨ fin = 0x66) :
    t.apply cw (.csi 0 [] true fin) = t.apply cw (.csi 0 [1, 1] true fin) ∧
    t.apply cw (.csi 0 [r] true fin) = t.apply cw (.csi 0 [r, 1] true fin) := by
  rcases hf with rfl | rfl
  · exact ⟨apply_tok_congr cw t (.cup []) (.cup [1, 1]) rfl rfl,
      apply_tok_congr cw t (.cup [r]) (.cup [r, 1]) rfl rfl⟩
  · exact ⟨apply_tok_congr cw t (.hvp []) (.hvp [1, 1]) rfl rfl,
      apply_tok_congr cw t (.hvp [r]) (.hvp [r, 1]) rfl rfl⟩

theorem cup_home (cw : Nat → Nat) (t : Term) (hc : t.scr.CursorIn) :
    (after cw t (.csi 0 [] true 0x48)).cx = 0 ∧ (after cw t (.csi 0 [] true 0x48)).cy = 0 := by
  have := cup_cursor cw t [] hc
  simp only [pAt_nil] at this
  obtain ⟨hx, hy⟩ := hc
  omega

/-- `pMove` is never 0, is 1 for an omitted first parameter, for a parameter omitted in front
    of a `;` (stored as 0 by the parser) and for an explicit 0, and the parameter otherwise -/
theorem pMove_spec (ps : List Int) :
    pMove [] = 1 ∧ pMove (0 :: ps) = 1 ∧ (∀ n : Int, n ≠ 0 → pMove (n :: ps) = n) ∧ pMove ps ≠ 0 := by
  refine ⟨by simp [pMove, p0], by simp [pMove, p0], ?_, ?_⟩
  · intro n hn; simp [pMove, p0, hn]
  · unfold pMove; split <;> omega

/-- **omitted means 1, also in front of a `;`, and so does an explicit 0** (VT100/xterm: "a
    parameter value of zero or one moves one position"): CUU / CUD / CUF / CUB with first
    parameter 0 act exactly like the same function with parameter 1 -/
theorem relative_zero (cw : Nat → Nat) (t : Term) (ps : List Int) (fin : UInt8)
    (hf : fin = 0x41 ∨ fin = 0x42 ∨ fin = 0x43 ∨ fin = 0x44) :
    Term.apply cw t (.csi 0 (0 :: ps) true fin) = Term.apply cw t (.csi 0 (1 :: ps) true fin) := by
  rcases hf with rfl | rfl | rfl | rfl
  · exact apply_tok_congr cw t (.cuu (0 :: ps)) (.cuu (1 :: ps)) rfl rfl
  · exact apply_tok_congr cw t (.cud (0 :: ps)) (.cud (1 :: ps)) rfl rfl
  · exact apply_tok_congr cw t (.cuf (0 :: ps)) (.cuf (1 :: ps)) rfl rfl
  · exact apply_tok_congr cw t (.cub (0 :: ps)) (.cub (1 :: ps)) rfl rfl

/-- for the absolute motions an explicit 0 clamps to the first column / row: CHA 0, VPA 0 -/
theorem absolute_zero (cw : Nat → Nat) (t : Term) (ps : List Int) (hc : t.scr.CursorIn) :
    (after cw t (.csi 0 (0 :: ps) true 0x47)).cx = 0 ∧ (after cw t (.csi 0 (0 :: ps) true 0x64)).cy = 0 := by
  have h1 := cha_cursor cw t (0 :: ps) hc
  have h2 := vpa_cursor cw t (0 :: ps) hc
  simp only [p0, Scr.CursorIn] at *
  omega

/-- CUP / HVP with explicit zeros: `CSI 0;0 H` is home, and a 0 in either place means 1 -/
theorem cup_zero (cw : Nat → Nat) (t : Term) (r c : Int) (ps : List Int) (hc : t.scr.CursorIn) :
    (after cw t (.csi 0 (0 :: c :: ps) true 0x48)).cy = 0 ∧
    (after cw t (.csi 0 (r :: 0 :: ps) true 0x48)).cx = 0 ∧
    (after cw t (.csi 0 [0] true 0x48)).cx = 0 ∧ (after cw t (.csi 0 [0] true 0x48)).cy = 0 := by
  have h1 := cup_cursor cw t (0 :: c :: ps) hc
  have h2 := cup_cursor cw t (r :: 0 :: ps) hc
  have h3 := cup_cursor cw t [0] hc
  simp only [pAt_cons_zero, pAt_cons_succ, pAt_nil] at h1 h2 h3
  obtain ⟨hx, hy⟩ := hc
  omega

/-- parameters beyond the screen (including the parser's saturation value and anything
    larger) pin the cursor to the corresponding edge -/
theorem beyond_screen (cw : Nat → Nat) (t : Term) (n : Int) (ps : List Int) (hc : t.scr.CursorIn) :
    (t.scr.h ≤ n → (after cw t (.csi 0 (n :: ps) true 0x41)).cy = 0) ∧
    (t.scr.h ≤ n → (after cw t (.csi 0 (n :: ps) true 0x42)).cy = t.scr.h - 1) ∧
    (t.scr.w ≤ n → (after cw t (.csi 0 (n :: ps) true 0x43)).cx = t.scr.w - 1) ∧
    (t.scr.w ≤ n → (after cw t (.csi 0 (n :: ps) true 0x44)).cx = 0) ∧
    (t.scr.w ≤ n → (after cw t (.csi 0 (n :: ps) true 0x47)).cx = t.scr.w - 1) ∧
    (t.scr.h ≤ n → (after cw t (.csi 0 (n :: ps) true 0x64)).cy = t.scr.h - 1) ∧
    (t.scr.h ≤ n → (after cw t (.csi 0 (n :: ps) true 0x48)).cy = t.scr.h - 1) ∧
    (t.scr.w ≤ n → (after cw t (.csi 0 (1 :: n :: ps) true 0x48)).cx = t.scr.w - 1) := by
  have ⟨hx, hy⟩ := hc
  have hm : 1 ≤ n → pMove (n :: ps) = n := fun h => (pMove_spec ps).2.2.1 n (by omega)
  refine ⟨fun hn => ?_, fun hn => ?_, fun hn => ?_, fun hn => ?_, fun hn => ?_, fun hn => ?_,
    fun hn => ?_, fun hn => ?_⟩
  · have h := (cuu_cursor cw t (n :: ps) hc).2.1; rw [hm (by omega)] at h; omega
  · have h := (cud_cursor cw t (n :: ps) hc).2.1; rw [hm (by omega)] at h; omega
  · have h := (cuf_cursor cw t (n :: ps) hc).1; rw [hm (by omega)] at h; omega
  · have h := (cub_cursor cw t (n :: ps) hc).1; rw [hm (by omega)] at h; omega
  · have h := (cha_cursor cw t (n :: ps) hc).1; simp only [p0] at h; omega
  · have h := (vpa_cursor cw t (n :: ps) hc).2.1; simp only [p0] at h; omega
  · have h := (cup_cursor cw t (n :: ps) hc).2.1; simp only [pAt_cons_zero] at h; omega
  · have h := (cup_cursor cw t (1 :: n :: ps) hc).1
    simp only [pAt_cons_succ, pAt_cons_zero] at h; omega

/-- an in-range parameter is reached exactly: CHA / VPA / CUP to 1-based `(r, c)` on the
    screen put the cursor on 0-based `(c - 1, r - 1)` -/
theorem in_range_exact (cw : Nat → Nat) (t : Term) (r c : Nat) (ps : List Int) (hc : t.scr.CursorIn)
    (hr : 1 ≤ r ∧ r ≤ t.scr.h) (hcc : 1 ≤ c ∧ c ≤ t.scr.w) :
    (after cw t (.csi 0 ((c : Int) :: ps) true 0x47)).cx = c - 1 ∧
    (after cw t (.csi 0 ((r : Int) :: ps) true 0x64)).cy = r - 1 ∧
    (after cw t (.csi 0 ((r : Int) :: (c : Int) :: ps) true 0x48)).cx = c - 1 ∧
    (after cw t (.csi 0 ((r : Int) :: (c : Int) :: ps) true 0x48)).cy = r - 1 := by
  have h5 := cha_cursor cw t ((c : Int) :: ps) hc
  have h6 := vpa_cursor cw t ((r : Int) :: ps) hc
  have h7 := cup_cursor cw t ((r : Int) :: (c : Int) :: ps) hc
  simp only [p0] at h5 h6
  simp only [pAt_cons_zero, pAt_cons_succ] at h7
  obtain ⟨hx, hy⟩ := hc
  omega

/-! ## Non-vacuity -/

def demoRow (b : UInt8) : Row := List.replicate 10 ⟨.ch [b] 1, Style.default⟩

/-- 10×5 main screen, margins rows 1..3, cursor at (4,3) = bottom margin, saved cursor (2,1),
    rows marked by distinct letters -/
def demoScr : Scr :=
  { Scr.init 10 5 with
    grid := [demoRow 0x61, demoRow 0x62, demoRow 0x63, demoRow 0x64, demoRow 0x65],
    cx := 4, cy := 3, sx := 2, sy := 1, top := 1, bot := 3 }
def demo : Term := { Term.init .blank 10 5 with main := demoScr }

/-- the same screen with the cursor on the top margin -/
def demoTop : Term := { demo with main := { demoScr with cy := 1 } }

example : demo.scr.inv = true := by decide +kernel
example : demo.scr.CursorIn ∧ demo.scr.SavedIn := by decide
-- hypotheses of `index_down_at_margin` / `index_down_rows`, and of `index_inside_preserves_grid`
example : demo.scr.cy = demo.scr.bot ∧ demo.scr.grid.length = demo.scr.h ∧
    demo.scr.top ≤ demo.scr.bot ∧ demo.scr.bot < demo.scr.h ∧ demo.scr.cy ≠ demo.scr.top := by decide
-- hypotheses of `ri_at_margin` / `ri_rows`
example : demoTop.scr.inv = true ∧ demoTop.scr.cy = demoTop.scr.top ∧ demoTop.scr.cy ≠ demoTop.scr.bot := by
  decide +kernel
-- RI on the top margin scrolls rows 1..3 down; rows 0 and 4 survive; the cursor stays
example : (after id demoTop (.esc [] 0x4d)).grid =
    [demoRow 0x61, blankRow 10 Style.default, demoRow 0x62, demoRow 0x63, demoRow 0x65] ∧
    ((after id demoTop (.esc [] 0x4d)).cx, (after id demoTop (.esc [] 0x4d)).cy) = (4, 1) := by decide
-- RI away from the top margin just moves
example : (after id demo (.esc [] 0x4d)).grid = demo.scr.grid ∧ (after id demo (.esc [] 0x4d)).cy = 2 := by
  decide
-- absent = 1, explicit 0 = 1 too, for CUB
example : (after id demo (.csi 0 [] true 0x44)).cx = 3 ∧ (after id demo (.csi 0 [0] true 0x44)).cx = 3 ∧
    (after id demo (.csi 0 [2147483647] true 0x44)).cx = 0 := by decide
-- IND on the bottom margin scrolls rows 1..3 only; rows 0 and 4 survive
example : (after id demo (.esc [] 0x44)).grid =
    [demoRow 0x61, demoRow 0x63, demoRow 0x64, blankRow 10 Style.default, demoRow 0x65] := by decide
example : ((after id demo (.esc [] 0x44)).cx, (after id demo (.esc [] 0x44)).cy) = (4, 3) := by decide
-- LF: same scroll, column 0
example : ((after id demo (.ctl 10)).cx, (after id demo (.ctl 10)).cy) = (0, 3) := by decide
-- CUD from the bottom margin goes below it without scrolling
example : (after id demo (.csi 0 [] true 0x42)).cy = 4 ∧
    (after id demo (.csi 0 [] true 0x42)).grid = demo.scr.grid := by decide
-- CUP with a huge row and an in-range column
example : ((after id demo (.csi 0 [2147483647, 7] true 0x48)).cx,
    (after id demo (.csi 0 [2147483647, 7] true 0x48)).cy) = (6, 4) := by decide
-- HT from column 4 goes to 8, from 8 to the last column 9
example : (after id demo (.ctl 9)).cx = 8 ∧ (after id (run id demo [.ht]) (.ctl 9)).cx = 9 := by decide
-- save, wander (with a scrolling LF), restore
example : let t3 := ((run id (demo.apply id (.csi 0 [] true 0x73)).1
      [.lf, .cup [1, 1], .ri, .cuf [100], .restore [], .cud []]).apply id (.csi 0 [] true 0x75)).1
    (t3.scr.cx, t3.scr.cy) = (4, 3) := by decide

end TM.C04

#print axioms TM.C04.cursorIn_of_inv
#print axioms TM.C04.bs_cursor
#print axioms TM.C04.del_cursor
#print axioms TM.C04.ht_cursor
#print axioms TM.C04.cr_cursor
#print axioms TM.C04.lf_cursor
#print axioms TM.C04.ff_cursor
#print axioms TM.C04.ind_cursor
#print axioms TM.C04.ri_cursor
#print axioms TM.C04.cuu_cursor
#print axioms TM.C04.cuu_cursor_nonneg
#print axioms TM.C04.cud_cursor
#print axioms TM.C04.cud_cursor_nonneg
#print axioms TM.C04.cuf_cursor
#print axioms TM.C04.cuf_cursor_nonneg
#print axioms TM.C04.cub_cursor
#print axioms TM.C04.cub_cursor_nonneg
#print axioms TM.C04.cha_cursor
#print axioms TM.C04.vpa_cursor
#print axioms TM.C04.cup_cursor
#print axioms TM.C04.hvp_cursor
#print axioms TM.C04.hvp_eq_cup
#print axioms TM.C04.save_cursor
#print axioms TM.C04.restore_cursor
#print axioms TM.C04.motion_frame
#print axioms TM.C04.motion_preserves_content
#print axioms TM.C04.index_inside_preserves_grid
#print axioms TM.C04.index_down_at_margin
#print axioms TM.C04.ri_at_margin
#print axioms TM.C04.index_down_rows
#print axioms TM.C04.ri_rows
#print axioms TM.C04.motion_preserves_inv
#print axioms TM.C04.run_preserves_inv
#print axioms TM.C04.save_restore_roundtrip
#print axioms TM.C04.save_restore_inside
#print axioms TM.C04.absent_is_one
#print axioms TM.C04.cup_absent
#print axioms TM.C04.cup_home
#print axioms TM.C04.relative_zero
#print axioms TM.C04.pMove_spec
#print axioms TM.C04.absolute_zero
#print axioms TM.C04.cup_zero
#print axioms TM.C04.beyond_screen
#print axioms TM.C04.in_range_exact
