import Props.C10
/-!
# C11 — the tokens the tokeniser yields (`TokOK`)

A text token carries the UTF-8 encoding of the code point it reports, a printable scalar value.
This is what the mirror's invariant (`Props/C11Inner.lean`) and both refinement chains
(`Props/C02SpanTerm.lean`, `Props/C20Grid.lean`) assume of a token, and what `next` guarantees of
every token of every byte stream (`next_tokOK`, `C11M.Lemmas.toksFuel_tokOK`). The namespace is
`TM.C11M`, that of `Props/C11Inner.lean`, whose `innerOK_apply` is stated with `TokOK`.
-/
namespace TM.C11M
open TM TM.C11

def TokOK : Tok → Prop
  | .text stored cp => validScalar cp ∧ 32 ≤ cp ∧ cp ≠ 127 ∧ stored = encodeRune cp
  | _ => True

/-- the bytes read for a well-formed character, U+FFFD with its encoding for an invalid byte -/
theorem next_tokOK (bs : Bytes) (tok : Tok) (n : Nat) (h : next bs = .tok tok n) : TokOK tok := by
  cases tok with
  | text st cp =>
    -- decoding then encoding gives the bytes back: what `decodeRune` accepts is a well-formed
    -- character, which is the encoding of its code point; anything else is U+FFFD of length 1
    obtain ⟨b, rest, rfl, hp, hd, rfl⟩ := next_text_inv h
    rcases decodeRune_utf8 b rest with e | ⟨k, tl, r, rfl, hu, e⟩
    · rw [hd] at e; cases e
      rw [if_pos ⟨rfl, rfl⟩]
      exact (by decide : validScalar 0xFFFD ∧ 32 ≤ 0xFFFD ∧ 0xFFFD ≠ 127 ∧ replacementChar = encodeRune 0xFFFD)
    · rw [hd] at e; cases e
      obtain ⟨hen, hv⟩ := hu.encode
      obtain ⟨h32, h127⟩ := hu.lead_printable.1 hp
      rw [if_neg (show ¬ (cp = 0xFFFD ∧ tl.length + 1 = 1) from hu.not_replacement_one), List.take_succ_cons, List.take_left]
      exact ⟨hv, h32, h127, hen.symm⟩
  | _ => trivial

namespace Lemmas

theorem toksFuel_tokOK (fuel : Nat) (bs : Bytes) : ∀ tok ∈ TM.C10.toksFuel fuel bs, TokOK tok :=
  TM.C10.toksFuel_eq fuel bs ▸ toksFuel'_all next_tokOK fuel bs

end Lemmas

end TM.C11M

#print axioms TM.C11M.next_tokOK
