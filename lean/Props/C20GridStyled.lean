import Props.C20GridAnsi
import Props.C11Inner
import TM.Mirror
import Proofs.SubCells
/-!
# C20GridStyled — `StyledLine(x, w, y)` of the grid buffer (`GRow.styledLine`)

`StyledLine` returns the cells `[x, x + w)` of a row as runs: per stretch of equal attributes a
repeat run or a text run, with blank runs for the cells of a wide character cut by either edge.

* Widths, for any row: the widths of the runs sum to the reported width, every run has a positive
  width, and the reported width is the requested one clamped to the row (`stretch_widths`,
  `grid_styledLine_widths`).
* Cells (`grid_styledLine_subCells`): on a row of consistent cells (`C20Grid.RowOK`, `okCh`) whose
  continuation cells carry the style of the cell to their left (`ContSty`), the runs expanded to
  cells are the mirror model's read `subCells` of the window, for wide characters of any width cut
  on either side or both. `ContSty` is needed (`contSty_needed`: `badRow`, allowed by `RowOK` and
  `okCh` but produced by no writer, since `rawWriteRune` styles the whole character); it holds
  trivially on rows without wide characters (`grid_styledLine_subCells_partial`) and on every row
  of the active screen after every byte stream (`stream_contSty`).
  The proof reads a stretch of `subCells` by character boundaries (`subSeg_zones` of
  `Proofs/SubCells`), puts a stretch in normal form — leading blanks, a body of whole characters,
  trailing blanks (`gStretch_nf`; `whole_chars`, `main_cells`, `stretch_cells`) — and loops over
  the stretches (`gStyledAux_step`, `aux_cells`; with `ContSty` a stretch that ends before the
  right edge ends at a character boundary).
* `stream_grid_styledLine`: for every byte stream, `StyledLine(x, n, y)` of the array-level
  terminal's active screen is `subCells` of the model terminal's row, for every window.
-/
namespace TM.C20GridStyled
open TM
open TM.C20Grid (contAt_abs cell_abs_sty gcontAt_get gcontAt_lt abs_of_cont abs_of_not_cont abs_ch_inv)

/-! ## the loops of `StyledLine` as leading runs -/

theorem gStyleRun_eq (st : Style) : ∀ s : GRow, gStyleRun st s = leadRun (fun c => decide (c.sty = st)) s
  | [] => rfl
  | c :: rest => by simp only [gStyleRun, leadRun, gStyleRun_eq st rest, decide_eq_true_eq]

theorem gLeadCont_eq : ∀ s : GRow, gLeadCont s = leadRun (·.cont) s
  | [] => rfl
  | c :: rest => by simp only [gLeadCont, leadRun, gLeadCont_eq rest]

theorem gLeadCont_le (s : GRow) : gLeadCont s ≤ s.length := by
  rw [gLeadCont_eq]; exact (leadRun_spec _ s).1

theorem gLeadCont_pos {seg : GRow} (h : seg.head?.map (·.cont) = some true) : 0 < gLeadCont seg := by
  cases seg with
  | nil => simp at h
  | cons c rest =>
    simp only [List.head?_cons, Option.map_some, Option.some.injEq] at h
    simp [gLeadCont, h]

theorem gStyleRun_spec (r : GRow) {i e : Nat} (hi : i < e) (he : e ≤ r.length) (hil : i < r.length) :
    ∃ n, gStyleRun (r[i]).sty ((r.drop i).take (e - i)) = n ∧ 0 < n ∧ i + n ≤ e ∧
      (∀ j (hj : j < r.length), i ≤ j → j < i + n → (r[j]).sty = (r[i]).sty) ∧
      (∀ c, r[i + n]? = some c → i + n < e → c.sty ≠ (r[i]).sty) := by
  obtain ⟨n, hn, hle, h1, h2⟩ := leadRun_slice (fun c => decide (c.sty = (r[i]).sty)) r (i := i) (n := e - i) (by omega)
  refine ⟨n, by rw [gStyleRun_eq, hn], ?_, by omega, fun j hj a b => of_decide_eq_true (h1 j hj a b), fun c hc hlt => ?_⟩
  · apply Nat.pos_of_ne_zero
    intro h0; subst h0
    have := h2 (by omega) (by omega)
    simp at this
  · have hlt' : i + n < r.length := by omega
    rw [List.getElem?_eq_getElem hlt', Option.some.injEq] at hc
    subst hc
    exact of_decide_eq_false (h2 hlt' (by omega))

theorem gStyledAux_step (r : GRow) (x e fuel : Nat) {i : Nat} (hi : i < e) (he : e ≤ r.length)
    (hil : i < r.length) :
    gStyledAux r x e (fuel + 1) i =
      gStretch (r[i]).sty ((r.drop i).take (gStyleRun (r[i]).sty ((r.drop i).take (e - i))))
        (decide (i = x))
        (decide (i + gStyleRun (r[i]).sty ((r.drop i).take (e - i)) = e) && decide (e < r.length) && r.contAt e) ++
      gStyledAux r x e fuel (i + gStyleRun (r[i]).sty ((r.drop i).take (e - i))) := by
  obtain ⟨n, hn', -, hn, -⟩ := gStyleRun_spec r hi he hil
  rw [← hn'] at hn
  have hc : (r.drop i).take (e - i) = r[i] :: (r.drop (i + 1)).take (e - i - 1) := by
    rw [show e - i = (e - i - 1) + 1 by omega, List.drop_eq_getElem_cons (by omega), List.take_succ_cons]
    simp
  conv => lhs; unfold gStyledAux
  rw [if_neg (by omega)]
  simp only []
  split
  · next h => rw [hc] at h; cases h
  · next c tl h =>
    rw [hc] at h
    obtain ⟨rfl, -⟩ := List.cons.inj h
    rw [List.take_take, Nat.min_eq_left (by omega)]

/-! ## a stretch in normal form -/

def wsum (l : List GSpanC) : Nat := (l.map (·.span.width)).sum

def blanks (st : Style) (n : Nat) : GSpanC := ⟨⟨st, [], 0x20, n⟩, []⟩

/-- the repeat-or-text run of `gStretch` for the cells `body` -/
def mainOf (st : Style) (body : GRow) : GSpanC :=
  let first := (body.head?.map (·.ch)).getD 0
  if (body.all fun c => c.ch == first && c.width == 1 && !c.cont) then ⟨⟨st, [], first, body.length⟩, []⟩
  else ⟨⟨st, (body.filter (!·.cont)).flatMap (·.text), 0, body.length⟩,
        (body.filter (!·.cont)).map fun c => (c.text, c.width)⟩

def optB (st : Style) (n : Nat) : List GSpanC := if n = 0 then [] else [blanks st n]

def optM (st : Style) (body : GRow) : List GSpanC := if body.isEmpty then [] else [mainOf st body]

/-- two of the lengths `gStretch` computes: the leading continuation cells (counted at the left edge
    of the request only), and the trailing cells of a character cut by the right edge -/
def padOf (a : Bool) (seg : GRow) : Nat :=
  if a = true ∧ seg.head?.map (·.cont) = some true then gLeadCont seg else 0

def cutTailOf (c : Bool) (seg1 : GRow) : Nat := if c then min (gTrailCont seg1 + 1) seg1.length else 0

theorem padOf_le (a : Bool) (seg : GRow) : padOf a seg ≤ seg.length := by
  unfold padOf; split
  · exact gLeadCont_le seg
  · exact Nat.zero_le _

theorem cutTailOf_le (c : Bool) (s : GRow) : cutTailOf c s ≤ s.length := by
  unfold cutTailOf; split
  · exact Nat.min_le_right _ _
  · exact Nat.zero_le _

/-- normal form of `gStretch` on a stretch that is not empty: blanks, whole cells, blanks, each
    present iff its length is positive -/
theorem gStretch_nf (st : Style) (seg : GRow) (a c : Bool) (hne : seg ≠ []) :
    gStretch st seg a c =
      optB st (padOf a seg) ++
      optM st ((seg.drop (padOf a seg)).take
        ((seg.drop (padOf a seg)).length - cutTailOf c (seg.drop (padOf a seg)))) ++
      optB st (cutTailOf c (seg.drop (padOf a seg))) := by
  have hpre : (if a = true ∧ seg.head?.map (·.cont) = some true then [blanks st (padOf a seg)] else []) =
      optB st (padOf a seg) := by
    unfold optB padOf
    by_cases hc : a = true ∧ seg.head?.map (·.cont) = some true
    · have := gLeadCont_pos hc.2
      rw [if_pos hc, if_pos hc, if_neg (by omega)]
    · rw [if_neg hc, if_neg hc, if_pos rfl]
  have hlen : 0 < seg.length := List.length_pos_iff.2 hne
  have hg : gStretch st seg a c =
      if (seg.drop (padOf a seg)).isEmpty ∧ padOf a seg > 0 then optB st (padOf a seg) else
      if ((seg.drop (padOf a seg)).take
        ((seg.drop (padOf a seg)).length - cutTailOf c (seg.drop (padOf a seg)))).isEmpty then
        optB st (padOf a seg) ++ [blanks st (cutTailOf c (seg.drop (padOf a seg)))] else
        optB st (padOf a seg) ++ [mainOf st ((seg.drop (padOf a seg)).take
        ((seg.drop (padOf a seg)).length - cutTailOf c (seg.drop (padOf a seg))))] ++
        (if cutTailOf c (seg.drop (padOf a seg)) > 0 then [blanks st (cutTailOf c (seg.drop (padOf a seg)))] else []) := by
    rw [← hpre]; rfl
  rw [hg]
  generalize hs1 : seg.drop (padOf a seg) = seg1
  have hl1 : seg1.length = seg.length - padOf a seg := by rw [← hs1, List.length_drop]
  generalize padOf a seg = pad at *
  have hct := cutTailOf_le c seg1
  generalize cutTailOf c seg1 = ct at *
  unfold optM
  simp only [List.isEmpty_iff]
  have hB : (if ct > 0 then [blanks st ct] else []) = optB st ct := by
    unfold optB; by_cases h : ct = 0
    · rw [if_pos h, if_neg (by omega)]
    · rw [if_neg h, if_pos (by omega)]
  by_cases h1 : seg1 = []
  · have h0 : ct = 0 := by rw [h1] at hct; exact Nat.le_zero.1 hct
    rw [if_pos ⟨h1, by rw [h1] at hl1; simp only [List.length_nil] at hl1; omega⟩, h1, h0]
    simp [optB]
  · rw [if_neg (fun h => h1 h.1), hB]
    have hpos := List.length_pos_iff.2 h1
    by_cases hb : List.take (seg1.length - ct) seg1 = []
    · have h2 := congrArg List.length hb
      simp only [List.length_take, List.length_nil] at h2
      rw [if_pos hb, if_pos hb, List.append_nil, ← hB, if_pos (by omega)]
    · rw [if_neg hb, if_neg hb]

/-! ## widths -/

theorem wsum_append (a b : List GSpanC) : wsum (a ++ b) = wsum a + wsum b := by
  simp [wsum]

theorem optB_widths (st : Style) (n : Nat) : wsum (optB st n) = n ∧ ∀ s ∈ optB st n, 0 < s.span.width := by
  unfold optB; split
  · next h => exact ⟨h.symm, by intro s hs; cases hs⟩
  · next h => exact ⟨by simp [wsum, blanks], by intro s hs; rw [List.mem_singleton.1 hs]; exact Nat.pos_of_ne_zero h⟩

theorem mainOf_width (st : Style) (body : GRow) : (mainOf st body).span.width = body.length := by
  unfold mainOf; simp only []; split <;> rfl

theorem optM_widths (st : Style) (body : GRow) :
    wsum (optM st body) = body.length ∧ ∀ s ∈ optM st body, 0 < s.span.width := by
  unfold optM; split
  · next h => rw [List.isEmpty_iff.1 h]; exact ⟨rfl, by intro s hs; cases hs⟩
  · next h =>
    refine ⟨by simp [wsum, mainOf_width], fun s hs => ?_⟩
    rw [List.mem_singleton.1 hs, mainOf_width]
    exact List.length_pos_iff.2 (fun h' => h (by rw [h']; rfl))

/-- one stretch: the widths of its runs sum to the number of its cells, each run is not empty -/
theorem stretch_widths (st : Style) (seg : GRow) (a c : Bool) (hne : seg ≠ []) :
    wsum (gStretch st seg a c) = seg.length ∧ ∀ s ∈ gStretch st seg a c, 0 < s.span.width := by
  rw [gStretch_nf st seg a c hne]
  have hp := padOf_le a seg
  have hc := cutTailOf_le c (seg.drop (padOf a seg))
  obtain ⟨l1, l2⟩ := optB_widths st (padOf a seg)
  obtain ⟨m1, m2⟩ := optM_widths st ((seg.drop (padOf a seg)).take
    ((seg.drop (padOf a seg)).length - cutTailOf c (seg.drop (padOf a seg))))
  obtain ⟨t1, t2⟩ := optB_widths st (cutTailOf c (seg.drop (padOf a seg)))
  constructor
  · rw [wsum_append, wsum_append, l1, m1, t1, List.length_take]
    rw [List.length_drop] at hc ⊢
    omega
  · intro s hs
    rcases List.mem_append.1 hs with hs | hs
    · rcases List.mem_append.1 hs with hs | hs
      · exact l2 s hs
      · exact m2 s hs
    · exact t2 s hs

theorem aux_widths (r : GRow) (x e : Nat) (he : e ≤ r.length) : ∀ (fuel i : Nat), i ≤ e → e - i < fuel →
    wsum (gStyledAux r x e fuel i) = e - i ∧ ∀ s ∈ gStyledAux r x e fuel i, 0 < s.span.width := by
  intro fuel
  induction fuel with
  | zero => intro i _ h; omega
  | succ fuel ih =>
    intro i hi hf
    by_cases hge : i ≥ e
    · have : gStyledAux r x e (fuel + 1) i = [] := by unfold gStyledAux; rw [if_pos hge]
      rw [this]
      exact ⟨by simp [wsum]; omega, by intro s hs; simp at hs⟩
    · obtain ⟨n, hn, hn1, hn2, -, -⟩ := gStyleRun_spec r (i := i) (e := e) (by omega) he (by omega)
      rw [gStyledAux_step r x e fuel (by omega) he (by omega), hn]
      have hsl := slice_length (r := r) (a := i) (n := n) (by omega)
      have hsne : (r.drop i).take n ≠ [] := fun h => by rw [h] at hsl; simp at hsl; omega
      obtain ⟨s1, s2⟩ := stretch_widths _ _ (decide (i = x))
        (decide (i + n = e) && decide (e < r.length) && r.contAt e) hsne
      obtain ⟨a1, a2⟩ := ih (i + n) (by omega) (by omega)
      exact ⟨by rw [wsum_append, s1, a1, hsl]; omega,
        fun s hs => (List.mem_append.1 hs).elim (s2 s) (a2 s)⟩

/-- the runs `StyledLine(x, w, y)` returns have widths that sum to the reported width, which
    is the requested width clamped to the row, and every run has a positive width. No hypothesis
    on the content of the row. -/
theorem grid_styledLine_widths (r : GRow) (x : Nat) (hx : x ≤ r.length) (ow : Option Nat) :
    wsum (r.styledLine x ow).1 = (r.styledLine x ow).2 ∧
    (∀ s ∈ (r.styledLine x ow).1, 0 < s.span.width) ∧
    (r.styledLine x ow).2 = (match ow with | some w => min w (r.length - x) | none => r.length - x) := by
  have key : ∀ w, x + w ≤ r.length →
      wsum (gStyledAux r x (x + w) (w + 1) x) = w ∧ ∀ s ∈ gStyledAux r x (x + w) (w + 1) x, 0 < s.span.width := by
    intro w hw
    obtain ⟨a1, a2⟩ := aux_widths r x (x + w) hw (w + 1) x (by omega) (by omega)
    exact ⟨by rw [a1]; omega, a2⟩
  cases ow with
  | none =>
    obtain ⟨a1, a2⟩ := key (r.length - x) (by omega)
    exact ⟨a1, a2, rfl⟩
  | some w =>
    unfold GRow.styledLine
    simp only []
    by_cases h : x + w > r.length
    · rw [if_pos h]
      obtain ⟨a1, a2⟩ := key (r.length - x) (by omega)
      exact ⟨a1, a2, by omega⟩
    · rw [if_neg h]
      obtain ⟨a1, a2⟩ := key w (by omega)
      exact ⟨a1, a2, by omega⟩

/-! ## the cells of the runs -/

/-- continuation cells carry the style of the cell to their left (`C11.RowOK.contSty` of the
    abstraction; `rawWriteRune` styles the whole character). NOT implied by `C20Grid.RowOK`. -/
def ContSty (r : GRow) : Prop :=
  ∀ i c, r[i + 1]? = some c → c.cont = true → ∃ c0, r[i]? = some c0 ∧ c0.sty = c.sty

theorem wf_at {r : GRow} (hr : C20Grid.RowOK r) {p : Nat} (hp : p < r.length) (hc : r.contAt p = false) :
    1 ≤ (r[p]).width ∧ widthAt (r.map GCell.abs) p = (r[p]).width ∧ p + (r[p]).width ≤ r.length ∧
    (∀ k, p < k → k < p + (r[p]).width → r.contAt k = true) ∧ r.contAt (p + (r[p]).width) = false := by
  have hg : (r.map GCell.abs)[p]? = some ⟨.ch (r[p]).text (r[p]).width, (r[p]).sty⟩ := by
    rw [List.getElem?_map, List.getElem?_eq_getElem hp, Option.map_some,
      abs_of_not_cont (by rw [← gcontAt_get hp]; exact hc)]
  obtain ⟨h1, h2, h3, h4⟩ := wf_ch hr.2 hg
  rw [List.length_map] at h2
  exact ⟨h1, wf_widthAt hr.2 hg, h2, fun k a b => by rw [← contAt_abs]; exact h3 k a b,
    by rw [← contAt_abs]; exact h4⟩

theorem conts_slice {r : GRow} {a w : Nat} {st : Style} (hl : a + (w + 1) ≤ r.length)
    (hc : ∀ k, a < k → k < a + (w + 1) → r.contAt k = true)
    (hs : ∀ j (hj : j < r.length), a < j → j < a + (w + 1) → (r[j]).sty = st) :
    ((r.drop (a + 1)).take w).filter (fun c => !c.cont) = [] ∧
    ((r.drop (a + 1)).take w).map GCell.abs = List.replicate w ⟨.cont, st⟩ := by
  have hconts : ∀ d ∈ (r.drop (a + 1)).take w, d.cont = true ∧ d.sty = st := by
    intro d hd
    obtain ⟨k, hk, hj, rfl⟩ := mem_slice hd
    exact ⟨by rw [← gcontAt_get hj]; exact hc _ (by omega) (by omega), hs _ hj (by omega) (by omega)⟩
  constructor
  · rw [List.filter_eq_nil_iff]
    intro d hd; rw [(hconts d hd).1]; simp
  · rw [List.eq_replicate_iff]
    refine ⟨by rw [List.length_map, slice_length (by omega)], ?_⟩
    intro c hc'
    obtain ⟨d, hd, rfl⟩ := List.mem_map.1 hc'
    rw [abs_of_cont (hconts d hd).1, (hconts d hd).2]

/-- the characters of a text run, expanded, are the cells of the body `[a, a + m)` between two
    character boundaries: one character per step, `n` bounds `m` -/
theorem whole_chars {r : GRow} (hr : C20Grid.RowOK r) (st : Style) : ∀ n m a, m ≤ n → a + m ≤ r.length →
    r.contAt a = false → r.contAt (a + m) = false →
    (∀ j (hj : j < r.length), a ≤ j → j < a + m → (r[j]).sty = st) →
    ((((r.drop a).take m).filter (!·.cont)).map fun c => (c.text, c.width)).flatMap
        (fun c => charCells c.1 c.2 st) = ((r.drop a).take m).map GCell.abs := by
  intro n
  induction n with
  | zero => intro m a h _ _ _ _; rw [Nat.le_zero.1 h]; rfl
  | succ n ih =>
    intro m a hn hb ha hcb hsty
    by_cases hE : m = 0
    · rw [hE]; rfl
    have hal : a < r.length := by omega
    obtain ⟨w1, _, w3, w4, w5⟩ := wf_at hr hal ha
    generalize hw : (r[a]).width = w at w1 w3 w4 w5
    obtain ⟨w', rfl⟩ : ∃ w', w = w' + 1 := ⟨w - 1, by omega⟩
    have hbw : a + (w' + 1) ≤ a + m := by
      apply Nat.le_of_not_lt; intro hlt
      have := w4 (a + m) (by omega) hlt
      rw [hcb] at this; cases this
    obtain ⟨q, rfl⟩ : ∃ q, m = w' + 1 + q := ⟨m - (w' + 1), by omega⟩
    have hcf : (r[a]).cont = false := by rw [← gcontAt_get hal]; exact ha
    obtain ⟨hfil, hrep⟩ := conts_slice (st := st) w3 w4 (fun j hj h1 h2 => hsty j hj (by omega) (by omega))
    have ih' := ih q (a + (w' + 1)) (by omega) (by omega) w5 (by rw [Nat.add_assoc]; exact hcb)
      (fun j hj h1 h2 => hsty j hj (by omega) (by omega))
    rw [slice_split hal, List.filter_cons, hcf]
    simp only [Bool.not_false, if_true, List.filter_append, hfil, List.nil_append, List.map_cons, List.flatMap_cons,
      List.map_append, hrep]
    rw [ih']
    rw [abs_of_not_cont hcf, hw, hsty a hal (Nat.le_refl _) (by omega)]
    unfold charCells
    simp only [Nat.add_sub_cancel, List.cons_append]

theorem cell_facts {r : GRow} (hok : r.all GCell.ok = true) (hch : r.all GCell.okCh = true) {c : GCell}
    (hc : c ∈ r) (hcf : c.cont = false) : encodeRune c.ch = c.text ∧ c.text ≠ [] := by
  have h1 := List.all_eq_true.1 hok c hc
  have h2 := List.all_eq_true.1 hch c hc
  unfold GCell.ok at h1
  unfold GCell.okCh at h2
  rw [hcf] at h1 h2
  simp only [Bool.false_eq_true, if_false, Bool.and_eq_true, beq_iff_eq, Bool.not_eq_true',
    List.isEmpty_eq_false_iff] at h1 h2
  exact ⟨h2.1, h1.2⟩

theorem main_cells {r : GRow} (hr : C20Grid.RowOK r) (hch : r.all GCell.okCh = true) {a m : Nat} {st : Style}
    (hm : 0 < m) (hb : a + m ≤ r.length) (ha : r.contAt a = false)
    (hcb : r.contAt (a + m) = false) (hsty : ∀ j (hj : j < r.length), a ≤ j → j < a + m → (r[j]).sty = st) :
    (mainOf st ((r.drop a).take m)).cells = ((r.drop a).take m).map GCell.abs := by
  have hbody : ∀ c ∈ (r.drop a).take m, c ∈ r ∧ c.sty = st := by
    intro c hc
    obtain ⟨k, hk, hj, rfl⟩ := mem_slice hc
    exact ⟨List.getElem_mem hj, hsty _ hj (by omega) (by omega)⟩
  unfold mainOf
  simp only []
  split
  · rename_i hall
    unfold GSpanC.cells
    simp only [List.isEmpty_nil, if_true]
    symm
    rw [List.eq_replicate_iff]
    refine ⟨by simp, ?_⟩
    intro c' hb'
    obtain ⟨c, hc, rfl⟩ := List.mem_map.1 hb'
    have h1 := List.all_eq_true.1 hall c hc
    simp only [Bool.and_eq_true, beq_iff_eq, Bool.not_eq_true'] at h1
    obtain ⟨hmem, hs⟩ := hbody c hc
    obtain ⟨f1, _⟩ := cell_facts hr.1 hch hmem h1.2
    rw [abs_of_not_cont h1.2, hs, ← f1, h1.1.1, h1.1.2]
  · unfold GSpanC.cells
    simp only []
    have hte : ((((r.drop a).take m).filter (!·.cont)).flatMap (·.text)).isEmpty = false := by
      have hal : a < r.length := by omega
      have hcf : (r[a]).cont = false := by rw [← gcontAt_get hal]; exact ha
      obtain ⟨m', rfl⟩ : ∃ m', m = m' + 1 := ⟨m - 1, by omega⟩
      rw [List.drop_eq_getElem_cons hal, List.take_succ_cons, List.filter_cons, hcf]
      simp only [Bool.not_false, if_true, List.flatMap_cons]
      obtain ⟨_, f2⟩ := cell_facts hr.1 hch (List.getElem_mem hal) hcf
      cases ht : (r[a]).text with
      | nil => exact absurd ht f2
      | cons p q => rfl
    rw [hte]
    simp only [Bool.false_eq_true, if_false]
    exact whole_chars hr st m m a (Nat.le_refl _) hb ha hcb hsty

theorem optB_cells (st : Style) (n : Nat) : (optB st n).flatMap GSpanC.cells = List.replicate n (blank st) := by
  unfold optB; split
  · next h => rw [h]; rfl
  · simp only [List.flatMap_cons, List.flatMap_nil, List.append_nil]; unfold blanks GSpanC.cells; rfl

theorem gLeadCont_slice {r : GRow} {i n : Nat} (hl : i + n ≤ r.length) :
    ∃ pad, gLeadCont ((r.drop i).take n) = pad ∧ pad ≤ n ∧
      (∀ k, i ≤ k → k < i + pad → r.contAt k = true) ∧ (pad < n → r.contAt (i + pad) = false) := by
  obtain ⟨k, hk, hle, h1, h2⟩ := leadRun_slice (·.cont) r hl
  refine ⟨k, by rw [gLeadCont_eq, hk], hle, fun j a b => ?_, fun hlt => ?_⟩
  · have hj : j < r.length := by omega
    rw [gcontAt_get hj]; exact h1 j hj a b
  · rw [gcontAt_get (by omega)]; exact h2 (by omega) hlt

/-- the continuation cells at the end of the cells `[a, a + m)` when cell `a` is not one: `t` of
    them after `b` other cells, the last of which is not a continuation cell -/
theorem gTrailCont_slice {r : GRow} {a m : Nat} (hm : 0 < m) (hl : a + m ≤ r.length)
    (ha : r.contAt a = false) :
    ∃ b t, gTrailCont ((r.drop a).take m) = t ∧ b + t + 1 = m ∧ r.contAt (a + b) = false ∧
      ∀ k, a + b < k → k < a + m → r.contAt k = true := by
  have hlen := slice_length hl
  obtain ⟨hle, s1, s2⟩ := leadRun_spec (·.cont) ((r.drop a).take m).reverse
  have hrev : ∀ k j (h : k + j + 1 = m), ((r.drop a).take m).reverse[k]? = some (r[a + j]'(by omega)) := by
    intro k j h
    rw [List.getElem?_reverse (by rw [hlen]; omega), hlen, slice_get (by omega), show m - 1 - k = j by omega,
      List.getElem?_eq_getElem]
  rw [List.length_reverse, hlen] at hle
  unfold gTrailCont
  rw [gLeadCont_eq]
  generalize leadRun (·.cont) ((r.drop a).take m).reverse = t at s1 s2 hle
  have htlt : t < m := by
    apply Nat.lt_of_not_le; intro hge
    have := s1 (m - 1) _ (by omega) (hrev (m - 1) 0 (by omega))
    rw [gcontAt_get (by omega)] at ha
    simp only [Nat.add_zero] at this
    rw [this] at ha; cases ha
  obtain ⟨b, hb⟩ : ∃ b, b + t + 1 = m := ⟨m - (t + 1), by omega⟩
  refine ⟨b, t, rfl, hb, ?_, fun k k1 k2 => ?_⟩
  · rw [gcontAt_get (by omega)]; exact s2 _ (hrev t b (by omega))
  · obtain ⟨j, rfl⟩ : ∃ j, k = a + j := ⟨k - a, by omega⟩
    rw [gcontAt_get (by omega)]; exact s1 (m - 1 - j) _ (by omega) (hrev (m - 1 - j) j (by omega))

/-- the leading blanks of a stretch `[i, i + n)` of the loop, which starts at the left edge `x` or at
    a character boundary: `l` continuation cells, then a character boundary -/
theorem padOf_slice {r : GRow} {x i n : Nat} (hn : 0 < n) (hnl : i + n ≤ r.length)
    (hstart : i ≠ x → r.contAt i = false) :
    ∃ l, padOf (decide (i = x)) ((r.drop i).take n) = l ∧ l ≤ n ∧ (0 < l → i = x) ∧
      (∀ k, i ≤ k → k < i + l → r.contAt k = true) ∧ (l < n → r.contAt (i + l) = false) := by
  have hil : i < r.length := by omega
  have hhead : ((r.drop i).take n).head? = some r[i] := by
    rw [List.head?_eq_getElem?, slice_get hn, Nat.add_zero, List.getElem?_eq_getElem hil]
  unfold padOf
  by_cases hc : decide (i = x) = true ∧ ((r.drop i).take n).head?.map (·.cont) = some true
  · rw [if_pos hc]
    obtain ⟨pad, hpad, hle, hconts, hstop⟩ := gLeadCont_slice hnl
    exact ⟨pad, hpad, hle, fun _ => of_decide_eq_true hc.1, hconts, hstop⟩
  · rw [if_neg hc]
    refine ⟨0, rfl, Nat.zero_le _, fun h => absurd h (Nat.lt_irrefl 0), fun k h1 h2 => by omega, fun _ => ?_⟩
    rw [Nat.add_zero]
    by_cases hix : i = x
    · rw [gcontAt_get hil]
      cases hcf : (r[i]).cont with
      | false => rfl
      | true => exact absurd ⟨decide_eq_true hix, by rw [hhead, Option.map_some, hcf]⟩ hc
    · exact hstart hix

/-- the trailing blanks of the cells `[a, a + n)` that start at a character boundary: `m` cells up
    to a character boundary, then `t` cells of the character that the right edge `e` cuts -/
theorem cutTailOf_slice {r : GRow} {a n e : Nat} (hl : a + n ≤ r.length) (ha : 0 < n → r.contAt a = false)
    (c : Bool) (hT : c = true → a + n = e ∧ e < r.length ∧ r.contAt e = true)
    (hF : c = false → r.contAt (a + n) = false) :
    ∃ m t, m + t = n ∧ cutTailOf c ((r.drop a).take n) = t ∧ (0 < m → r.contAt (a + m) = false) ∧
      (0 < t → ∀ j, a + m < j → j ≤ e → r.contAt j = true) := by
  have hlen := slice_length hl
  unfold cutTailOf
  cases c with
  | false => exact ⟨n, 0, rfl, rfl, fun _ => hF rfl, fun h => absurd h (Nat.lt_irrefl 0)⟩
  | true =>
    rw [if_pos rfl, hlen]
    by_cases hn : n = 0
    · subst hn
      exact ⟨0, 0, rfl, Nat.min_eq_right (Nat.zero_le _), fun h => absurd h (Nat.lt_irrefl 0),
        fun h => absurd h (Nat.lt_irrefl 0)⟩
    · obtain ⟨h1, h2, h3⟩ := hT rfl
      obtain ⟨b, t, ht, hbt, hp, hcont⟩ := gTrailCont_slice (Nat.pos_of_ne_zero hn) hl (ha (Nat.pos_of_ne_zero hn))
      refine ⟨b, t + 1, by omega, by rw [ht]; omega, fun _ => hp, fun _ j j1 j2 => ?_⟩
      by_cases hje : j = e
      · rw [hje]; exact h3
      · exact hcont j j1 (by omega)

/-- one stretch of equal style `[i, i + n)` of the loop: its runs show the mirror's cells. The
    stretch starts at the left edge or at a character boundary, and ends at a character boundary
    unless `c` (it ends at the right edge and the next cell is a continuation cell) -/
theorem stretch_cells {r : GRow} (hr : C20Grid.RowOK r) (hch : r.all GCell.okCh = true) {x e i n : Nat} {st : Style}
    (hxi : x ≤ i) (hn : 0 < n) (hse : i + n ≤ e) (hel : e ≤ r.length)
    (hsty : ∀ j (hj : j < r.length), i ≤ j → j < i + n → (r[j]).sty = st)
    (hstart : i ≠ x → r.contAt i = false) (c : Bool)
    (hT : c = true → i + n = e ∧ e < r.length ∧ r.contAt e = true)
    (hF : c = false → r.contAt (i + n) = false) :
    (gStretch st ((r.drop i).take n) (decide (i = x)) c).flatMap GSpanC.cells =
      subSeg (r.map GCell.abs) x e i n := by
  have hnl : i + n ≤ r.length := Nat.le_trans hse hel
  obtain ⟨l, hl, hln, hlx, hlc, hlstop⟩ := padOf_slice hn hnl hstart
  obtain ⟨m, t, hmt, ht, hq, htc⟩ := cutTailOf_slice (r := r) (a := i + l) (n := n - l) (e := e) (by omega)
    (fun h => hlstop (by omega)) c
    (fun h => by obtain ⟨a1, a2, a3⟩ := hT h; exact ⟨by omega, a2, a3⟩)
    (fun h => by rw [show i + l + (n - l) = i + n by omega]; exact hF h)
  have hbody : (optM st ((r.drop (i + l)).take m)).flatMap GSpanC.cells = ((r.drop (i + l)).take m).map GCell.abs := by
    unfold optM
    by_cases hm : m = 0
    · rw [hm]; rfl
    · have hm' := Nat.pos_of_ne_zero hm
      rw [slice_isEmpty hm' (by omega)]
      simp only [Bool.false_eq_true, if_false, List.flatMap_cons, List.flatMap_nil, List.append_nil]
      exact main_cells hr hch hm' (by omega) (hlstop (by omega)) (hq hm')
        (fun j hj h1 h2 => hsty j hj (by omega) (by omega))
  -- normal form: `l` blanks, the body `[i + l, i + l + m)`, `t` blanks — the shape of `subSeg_zones`
  rw [gStretch_nf _ _ _ _ (fun h => by have := slice_isEmpty hn hnl; rw [h] at this; cases this),
    hl, List.drop_take, List.drop_drop, ht, slice_length (by omega), List.take_take,
    show min (n - l - t) (n - l) = m by omega, List.flatMap_append, List.flatMap_append, optB_cells, optB_cells,
    hbody, show n = l + m + t by omega, List.map_take, List.map_drop]
  symm
  apply subSeg_zones hr.2 hxi (by omega) (by rw [List.length_map]; exact hel)
  · intro j hj h1 h2
    rw [List.getElem_map, cell_abs_sty]; exact hsty j (by rw [List.length_map] at hj; exact hj) h1 (by omega)
  · intro h0 j j1 j2; rw [contAt_abs]; exact hlc j (by have := hlx h0; omega) j2
  · intro h0; rw [contAt_abs]; exact hlstop (by omega)
  · intro h0; rw [contAt_abs]; exact hq h0
  · intro h0 j j1 j2; rw [contAt_abs]; exact htc h0 j j1 j2

/-- with `ContSty`, a change of style happens at a character boundary -/
theorem contSty_boundary {r : GRow} (hcs : ContSty r) {p : Nat} {st : Style} (hl : p + 1 < r.length)
    (h1 : (r[p]).sty = st) (h2 : (r[p + 1]).sty ≠ st) : r.contAt (p + 1) = false := by
  rw [gcontAt_get hl]
  cases hcf : (r[p + 1]).cont with
  | false => rfl
  | true =>
    obtain ⟨c0, g1, g2⟩ := hcs p r[p + 1] (List.getElem?_eq_getElem hl) hcf
    rw [List.getElem?_eq_getElem (by omega), Option.some.injEq] at g1
    rw [← g1, h1] at g2
    exact absurd g2.symm h2

/-- the loop: with `ContSty` every stretch boundary inside the window is a character
    boundary, so the loop over the stretches shows the mirror's cells `[i, e)` -/
theorem aux_cells {r : GRow} (hr : C20Grid.RowOK r) (hch : r.all GCell.okCh = true) (hcs : ContSty r)
    (x e : Nat) (he : e ≤ r.length) :
    ∀ (fuel i q : Nat), x ≤ i → i + q = e → q < fuel → (i ≠ x → 0 < q → r.contAt i = false) →
    (gStyledAux r x e fuel i).flatMap GSpanC.cells = subSeg (r.map GCell.abs) x e i q := by
  intro fuel
  induction fuel with
  | zero => intro i q _ _ h; omega
  | succ fuel ih =>
    intro i q hxi hi hf hinv
    by_cases hq : q = 0
    · have : gStyledAux r x e (fuel + 1) i = [] := by unfold gStyledAux; rw [if_pos (by omega)]
      rw [this, hq]; rfl
    · have hie : i < e := by omega
      have hil : i < r.length := Nat.lt_of_lt_of_le hie he
      obtain ⟨n, hn, hn1, hn2, hsty, hstop⟩ := gStyleRun_spec r hie he hil
      rw [gStyledAux_step r x e fuel hie he hil, hn]
      obtain ⟨q', rfl⟩ : ∃ q', q = n + q' := ⟨q - n, by omega⟩
      have hnq : i + n + q' = e := by omega
      have hbnd : 0 < q' → r.contAt (i + n) = false := by
        intro hlt
        obtain ⟨p, hp⟩ : ∃ p, i + n = p + 1 := ⟨i + n - 1, by omega⟩
        have hl : p + 1 < r.length := by omega
        have h2 := hstop _ (List.getElem?_eq_getElem (by omega)) (by omega)
        simp only [hp] at h2 ⊢
        exact contSty_boundary hcs hl (hsty p (by omega) (by omega) (by omega)) h2
      have hT : (decide (i + n = e) && decide (e < r.length) && r.contAt e) = true →
          i + n = e ∧ e < r.length ∧ r.contAt e = true := by
        intro h; simp only [Bool.and_eq_true, decide_eq_true_eq] at h; exact ⟨h.1.1, h.1.2, h.2⟩
      have hF : (decide (i + n = e) && decide (e < r.length) && r.contAt e) = false →
          r.contAt (i + n) = false := by
        intro h
        by_cases hs : i + n = e
        · by_cases hl : e < r.length
          · rw [hs]; simpa [hs, hl] using h
          · exact Bool.eq_false_iff.2 fun hc => absurd (gcontAt_lt hc) (by omega)
        · exact hbnd (by omega)
      rw [List.flatMap_append, ih (i + n) q' (by omega) hnq (by omega) (fun _ h => hbnd h),
        stretch_cells (x := x) (e := e) hr hch hxi hn1 hn2 he hsty (fun h => hinv h (by omega)) _ hT hF,
        subSeg_add]

/-- For a row of consistent cells (`C20Grid.RowOK`: `GCell.ok` and `rowWF` of the abstraction;
    `okCh`: the rune array agrees with the text array) whose continuation cells carry the style of
    the cell to their left (`ContSty`, needed: `contSty_needed`), with wide characters of any width
    and any number of styles: the runs `StyledLine(x, w, y)` returns (blank runs for the cells of a
    character cut by either edge, repeat runs, text runs), expanded to cells, are the mirror model's
    read `subCells` of `[x, x + w)`, and the reported width is `w`; also the to-the-end form. -/
theorem grid_styledLine_subCells (r : GRow) (hr : C20Grid.RowOK r) (hch : r.all GCell.okCh = true)
    (hcs : ContSty r) {x : Nat} (hx : x ≤ r.length) :
    (∀ w, x + w ≤ r.length →
      ((r.styledLine x (some w)).1).flatMap GSpanC.cells = subCells (r.map GCell.abs) x (x + w) ∧
      (r.styledLine x (some w)).2 = w) ∧
    ((r.styledLine x none).1).flatMap GSpanC.cells = subCells (r.map GCell.abs) x r.length ∧
    (r.styledLine x none).2 = r.length - x := by
  have key : ∀ w, x + w ≤ r.length →
      (gStyledAux r x (x + w) (w + 1) x).flatMap GSpanC.cells = subCells (r.map GCell.abs) x (x + w) := by
    intro w hw
    rw [aux_cells hr hch hcs x (x + w) hw (w + 1) x w (Nat.le_refl _) rfl (Nat.lt_succ_self w)
      (fun h => absurd rfl h)]
    rw [subCells_eq_subSeg, Nat.add_sub_cancel_left]
  refine ⟨?_, ?_, rfl⟩
  · intro w hw
    unfold GRow.styledLine
    simp only []
    rw [if_neg (by omega)]
    exact ⟨key w hw, rfl⟩
  · have h := key (r.length - x) (by omega)
    have e : x + (r.length - x) = r.length := by omega
    show (gStyledAux r x (x + (r.length - x)) (r.length - x + 1) x).flatMap GSpanC.cells = _
    rw [h, e]

/-! ### rows without wide characters -/

theorem rowOK_narrow {r : GRow} (hok : r.all GCell.ok = true) (hnw : ∀ c ∈ r, c.cont = false ∧ c.width = 1) :
    C20Grid.RowOK r := by
  have hc : ∀ k, contAt (r.map GCell.abs) k = false := by
    intro k
    rw [contAt_abs]; unfold GRow.contAt
    cases h : r[k]? with
    | none => rfl
    | some c => exact (hnw c (List.mem_of_getElem? h)).1
  refine ⟨hok, (rowWF_iff _).2 ⟨hc 0, ?_⟩⟩
  intro i t w st h
  rw [List.getElem?_map] at h
  cases hi : r[i]? with
  | none => rw [hi] at h; cases h
  | some c =>
    rw [hi, Option.map_some, Option.some.injEq] at h
    obtain ⟨_, _, hw, _⟩ := abs_ch_inv h
    have := (hnw c (List.mem_of_getElem? hi)).2
    have hil := (List.getElem?_eq_some_iff.1 hi).1
    exact ⟨by omega, by rw [List.length_map]; omega, fun k h1 h2 => by omega, hc _⟩

/-- the case of `grid_styledLine_subCells` without wide characters (no continuation cell, every
    width 1), in which `ContSty` holds for want of continuation cells -/
theorem grid_styledLine_subCells_partial (r : GRow) (hok : r.all GCell.ok = true) (hch : r.all GCell.okCh = true)
    (hnw : ∀ c ∈ r, c.cont = false ∧ c.width = 1) {x : Nat} (hx : x ≤ r.length) :
    (∀ w, x + w ≤ r.length →
      ((r.styledLine x (some w)).1).flatMap GSpanC.cells = subCells (r.map GCell.abs) x (x + w) ∧
      (r.styledLine x (some w)).2 = w) ∧
    ((r.styledLine x none).1).flatMap GSpanC.cells = subCells (r.map GCell.abs) x r.length ∧
    (r.styledLine x none).2 = r.length - x :=
  grid_styledLine_subCells r (rowOK_narrow hok hnw) hch
    (fun _ c hc hcont => by rw [(hnw c (List.mem_of_getElem? hc)).1] at hcont; cases hcont) hx

/-! ## every byte stream: `ContSty` holds on the rows of the active screen -/

theorem contSty_of_abs {cw : Nat → Nat} {r : GRow} (h : C11.RowOK cw (r.map GCell.abs)) : ContSty r := by
  intro i c hc hcont
  have h1 : (r.map GCell.abs)[i + 1]? = some ⟨.cont, c.sty⟩ := by
    rw [List.getElem?_map, hc, Option.map_some, abs_of_cont hcont]
  obtain ⟨g, hg⟩ := h.contSty i c.sty h1
  rw [List.getElem?_map] at hg
  cases h0 : r[i]? with
  | none => rw [h0] at hg; cases hg
  | some c0 =>
    rw [h0, Option.map_some, Option.some.injEq] at hg
    refine ⟨c0, rfl, ?_⟩
    have := congrArg Cell.sty hg
    rw [cell_abs_sty] at this
    exact this

/-- `C20Grid.stream_rows` read on the ACTIVE screen: after every byte stream its row `y` is a row of
    `w` consistent cells that shows row `y` of the model terminal's active screen, of height `h` -/
theorem stream_scr_row (cw : Nat → Nat) {w h : Nat} (hw : 1 ≤ w) (hh : 1 ≤ h) (bs : Bytes) {y : Nat} (hy : y < h) :
    let S := C20Grid.gStateAfter cw (GTerm.init w h) (C10.toksOf bs)
    let T := (run cw (Term.init .blank w h) bs).1
    T.scr.h = h ∧ C20Grid.RowInv w (S.scr.row y) ∧ T.scr.row y = (S.scr.row y).map GCell.abs := by
  intro S T
  obtain ⟨_, d2, _, d4, _, _, hon, hrows⟩ := C20Grid.stream_rows cw hw hh bs
  obtain ⟨m1, m2, a1, a2⟩ := hrows y hy
  have hT : S.abs = T := (C20Grid.stream_refines cw hw hh bs).1
  change S.onAlt = T.onAlt at hon
  unfold GTerm.scr Term.scr
  rw [← hon]
  cases S.onAlt with
  | false => exact ⟨by rw [← hT]; exact d2, m1, m2⟩
  | true => exact ⟨by rw [← hT]; exact d4, a1, a2⟩

/-- for every byte stream (sizes within the CSI parameter range, `cw 32 ≤ 1`,
    `cw 0xFFFD ≤ 1`), every row of the ACTIVE screen of the array-level terminal satisfies `ContSty`
    (from `C11M.InnerOK'` on the model terminal through `C20Grid.stream_rows`): the extra
    hypothesis of `grid_styledLine_subCells` holds on reachable rows. -/
theorem stream_contSty (cw : Nat → Nat) (hsp : cw 32 ≤ 1) (hrep : cw 0xFFFD ≤ 1) {w h : Nat}
    (hw : 1 ≤ w) (hh : 1 ≤ h) (hW : w ≤ paramMax) (hH : h ≤ paramMax) (bs : Bytes) {y : Nat} (hy : y < h) :
    ContSty ((C20Grid.gStateAfter cw (GTerm.init w h) (C10.toksOf bs)).scr.row y) := by
  obtain ⟨k0, _, k2⟩ := stream_scr_row cw hw hh bs hy
  have hI := C11M.innerOK'_run cw hsp hrep (C11M.innerOK_init cw .blank w h hw hh hW hH hsp) bs
  have := hI.toInnerOK.rows y (by rw [k0]; exact hy)
  rw [k2] at this
  exact contSty_of_abs this

/-- For every byte stream (sizes within the CSI parameter range, `cw 32 ≤ 1`, `cw 0xFFFD ≤ 1`):
    `StyledLine(x, n, y)` of the array-level terminal's ACTIVE screen (the grid buffer as the code
    stores it, after the stream), expanded to cells, is the mirror model's read `subCells` of row `y`
    of the model terminal's active screen after the same stream, for every window `[x, x + n)` inside
    the row, with the reported width `n`; also the to-the-end form. -/
theorem stream_grid_styledLine (cw : Nat → Nat) (hsp : cw 32 ≤ 1) (hrep : cw 0xFFFD ≤ 1) {w h : Nat}
    (hw : 1 ≤ w) (hh : 1 ≤ h) (hW : w ≤ paramMax) (hH : h ≤ paramMax) (bs : Bytes) {y : Nat} (hy : y < h)
    {x : Nat} (hx : x ≤ w) :
    let S := C20Grid.gStateAfter cw (GTerm.init w h) (C10.toksOf bs)
    let T := (run cw (Term.init .blank w h) bs).1
    (∀ n, x + n ≤ w →
      (((S.scr.row y).styledLine x (some n)).1).flatMap GSpanC.cells = subCells (T.scr.row y) x (x + n) ∧
      ((S.scr.row y).styledLine x (some n)).2 = n) ∧
    (((S.scr.row y).styledLine x none).1).flatMap GSpanC.cells = subCells (T.scr.row y) x w ∧
    ((S.scr.row y).styledLine x none).2 = w - x := by
  intro S T
  have hcs : ContSty (S.scr.row y) := stream_contSty cw hsp hrep hw hh hW hH bs hy
  obtain ⟨_, k1, k2⟩ := stream_scr_row cw hw hh bs hy
  have k3 : (S.scr.row y).all GCell.okCh = true :=
    C20GridAnsi.row_chOK (C20GridAnsi.scr_ok (C20GridAnsi.stream_chOK cw w h bs)) y
  have := grid_styledLine_subCells (S.scr.row y) k1.ok k3 hcs (x := x) (by rw [k1.1]; exact hx)
  rw [show T.scr.row y = _ from k2]
  rw [k1.1] at this
  exact this

/-! ## non-vacuity -/

section nonvacuity
open TM.C11.Examples (boldRedOn200 fancy)

def wide (st : Style) : GRow := [⟨0x4E16, [0xE4, 0xB8, 0x96], 2, false, st⟩, ⟨0, [], 0, true, st⟩]

def nar (ch : Nat) (st : Style) : GCell := ⟨ch, encodeRune ch, 1, false, st⟩

/-- `世aa` in one rendition, `世b世` in another: 9 cells -/
def exRow : GRow :=
  wide boldRedOn200 ++ [nar 0x61 boldRedOn200, nar 0x61 boldRedOn200] ++ wide fancy ++ [nar 0x62 fancy] ++ wide fancy

example : exRow.all GCell.ok = true ∧ rowWF (exRow.map GCell.abs) = true ∧ exRow.all GCell.okCh = true := by
  decide
/-- the window `[1, 8)` cuts the first wide character on the left and the last one on the right,
    and contains a change of style: blank, repeat run `aa`, text run `世b`, blank -/
example : (exRow.styledLine 1 (some 7)).1 =
    [⟨⟨boldRedOn200, [], 0x20, 1⟩, []⟩, ⟨⟨boldRedOn200, [], 0x61, 2⟩, []⟩,
     ⟨⟨fancy, [0xE4, 0xB8, 0x96, 0x62], 0, 3⟩, [([0xE4, 0xB8, 0x96], 2), ([0x62], 1)]⟩,
     ⟨⟨fancy, [], 0x20, 1⟩, []⟩] := by decide
example : ((exRow.styledLine 1 (some 7)).1).flatMap GSpanC.cells = subCells (exRow.map GCell.abs) 1 8 := by
  decide
example : ((exRow.styledLine 1 (some 7)).1).flatMap GSpanC.cells =
    [blank boldRedOn200, ⟨.ch [0x61] 1, boldRedOn200⟩, ⟨.ch [0x61] 1, boldRedOn200⟩,
     ⟨.ch [0xE4, 0xB8, 0x96] 2, fancy⟩, ⟨.cont, fancy⟩, ⟨.ch [0x62] 1, fancy⟩, blank fancy] := by decide
/-- a wide character cut on both sides (three cells, window of its middle cell) -/
example :
    let r : GRow := [⟨0x4E16, [0xE4, 0xB8, 0x96], 3, false, fancy⟩, ⟨0, [], 0, true, fancy⟩, ⟨0, [], 0, true, fancy⟩]
    ((r.styledLine 1 (some 1)).1).flatMap GSpanC.cells = subCells (r.map GCell.abs) 1 2 ∧
    ((r.styledLine 1 (some 1)).1).flatMap GSpanC.cells = [blank fancy] := by decide
/-- the widths theorem on the example -/
example : wsum (exRow.styledLine 1 (some 7)).1 = 7 := (grid_styledLine_widths exRow 1 (by decide) (some 7)).1

/-- a row that `C20Grid.RowOK` and `okCh` allow but no writer produces: the continuation cell of
    `世` in another style than its head -/
def badRow : GRow :=
  [⟨0x4E16, [0xE4, 0xB8, 0x96], 2, false, boldRedOn200⟩, ⟨0, [], 0, true, fancy⟩, nar 0x61 fancy, nar 0x61 fancy]

/-- **the hypothesis "continuation cells have the style of their head" is needed**: on `badRow`
    (`RowOK`, `okCh`) `StyledLine(0, 2)` gives a text run `世` of width 1 (its expansion has two
    cells in the head's style) and a blank in the other style; `subCells` shows the two cells -/
theorem contSty_needed :
    (badRow.all GCell.ok = true ∧ rowWF (badRow.map GCell.abs) = true) ∧ badRow.all GCell.okCh = true ∧
    ((badRow.styledLine 0 (some 2)).1).flatMap GSpanC.cells ≠ subCells (badRow.map GCell.abs) 0 2 ∧
    (badRow.styledLine 0 (some 2)).1 =
      [⟨⟨boldRedOn200, [0xE4, 0xB8, 0x96], 0, 1⟩, [([0xE4, 0xB8, 0x96], 2)]⟩, ⟨⟨fancy, [], 0, 1⟩, []⟩] := by
  decide

/-- `grid_styledLine_subCells` on every window of a row, as a Boolean -/
def allWindows (r : GRow) : Bool :=
  (List.range (r.length + 1)).all fun x => (List.range (r.length + 1 - x)).all fun w =>
    ((r.styledLine x (some w)).1).flatMap GSpanC.cells == subCells (r.map GCell.abs) x (x + w) &&
    ((r.styledLine x none).1).flatMap GSpanC.cells == subCells (r.map GCell.abs) x r.length

set_option maxRecDepth 100000 in
/-- every window of `exRow` (55 of them: cuts on the left, on the right, on both sides, stretches) -/
example : allWindows exRow = true := by decide +kernel

/-- `ContSty` as a Boolean check -/
def contStyB (r : GRow) : Bool :=
  (List.range r.length).all fun i =>
    match r[i + 1]? with
    | some c => !c.cont || (match r[i]? with | some c0 => decide (c0.sty = c.sty) | none => false)
    | none => true

theorem contSty_iff {r : GRow} : ContSty r ↔ contStyB r = true := by
  constructor
  · intro h
    refine List.all_eq_true.2 fun i _ => ?_
    cases hc : r[i + 1]? with
    | none => rfl
    | some c =>
      cases hcont : c.cont with
      | false => simp only [hcont, Bool.not_false, Bool.true_or]
      | true =>
        obtain ⟨c0, h0, hs⟩ := h i c hc hcont
        simp only [hcont, h0, hs, decide_true, Bool.not_true, Bool.false_or]
  · intro h i c hc hcont
    have hi : i + 1 < r.length := by
      apply Nat.lt_of_not_le; intro hle; rw [List.getElem?_eq_none hle] at hc; cases hc
    have := List.all_eq_true.1 h i (List.mem_range.2 (by omega))
    rw [hc] at this
    simp only [hcont, Bool.not_true, Bool.false_or] at this
    rw [List.getElem?_eq_getElem (by omega)] at this ⊢
    exact ⟨_, rfl, of_decide_eq_true this⟩

theorem contSty_of_check {r : GRow} (h : contStyB r = true) : ContSty r := contSty_iff.2 h

/-- two styles, a repeat run and a text run, no wide character -/
def narRow : GRow := [nar 0x61 boldRedOn200, nar 0x61 boldRedOn200, nar 0x62 fancy, nar 0x63 fancy]
-- the hypotheses of `grid_styledLine_subCells_partial` hold on `narRow`; `ContSty` fails on `badRow`
-- and holds on `exRow`
example : ((narRow.styledLine 1 (some 3)).1).flatMap GSpanC.cells = subCells (narRow.map GCell.abs) 1 4 :=
  ((grid_styledLine_subCells_partial narRow (by decide) (by decide) (by decide) (x := 1) (by decide)).1 3
    (by decide)).1
example : (narRow.styledLine 1 (some 3)).1 =
    [⟨⟨boldRedOn200, [], 0x61, 1⟩, []⟩, ⟨⟨fancy, [0x62, 0x63], 0, 2⟩, [([0x62], 1), ([0x63], 1)]⟩] := by decide
example : ¬ ContSty badRow := fun h => absurd (contSty_iff.1 h) (by decide)

/-- the hypotheses of the general theorem hold on `exRow` (wide characters, two styles); the window
    `[1, 8)` cuts a wide character on each side -/
example : ((exRow.styledLine 1 (some 7)).1).flatMap GSpanC.cells = subCells (exRow.map GCell.abs) 1 8 :=
  ((grid_styledLine_subCells exRow ⟨by decide, by decide⟩ (by decide) (contSty_of_check (by decide))
    (x := 1) (by decide)).1 7 (by decide)).1
example : ¬ contStyB badRow = true := by decide

end nonvacuity

end TM.C20GridStyled

#print axioms TM.C20GridStyled.stretch_widths
#print axioms TM.C20GridStyled.grid_styledLine_widths
#print axioms TM.C20GridStyled.contSty_needed
#print axioms TM.C20GridStyled.grid_styledLine_subCells_partial
#print axioms TM.C20GridStyled.stream_contSty
#print axioms TM.C20GridStyled.grid_styledLine_subCells
#print axioms TM.C20GridStyled.stream_grid_styledLine
