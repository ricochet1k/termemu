import TM.GridTerm
import Props.C20GridScreen
import Props.C02SpanScreen
import Props.C10
import Props.C11Tok
/-!
# C20Grid — the terminal over cell-grid buffers shows the model terminal

The rows are in `Props/C20GridRow.lean`, the screens in `Props/C20GridScreen.lean`; here the
terminal `GTerm` (`TM/GridTerm.lean`). Its dispatch and the model's are walked together, leaf by
leaf (`Leaf`, `apply_leaf`); **`apply_refines`**: after every token the array-level terminal
shows the model terminal, has emitted the same events, and satisfies its invariant;
**`term_resize_refines`**, **`run_refines`**, and for every byte stream, size ≥ 1×1 and width
function **`stream_refines`** and `stream_rows`. A stream on a 6×3 terminal exercises every cut of
a wide character; `apply_needs_tokWF` shows that the hypothesis on text tokens is needed.
-/
namespace TM.C20Grid
open TM

/-! ## the dispatch

`GTerm.apply` is the dispatch of `Term.apply` with every screen operation replaced by its
array-level counterpart, so the two cascades are walked together (`TM.ite_rel`), once: at each pair
of leaves the screen-level theorem (`Props/C20GridScreen`) says that the active buffer shows the
model's, and `Cells` that the stored cells keep whatever `CellClosed` predicate they satisfied
(`Leaf`, `apply_leaf`). The invariant is not carried along. As for one screen it is the model's
invariant of the terminal shown together with the consistency of every cell (`term_inv_iff_abs`):
the first the model keeps (`C02.apply_inv`), the second is `apply_leaf` at `closed_ok`
(`apply_refines`). -/

@[simp] theorem abs_onAlt (st : GTerm) : st.abs.onAlt = st.onAlt := rfl

theorem abs_scr (st : GTerm) : st.abs.scr = st.scr.abs := by
  rcases st with ⟨m, a, o, _, _, _, _, _⟩
  cases o <;> rfl

theorem abs_kbd (st : GTerm) : st.abs.kbd = st.kbd := by
  rcases st with ⟨m, a, o, _, _, _, _, _⟩
  cases o <;> rfl

theorem term_inv_iff {st : GTerm} :
    GTerm.inv st = true ↔
      GScr.inv st.main = true ∧ GScr.inv st.alt = true ∧ st.main.w = st.alt.w ∧ st.main.h = st.alt.h := by
  simp [GTerm.inv, and_assoc]

def Ref (r : GTerm × List Ev) (q : Term × List Ev) : Prop :=
  r.1.abs = q.1 ∧ r.2 = q.2 ∧ GTerm.inv r.1 = true

/-- both buffers satisfy the screen invariant (nothing is said about their sizes agreeing) -/
def Bufs (st : GTerm) : Prop := GScr.inv st.main = true ∧ GScr.inv st.alt = true

theorem Bufs.scr {st : GTerm} (hi : Bufs st) : GScr.inv st.scr = true := by
  unfold GTerm.scr
  split
  · exact hi.2
  · exact hi.1

def Cells2 (P : GCell → Prop) (t : GTerm) : Prop := Cells P t.main ∧ Cells P t.alt

theorem term_inv_iff_abs {st : GTerm} :
    GTerm.inv st = true ↔ st.abs.inv ∧ Cells2 (fun c => c.ok = true) st := by
  rw [term_inv_iff]
  constructor
  · rintro ⟨h1, h2, h3, h4⟩
    exact ⟨⟨(inv_iff_abs.1 h1).1, (inv_iff_abs.1 h2).1, h3, h4⟩, (inv_iff_abs.1 h1).2, (inv_iff_abs.1 h2).2⟩
  · rintro ⟨⟨a1, a2, a3, a4⟩, c1, c2⟩
    exact ⟨inv_iff_abs.2 ⟨a1, c1⟩, inv_iff_abs.2 ⟨a2, c2⟩, a3, a4⟩

theorem Cells2.scr {P : GCell → Prop} {st : GTerm} (h : Cells2 P st) : Cells P st.scr := by
  unfold GTerm.scr; split
  · exact h.2
  · exact h.1

theorem Cells2.setScr {P : GCell → Prop} {st : GTerm} (h : Cells2 P st) {s : GScr} (hs : Cells P s) :
    Cells2 P (st.setScr s) := by
  unfold GTerm.setScr; split
  · exact ⟨h.1, hs⟩
  · exact ⟨hs, h.2⟩

theorem abs_setScr (st : GTerm) (s : GScr) : (st.setScr s).abs = st.abs.setScr s.abs := by
  rcases st with ⟨m, a, o, _, _, _, _, _⟩
  cases o <;> rfl

section walk
variable {A B : Prop} {P : GCell → Prop} {st : GTerm}

/-- A leaf `r` of the dispatch from the state `st`, against the model's leaf `q`. Two parts,
    because they need different things of `st`. The first, that `r` shows `q` and has emitted the same
    events, holds under `A`: an erasure, `DCH` and a write commute with `abs` only on well-formed
    rows, so there `A` contains `Bufs st`; the DEC modes need nothing, and `A` stays free. The second,
    that every stored cell keeps `P`, needs no invariant at all: this is why
    `C20GridAnsi.apply_chOK` holds of any terminal. It needs `B`, which is free everywhere but at a
    text token, where it says that the head cell written satisfies `P` (`Heads`).
    (`Props/C02SpanTerm.lean` walks the span buffer's dispatch the same way, with `Sim`, `sim_same`,
    `setScr_sim`, `withScr_sim` for `Leaf`, `same`, `setScr`, `withScr`.) -/
def Leaf (A B : Prop) (P : GCell → Prop) (st : GTerm) (r : GTerm × List Ev) (q : Term × List Ev) : Prop :=
  (A → r.1.abs = q.1 ∧ r.2 = q.2) ∧ (B → Cells2 P st → Cells2 P r.1)

namespace Leaf

theorem mono {A' B' : Prop} {r : GTerm × List Ev} {q : Term × List Ev} (ha : A' → A) (hb : B' → B)
    (h : Leaf A B P st r q) : Leaf A' B' P st r q :=
  ⟨fun a => h.1 (ha a), fun b => h.2 (hb b)⟩

theorem ite {c : Prop} [Decidable c] {a b : GTerm × List Ev} {a' b' : Term × List Ev}
    (h1 : Leaf A B P st a a') (h2 : Leaf A B P st b b') :
    Leaf A B P st (if c then a else b) (if c then a' else b') :=
  ite_rel (fun _ => h1) (fun _ => h2)

/-- nothing stored changes; where a view flag, integer or string is set, or nothing at all, both
    hypotheses hold by `rfl` -/
theorem keep {r : GTerm × List Ev} {q : Term × List Ev} (h : r.1.abs = q.1 ∧ r.2 = q.2 := by exact ⟨rfl, rfl⟩)
    (e : r.1.main = st.main ∧ r.1.alt = st.alt := by exact ⟨rfl, rfl⟩) : Leaf A B P st r q :=
  ⟨fun _ => h, fun _ hc => ⟨e.1 ▸ hc.1, e.2 ▸ hc.2⟩⟩

theorem same {evs : List Ev} : Leaf A B P st (st, evs) (st.abs, evs) := keep

theorem setScr {s' : GScr} {c : Scr} {evs : List Ev} (h : A → s'.abs = c) (k : Cells P st.scr → Cells P s') :
    Leaf A B P st (st.setScr s', evs) (st.abs.setScr c, evs) :=
  ⟨fun a => by rw [← h a]; exact ⟨abs_setScr st s', rfl⟩, fun _ hc => hc.setScr (k hc.scr)⟩

/-- not an instance of `setScr`: the event is the cursor of `s'` on one side and of `c` on the
    other, equal only under `A` -/
theorem withScr {s' : GScr} {c : Scr} (h : A → s'.abs = c) (k : Cells P st.scr → Cells P s') :
    Leaf A B P st (st.withScr s') (st.abs.withScr c) :=
  ⟨fun a => by rw [← h a]; exact ⟨abs_setScr st s', rfl⟩, fun _ hc => hc.setScr (k hc.scr)⟩

/-- the rows stay: rendition, autowrap, the saved cursor -/
theorem setGeo {s' : GScr} {c : Scr} {evs : List Ev} (e : s'.abs = c := by rfl)
    (rows : s'.rows = st.scr.rows := by rfl) : Leaf A B P st (st.setScr s', evs) (st.abs.setScr c, evs) :=
  setScr (fun _ => e) (fun k => k.of_rows rows)

/-- the rows stay: a cursor motion -/
theorem withGeo {s' : GScr} {c : Scr} (e : s'.abs = c := by rfl) (rows : s'.rows = st.scr.rows := by rfl) :
    Leaf A B P st (st.withScr s') (st.abs.withScr c) := withScr (fun _ => e) (fun k => k.of_rows rows)

theorem move {x y : Int} :
    Leaf A B P st (st.withScr (st.scr.setCursor x y)) (st.abs.withScr (st.scr.abs.setCursor x y)) := withGeo

theorem setKbd {k : Kbd} {evs : List Ev} : Leaf A B P st (st.setKbd k, evs) (st.abs.setKbd k, evs) :=
  keep (by rcases st with ⟨m, a, o, _, _, _, _, _⟩; cases o <;> exact ⟨rfl, rfl⟩)
    (by unfold GTerm.setKbd; split <;> exact ⟨rfl, rfl⟩)

theorem switchScreen (v : Bool) : Leaf A B P st (st.switchScreen v) (st.abs.switchScreen v) :=
  keep (by rcases st with ⟨m, a, o, _, _, _, _, _⟩; cases o <;> cases v <;> exact ⟨rfl, rfl⟩)
    (by unfold GTerm.switchScreen; split <;> exact ⟨rfl, rfl⟩)

/-! the leaves that change rows need `CellClosed P`; the erasures also `Bufs st` -/

variable (hP : CellClosed P)
include hP

theorem erase {a b c d : Int} {evs : List Ev} :
    Leaf (Bufs st) B P st (st.setScr (st.scr.eraseRegionI a b c d), evs)
      (st.abs.setScr (st.scr.abs.eraseRegionI a b c d), evs) :=
  setScr (fun hi => (eraseRegionI_refines hi.scr a b c d).1) fun h => h.eraseRegionI hP a b c d

/-- `ED 0`, `ED 1`: two erasures -/
theorem erase2 {a b c d a' b' c' d' : Int} {evs : List Ev} :
    Leaf (Bufs st) B P st (st.setScr ((st.scr.eraseRegionI a b c d).eraseRegionI a' b' c' d'), evs)
      (st.abs.setScr ((st.scr.abs.eraseRegionI a b c d).eraseRegionI a' b' c' d'), evs) :=
  setScr (fun hi => by
      have h1 := eraseRegionI_refines hi.scr a b c d
      rw [← h1.1]; exact (eraseRegionI_refines h1.2 a' b' c' d').1)
    fun h => (h.eraseRegionI hP a b c d).eraseRegionI hP a' b' c' d'

/-- `ED 2`: an erasure and a cursor motion -/
theorem eraseHome {a b c d x y : Int} {evs : List Ev} :
    Leaf (Bufs st) B P st (st.setScr ((st.scr.eraseRegionI a b c d).setCursor x y), evs)
      (st.abs.setScr ((st.scr.abs.eraseRegionI a b c d).setCursor x y), evs) :=
  setScr (fun hi => by rw [← (eraseRegionI_refines hi.scr a b c d).1]; rfl)
    fun h => (h.eraseRegionI hP a b c d).of_rows rfl

theorem scroll {a b : Nat} {d : Int} {evs : List Ev} :
    Leaf A B P st (st.setScr (st.scr.scroll a b d), evs) (st.abs.setScr (st.scr.abs.scroll a b d), evs) :=
  setScr (fun _ => abs_scroll st.scr a b d) fun h => h.scroll hP a b d

theorem lineDown : Leaf A B P st (st.withScr st.scr.lineDown) (st.abs.withScr st.scr.abs.lineDown) :=
  withScr (fun _ => abs_lineDown st.scr) fun h => h.lineDown hP

end Leaf

theorem decMode_leaf (st : GTerm) (p : Int) (v : Bool) : Leaf A B P st (st.decMode p v) (st.abs.decMode p v) := by
  have flag : ∀ i, Leaf A B P st (st.setVFlag i v) (st.abs.setVFlag i v) := fun _ => .keep
  have int : ∀ i n, Leaf A B P st (st.setVInt i n) (st.abs.setVInt i n) := fun _ _ => .keep
  unfold GTerm.decMode Term.decMode
  rw [abs_scr]
  exact
    .ite (flag _) <| .ite .setGeo <| .ite (int _ _) <|
    .ite (flag _) <| .ite (flag _) <| .ite (int _ _) <| .ite (int _ _) <| .ite (int _ _) <|
    .ite (flag _) <| .ite (int _ _) <| .ite (int _ _) <| .ite (int _ _) <|
    .ite (.switchScreen v) <| .ite (flag _) .same

theorem decModes_leaf (v : Bool) : ∀ (ps : List Int) (st : GTerm),
    Leaf A B P st (st.decModes v ps) (st.abs.decModes v ps)
  | [], _ => .same
  | p :: ps, st => by
    obtain ⟨a, a'⟩ := decMode_leaf (A := A) (B := B) (P := P) st p v
    obtain ⟨b, b'⟩ := decModes_leaf v ps (st.decMode p v).1
    have e1 : st.decModes v (p :: ps) =
        (((st.decMode p v).1.decModes v ps).1, (st.decMode p v).2 ++ ((st.decMode p v).1.decModes v ps).2) := rfl
    rw [e1, Term.decModes_cons]
    refine ⟨fun ha => ?_, fun hb hc => b' hb (a' hb hc)⟩
    rw [← (a ha).1, ← (a ha).2, ← (b ha).1, ← (b ha).2]
    exact ⟨rfl, rfl⟩

theorem csiPlain_leaf (hP : CellClosed P) (st : GTerm) (ps : List Int) (fin : UInt8) :
    Leaf (Bufs st) B P st (st.csiPlain ps fin) (st.abs.csiPlain ps fin) := by
  simp only [GTerm.csiPlain, Term.csiPlain]
  rw [abs_scr]
  exact
    .ite .move <| .ite .move <| .ite .move <| .ite .move <| .ite .move <| .ite .move <| .ite .move <|
    .ite (.ite .same .same) <|                                                             -- DA1
    .ite .setGeo <| .ite .setGeo <| .ite .withGeo <|                                       -- SGR, s, u
    .ite (.ite (.erase hP) <| .ite (.erase hP) <| .ite (.erase hP) .same) <|               -- EL
    .ite (.ite (.erase2 hP) <| .ite (.erase2 hP) <| .ite (.eraseHome hP) .same) <|         -- ED
    .ite (.ite (.scroll hP) .same) <| .ite (.ite (.scroll hP) .same) <|                    -- IL, DL
    .ite (.scroll hP) <| .ite (.scroll hP) <|                                              -- SU, SD
    .ite (.ite .same (.setScr (fun hi => (dch_refines hi.scr _).1) (fun h => h.dch hP _))) <|   -- DCH
    .ite (.erase hP) <|                                                                    -- ECH
    .ite (.setScr (fun hi => (setMargins_refines hi.scr _ _).1)                            -- DECSTBM
      (fun h => h.of_rows (setMargins_rows _ _ _).1)) <|
    -- DSR; for `6` the reply of `gCsiReplyCPR st.scr` is that of `csiReplyCPR st.scr.abs` by `rfl`
    .ite (.ite .same <| .ite .same .same) .same

theorem csi_leaf (hP : CellClosed P) (st : GTerm) (pfx : UInt8) (ps : List Int) (fin : UInt8) :
    Leaf (Bufs st) B P st (st.csi pfx ps fin) (st.abs.csi pfx ps fin) := by
  unfold GTerm.csi Term.csi
  rw [abs_kbd]
  exact
    .ite (csiPlain_leaf hP st ps fin) <|
    .ite (.ite .same <| .ite (decModes_leaf true ps st) <| .ite (decModes_leaf false ps st) .same) <|
    .ite (.ite .same <|
      .ite (by
        cases modifyOtherKeysMode ps none with
        | none => exact .same
        | some m => exact .ite .keep .same) <|
      .ite .setKbd .same) <|
    .ite (.ite .setKbd .same) <|
    .ite (.ite .setKbd .same) .same

/-- the token hypothesis: the bytes of a text token are the encoding of the rune they decode to
    (what the tokeniser yields, `tokWF_of_tokOK`); nothing for the other tokens -/
def TokWF : Tok → Prop
  | .text stored _ => encodeRune (decodeRune stored).1 = stored
  | _ => True

/-- the head cells a token may store satisfy `P` (`put` stores the decoded rune, or U+FFFD when the
    character is wider than the screen); nothing for the other tokens -/
def Heads (P : GCell → Prop) : Tok → Prop
  | .text stored _ => ∀ rune, rune = 0xFFFD ∨ rune = (decodeRune stored).1 → ∀ w s, P (gHead rune (max w 1) s)
  | _ => True

/-- the dispatch, walked once: under the buffers' invariant and `TokWF` the terminal after the token
    shows the model terminal after it and has emitted the same events; every stored cell keeps `P`
    when the head cells the token may store satisfy it -/
theorem apply_leaf (hP : CellClosed P) (cw : Nat → Nat) (st : GTerm) (tok : Tok) :
    Leaf (Bufs st ∧ TokWF tok) (Heads P tok) P st (st.apply cw tok) (st.abs.apply cw tok) := by
  cases tok with
  | text stored cp =>
    refine ⟨fun ⟨hi, htok⟩ => ?_, fun hh hc => hc.setScr (hc.scr.put hP stored (cw cp) hh)⟩
    have hp : _ = Scr.put st.abs.pol st.scr.abs stored (cw cp) := (put_refines hi.scr (w0 := cw cp) htok).1
    simp only [GTerm.apply, Term.apply]
    rw [abs_scr, ← hp]
    exact ⟨abs_setScr _ _, rfl⟩
  | ctl b =>
    refine .mono And.left id ?_
    simp only [GTerm.apply, Term.apply]
    rw [abs_scr]
    exact
      .ite .same <| .ite .withGeo <| .ite .move <|
      .ite (.withScr (fun _ => abs_lineDown _) fun h => Cells.lineDown hP (s := { st.scr with cx := 0 }) h) <|
      .ite (.lineDown hP) <| .ite .withGeo .same
  | esc inter fin =>
    refine .mono And.left id ?_
    simp only [GTerm.apply, Term.apply]
    rw [abs_scr]
    exact
      .ite .same <| .ite (.lineDown hP) <|
      .ite (.withScr (fun _ => abs_lineUp st.scr) fun h => h.lineUp hP) <|
      .ite .keep <| .ite .keep .same
  | csi pfx ps clean fin =>
    refine .mono And.left id ?_
    simp only [GTerm.apply, Term.apply]
    exact .ite (csi_leaf hP st pfx ps fin) .same
  | osc num payload wf =>
    refine .mono And.left id ?_
    simp only [GTerm.apply, Term.apply]
    exact
      .ite .same <| .ite .keep <| .ite .keep <| .ite .keep .same
  | dcs => exact .same

end walk

theorem heads_ok : ∀ tok, Heads (fun c => c.ok = true) tok
  | .text _ _ => fun _ _ => ok_gHead_max _
  | .ctl _ | .esc _ _ | .csi _ _ _ _ | .osc _ _ _ | .dcs => trivial

/-- sizes of both buffers after a token: those of the model terminal (`C10.Lemmas.apply_geo`) -/
theorem apply_size (cw : Nat → Nat) {st : GTerm}
    (hi : GTerm.inv st = true) {tok : Tok} (htok : TokWF tok) :
    (st.apply cw tok).1.main.w = st.main.w ∧ (st.apply cw tok).1.main.h = st.main.h ∧
    (st.apply cw tok).1.alt.w = st.alt.w ∧ (st.apply cw tok).1.alt.h = st.alt.h := by
  obtain ⟨h1, h2, _⟩ := term_inv_iff.1 hi
  obtain ⟨a, _⟩ := (apply_leaf closed_ok cw st tok).1 ⟨⟨h1, h2⟩, htok⟩
  obtain ⟨_, g1, g2, g3, g4, _⟩ := C10.Lemmas.apply_geo cw st.abs tok
    (fun h => by cases (h : WidePolicy.blank = .keep))
  rw [← a] at g1 g2 g3 g4
  exact ⟨g1, g2, g3, g4⟩

/-- for every token, the array-level terminal after the token shows the model terminal after the
    token, the events are equal, the invariant is kept -/
theorem apply_refines (cw : Nat → Nat) {st : GTerm}
    (hi : GTerm.inv st = true) {tok : Tok} (htok : TokWF tok) :
    ((st.apply cw tok).1).abs = (st.abs.apply cw tok).1 ∧
    (st.apply cw tok).2 = (st.abs.apply cw tok).2 ∧
    GTerm.inv (st.apply cw tok).1 = true := by
  obtain ⟨hm, hk⟩ := term_inv_iff_abs.1 hi
  obtain ⟨a, e⟩ := (apply_leaf closed_ok cw st tok).1 ⟨⟨(term_inv_iff.1 hi).1, (term_inv_iff.1 hi).2.1⟩, htok⟩
  exact ⟨a, e, term_inv_iff_abs.2 ⟨a ▸ C02.apply_inv cw st.abs hm tok,
    (apply_leaf closed_ok cw st tok).2 (heads_ok tok) hk⟩⟩

theorem csi_refines {st : GTerm} (hi : GTerm.inv st = true)
    (pfx : UInt8) (ps : List Int) (fin : UInt8) :
    Ref (st.csi pfx ps fin) (st.abs.csi pfx ps fin) :=
  apply_refines id hi (tok := .csi pfx ps true fin) trivial

/-! ## `Resize` and the initial terminal -/

/-- `Resize(w,h)` of both buffers commutes with `abs`, the events are equal, the invariant is kept -/
theorem term_resize_refines {st : GTerm} (hi : GTerm.inv st = true)
    {w h : Nat} (hw : 1 ≤ w) (hh : 1 ≤ h) :
    ((st.resize w h).1).abs = (st.abs.resize w h).1 ∧
    (st.resize w h).2 = (st.abs.resize w h).2 ∧
    GTerm.inv (st.resize w h).1 = true := by
  obtain ⟨h1, h2, h3, h4⟩ := term_inv_iff.1 hi
  obtain ⟨m1, m2⟩ := resize_refines h1 hw hh
  obtain ⟨a1, a2⟩ := resize_refines h2 hw hh
  have e1 : ((st.resize w h).1).abs = (st.abs.resize w h).1 := by
    show GTerm.abs { st with main := st.main.resize w h, alt := st.alt.resize w h } =
      { st.abs with main := (st.main.abs).resize w h, alt := (st.alt.abs).resize w h }
    rw [← m1, ← a1]; rfl
  refine ⟨e1, ?_, term_inv_iff.2 ⟨m2, a2, rfl, rfl⟩⟩
  show [Ev.style (st.main.resize w h).sty, .style (st.alt.resize w h).sty,
      .cursor ((st.resize w h).1).scr.cx ((st.resize w h).1).scr.cy, .style ((st.resize w h).1).scr.sty] =
    [Ev.style ((st.main.abs).resize w h).sty, .style ((st.alt.abs).resize w h).sty,
      .cursor ((st.abs.resize w h).1).scr.cx ((st.abs.resize w h).1).scr.cy,
      .style ((st.abs.resize w h).1).scr.sty]
  rw [← e1, abs_scr, ← m1, ← a1]; rfl

theorem term_abs_init (w h : Nat) : (GTerm.init w h).abs = Term.init .blank w h := by
  show ({ pol := .blank, main := (GScr.init w h).abs, alt := (GScr.init w h).abs } : Term) = _
  rw [abs_init]; rfl

theorem term_inv_init {w h : Nat} (hw : 1 ≤ w) (hh : 1 ≤ h) :
    GTerm.inv (GTerm.init w h) = true :=
  term_inv_iff.2 ⟨inv_init hw hh, inv_init hw hh, rfl, rfl⟩

/-! ## token lists -/

def gStateAfter (cw : Nat → Nat) (st : GTerm) (toks : List Tok) : GTerm :=
  toks.foldl (fun t tk => (GTerm.apply cw t tk).1) st

def gEventsOf (cw : Nat → Nat) : GTerm → List Tok → List Ev
  | _, [] => []
  | t, tok :: toks => (GTerm.apply cw t tok).2 ++ gEventsOf cw (GTerm.apply cw t tok).1 toks

theorem gEventsOf_eq (cw : Nat → Nat) (st : GTerm) (toks : List Tok) :
    gEventsOf cw st toks = Run.out (GTerm.apply cw) st toks :=
  Run.out_unique (fun _ => rfl) (fun _ _ _ => rfl) st toks

theorem run_refines_from (cw : Nat → Nat) (toks : List Tok)
    {st : GTerm} (hi : GTerm.inv st = true) (hok : ∀ tok ∈ toks, TokWF tok) :
    (gStateAfter cw st toks).abs = C10.stateAfter cw st.abs toks ∧
    gEventsOf cw st toks = C10.eventsOf cw st.abs toks ∧
    GTerm.inv (gStateAfter cw st toks) = true ∧
    (gStateAfter cw st toks).main.w = st.main.w ∧ (gStateAfter cw st toks).main.h = st.main.h := by
  have := Run.sim (ap := GTerm.apply cw) (ap' := Term.apply cw) (P := TokWF)
    (R := fun s t => s.abs = t ∧ GTerm.inv s = true ∧ s.main.w = st.main.w ∧ s.main.h = st.main.h)
    (fun s t tok ⟨e, hi, hw, hh⟩ ht => by
      subst e
      obtain ⟨a1, a2, a3⟩ := apply_refines cw hi ht
      obtain ⟨z1, z2, _⟩ := apply_size cw hi ht
      exact ⟨⟨a1, a3, z1.trans hw, z2.trans hh⟩, a2⟩) ⟨rfl, hi, rfl, rfl⟩ hok
  rw [gEventsOf_eq, C10.Lemmas.eventsOf_eq]
  exact ⟨this.1.1, this.2, this.1.2⟩

/-- from the initial terminal, along every list of tokens whose text tokens are well formed: `abs`
    of the array-level terminal is the model terminal (state and events), and the invariant holds -/
theorem run_refines (cw : Nat → Nat) {w h : Nat} (hw : 1 ≤ w) (hh : 1 ≤ h)
    (toks : List Tok) (hok : ∀ tok ∈ toks, TokWF tok) :
    (gStateAfter cw (GTerm.init w h) toks).abs = C10.stateAfter cw (Term.init .blank w h) toks ∧
    gEventsOf cw (GTerm.init w h) toks = C10.eventsOf cw (Term.init .blank w h) toks ∧
    GTerm.inv (gStateAfter cw (GTerm.init w h) toks) = true := by
  obtain ⟨a, b, c, _⟩ := run_refines_from cw toks (term_inv_init hw hh) hok
  rw [term_abs_init] at a b
  exact ⟨a, b, c⟩

/-! ## byte streams -/

theorem tokWF_of_tokOK {tok : Tok} (h : C11M.TokOK tok) : TokWF tok := by
  cases tok with
  | text stored cp =>
    obtain ⟨hv, h32, h127, rfl⟩ := h
    show encodeRune (decodeRune (encodeRune cp)).1 = encodeRune cp
    rw [TM.decodeRune_encodeRune_self cp hv]
  | ctl _ => trivial
  | esc _ _ => trivial
  | csi _ _ _ _ => trivial
  | osc _ _ _ => trivial
  | dcs => trivial

/-- for every byte string, size and width function: the terminal over cell-grid screens, fed the
    tokens of the stream, shows exactly the model terminal (grid policy `.blank`) after the stream;
    it emitted the same events; its invariant holds -/
theorem stream_refines (cw : Nat → Nat) {w h : Nat} (hw : 1 ≤ w) (hh : 1 ≤ h)
    (bs : Bytes) :
    (gStateAfter cw (GTerm.init w h) (C10.toksOf bs)).abs = (run cw (Term.init .blank w h) bs).1 ∧
    gEventsOf cw (GTerm.init w h) (C10.toksOf bs) = (run cw (Term.init .blank w h) bs).2.1 ∧
    GTerm.inv (gStateAfter cw (GTerm.init w h) (C10.toksOf bs)) = true := by
  rw [(C10.Lemmas.run_eq ..).1, (C10.Lemmas.run_eq ..).2]
  exact run_refines cw hw hh _ fun tok h => tokWF_of_tokOK (C11M.Lemmas.toksFuel_tokOK _ bs tok h)

/-- row by row, for every input: both buffers of the code-shaped data structure keep the size
    `w × h`, have `h` rows, and every row is a row of `w` consistent cells (`RowInv`) showing exactly
    the cells of that row of the model terminal -/
theorem stream_rows (cw : Nat → Nat) {w h : Nat} (hw : 1 ≤ w) (hh : 1 ≤ h)
    (bs : Bytes) :
    let S := gStateAfter cw (GTerm.init w h) (C10.toksOf bs)
    let T := (run cw (Term.init .blank w h) bs).1
    S.main.w = w ∧ S.main.h = h ∧ S.alt.w = w ∧ S.alt.h = h ∧
    S.main.rows.length = h ∧ S.alt.rows.length = h ∧ S.onAlt = T.onAlt ∧
    ∀ y, y < h →
      RowInv w (S.main.row y) ∧ T.main.row y = (S.main.row y).map GCell.abs ∧
      RowInv w (S.alt.row y) ∧ T.alt.row y = (S.alt.row y).map GCell.abs := by
  intro S T
  have hok : ∀ tok ∈ C10.toksOf bs, TokWF tok :=
    fun tok h => tokWF_of_tokOK (C11M.Lemmas.toksFuel_tokOK _ bs tok h)
  obtain ⟨_, _, c, d1, d2⟩ := run_refines_from cw (C10.toksOf bs) (term_inv_init (w := w) (h := h) hw hh) hok
  have hT : S.abs = T := (stream_refines cw hw hh bs).1
  obtain ⟨i1, i2, i3, i4⟩ := term_inv_iff.1 c
  change S.main.w = w at d1
  change S.main.h = h at d2
  change GScr.inv S.main = true at i1
  change GScr.inv S.alt = true at i2
  change S.main.w = S.alt.w at i3
  change S.main.h = S.alt.h at i4
  obtain ⟨m3, m4, _⟩ := inv_iff.1 i1
  obtain ⟨n3, n4, _⟩ := inv_iff.1 i2
  refine ⟨d1, d2, i3 ▸ d1, i4 ▸ d2, m3.trans d2, n3.trans (i4 ▸ d2), by rw [← hT]; rfl, ?_⟩
  intro y hy
  have hm : RowInv w (S.main.row y) := by
    rw [← d1]; exact m4 _ (row_mem (by omega))
  have ha : RowInv w (S.alt.row y) := by
    rw [← d1, i3]; exact n4 _ (row_mem (by omega))
  refine ⟨hm, ?_, ha, ?_⟩
  · rw [← hT]; exact abs_row S.main y
  · rw [← hT]; exact abs_row S.alt y

/-! ## non-vacuity: a concrete stream on a 6×3 terminal -/

section nonvacuity
open TM.C02SpanScreen (cwS zhong)

/-- row 0: `a中`, CUP onto the second cell of `中`, `b` (the grid blanks the wide character: `a_b`);
    row 1: `x中中`, CUP onto the first cell of the first `中`, `EL 1` (the erasure ends inside the wide
    character, which is blanked whole: `___中`); row 2: `xy中z`, CUP to column 1, `DCH 2` (cuts the
    wide character: `x_z`); `?1049h`, `中中`, CUP onto the second cell of the first `中`, `ECH 2`
    (starts inside one wide character and ends inside the next: both blanked), CUP, `中`
    at columns 3-4 of row 1, `?1049l` -/
def exBytes : Bytes :=
  [0x61, 0xe4, 0xb8, 0xad, 0x1b, 0x5b, 0x31, 0x3b, 0x33, 0x48, 0x62,
   0x1b, 0x5b, 0x32, 0x3b, 0x31, 0x48, 0x78, 0xe4, 0xb8, 0xad, 0xe4, 0xb8, 0xad,
   0x1b, 0x5b, 0x32, 0x3b, 0x32, 0x48, 0x1b, 0x5b, 0x31, 0x4b,
   0x1b, 0x5b, 0x33, 0x3b, 0x31, 0x48, 0x78, 0x79, 0xe4, 0xb8, 0xad, 0x7a,
   0x1b, 0x5b, 0x33, 0x3b, 0x32, 0x48, 0x1b, 0x5b, 0x32, 0x50,
   0x1b, 0x5b, 0x3f, 0x31, 0x30, 0x34, 0x39, 0x68, 0xe4, 0xb8, 0xad, 0xe4, 0xb8, 0xad,
   0x1b, 0x5b, 0x31, 0x3b, 0x32, 0x48, 0x1b, 0x5b, 0x32, 0x58,
   0x1b, 0x5b, 0x32, 0x3b, 0x34, 0x48, 0xe4, 0xb8, 0xad,
   0x1b, 0x5b, 0x3f, 0x31, 0x30, 0x34, 0x39, 0x6c]

def exToks : List Tok :=
  [.text [0x61] 0x61, .text zhong 0x4E2D, .csi 0 [1, 3] true 0x48, .text [0x62] 0x62,
   .csi 0 [2, 1] true 0x48, .text [0x78] 0x78, .text zhong 0x4E2D, .text zhong 0x4E2D,
   .csi 0 [2, 2] true 0x48, .csi 0 [1] true 0x4b,
   .csi 0 [3, 1] true 0x48, .text [0x78] 0x78, .text [0x79] 0x79, .text zhong 0x4E2D, .text [0x7a] 0x7a,
   .csi 0 [3, 2] true 0x48, .csi 0 [2] true 0x50,
   .csi 0x3f [1049] true 0x68, .text zhong 0x4E2D, .text zhong 0x4E2D,
   .csi 0 [1, 2] true 0x48, .csi 0 [2] true 0x58, .csi 0 [2, 4] true 0x48, .text zhong 0x4E2D,
   .csi 0x3f [1049] true 0x6c]

theorem toksOf_exBytes : C10.toksOf exBytes = exToks := by decide +kernel
example : C10.toksOf exBytes = exToks := toksOf_exBytes

theorem exToks_ok : ∀ tok ∈ exToks, TokWF tok := by
  rw [← toksOf_exBytes]
  exact fun tok h => tokWF_of_tokOK (C11M.Lemmas.toksFuel_tokOK _ exBytes tok h)
example : TokWF (.text zhong 0x4E2D) := (by decide : encodeRune (decodeRune zhong).1 = zhong)

def exS : GTerm := gStateAfter cwS (GTerm.init 6 3) exToks
def exT : Term := (run cwS (Term.init .blank 6 3) exBytes).1

def gCh (rune : Nat) (text : Bytes) (width : Nat) : GCell := ⟨rune, text, width, false, Style.default⟩

/-- two screens with the same fields are equal (comparing the fields one by one is much faster for
    `decide` than the derived equality of `Scr`) -/
theorem scr_ext {s t : Scr}
    (h : s.w = t.w ∧ s.h = t.h ∧ s.grid = t.grid ∧ s.cx = t.cx ∧ s.cy = t.cy ∧ s.sx = t.sx ∧ s.sy = t.sy ∧
      s.top = t.top ∧ s.bot = t.bot ∧ s.wrap = t.wrap ∧ s.sty = t.sty) : s = t := by
  cases s; cases t
  obtain ⟨h1, h2, h3, h4, h5, h6, h7, h8, h9, h10, h11⟩ := h
  simp only at h1 h2 h3 h4 h5 h6 h7 h8 h9 h10 h11
  subst h1 h2 h3 h4 h5 h6 h7 h8 h9 h10 h11
  rfl

-- `abs` of the grid-level result is the model's result, buffer by buffer, and the events agree
set_option maxRecDepth 100000 in
example : exS.abs.main = exT.main ∧ exS.abs.alt = exT.alt ∧ exS.abs.onAlt = exT.onAlt ∧
    exS.abs.vflags = exT.vflags ∧ exS.abs.pol = exT.pol ∧ GTerm.inv exS = true :=
  ⟨scr_ext (by decide +kernel), scr_ext (by decide +kernel), by decide +kernel, by decide +kernel, by decide +kernel, by decide +kernel⟩
set_option maxRecDepth 100000 in
example : gEventsOf cwS (GTerm.init 6 3) exToks = (run cwS (Term.init .blank 6 3) exBytes).2.1 := by decide +kernel
-- the raw stored cells of the main buffer: `a_b___` (the wide character was blanked by the write on
-- its second cell), `___中·_` (`EL 1` ended inside the first wide character), `x_z___` (`DCH 2` cut
-- the wide character); the alternate buffer: blank row (`ECH 2` cut both wide characters), `___中·_`
set_option maxRecDepth 100000 in
example :
    exS.main.rows = [
      [gCh 0x61 [0x61] 1, gBlank Style.default, gCh 0x62 [0x62] 1, gBlank Style.default, gBlank Style.default,
        gBlank Style.default],
      [gBlank Style.default, gBlank Style.default, gBlank Style.default, gCh 0x4E2D zhong 2, gCont Style.default,
        gBlank Style.default],
      [gCh 0x78 [0x78] 1, gBlank Style.default, gCh 0x7a [0x7a] 1, gBlank Style.default, gBlank Style.default,
        gBlank Style.default]] ∧
    exS.alt.rows = [
      gBlankRow 6 Style.default,
      [gBlank Style.default, gBlank Style.default, gBlank Style.default, gCh 0x4E2D zhong 2, gCont Style.default,
        gBlank Style.default],
      gBlankRow 6 Style.default] ∧
    exS.main.cx = 1 ∧ exS.main.cy = 2 ∧ exS.alt.cx = 5 ∧ exS.alt.cy = 1 ∧ exS.onAlt = false := by decide +kernel
theorem exS_refines : exS.abs = exT ∧ GTerm.inv exS = true := by
  have := stream_refines cwS (w := 6) (h := 3) (by decide +kernel) (by decide +kernel) exBytes
  rw [toksOf_exBytes] at this
  exact ⟨this.1, this.2.2⟩
example : exS.abs = exT ∧ GTerm.inv exS = true := exS_refines
-- before `b`: the wide character and its continuation cell; after `b` was written with the cursor
-- on the second cell of `中`: the wide character is blanked (the run-level buffer keeps it)
set_option maxRecDepth 100000 in
example :
    (gStateAfter cwS (GTerm.init 6 3) (exToks.take 3)).main.rows[0]? =
      some [gCh 0x61 [0x61] 1, gCh 0x4E2D zhong 2, gCont Style.default, gBlank Style.default,
        gBlank Style.default, gBlank Style.default] ∧
    (gStateAfter cwS (GTerm.init 6 3) (exToks.take 3)).main.cx = 2 ∧
    (gStateAfter cwS (GTerm.init 6 3) (exToks.take 4)).main.rows[0]? =
      some [gCh 0x61 [0x61] 1, gBlank Style.default, gCh 0x62 [0x62] 1, gBlank Style.default,
        gBlank Style.default, gBlank Style.default] := by decide +kernel
-- before `EL 1` (row 1 `x中中_`, cursor on the first cell of the first `中`) and before `DCH 2`
set_option maxRecDepth 100000 in
example :
    (gStateAfter cwS (GTerm.init 6 3) (exToks.take 9)).main.rows[1]? =
      some [gCh 0x78 [0x78] 1, gCh 0x4E2D zhong 2, gCont Style.default, gCh 0x4E2D zhong 2, gCont Style.default,
        gBlank Style.default] ∧
    (gStateAfter cwS (GTerm.init 6 3) (exToks.take 9)).main.cx = 1 ∧
    (gStateAfter cwS (GTerm.init 6 3) (exToks.take 16)).main.rows[2]? =
      some [gCh 0x78 [0x78] 1, gCh 0x79 [0x79] 1, gCh 0x4E2D zhong 2, gCont Style.default, gCh 0x7a [0x7a] 1,
        gBlank Style.default] ∧
    (gStateAfter cwS (GTerm.init 6 3) (exToks.take 16)).main.cx = 1 := by decide +kernel
-- `Resize(4,2)` afterwards cuts the wide character of row 1 in both buffers (its continuation cell
-- was at column 4): `abs` of the result is the model's, the events agree, the invariant holds, and
-- the cut character is stored as blanks
set_option maxRecDepth 100000 in
example : (exS.resize 4 2).1.abs.main = (exS.abs.resize 4 2).1.main ∧
    (exS.resize 4 2).1.abs.alt = (exS.abs.resize 4 2).1.alt ∧
    (exS.resize 4 2).2 = (exS.abs.resize 4 2).2 ∧ GTerm.inv (exS.resize 4 2).1 = true ∧
    (exS.resize 4 2).1.main.rows = [
      [gCh 0x61 [0x61] 1, gBlank Style.default, gCh 0x62 [0x62] 1, gBlank Style.default],
      gBlankRow 4 Style.default] ∧
    (exS.resize 4 2).1.alt.rows = [gBlankRow 4 Style.default, gBlankRow 4 Style.default] :=
  ⟨scr_ext (by decide +kernel), scr_ext (by decide +kernel), by decide +kernel, by decide +kernel, by decide +kernel, by decide +kernel⟩
-- the same against the model terminal after the stream
set_option maxRecDepth 100000 in
example : (exS.resize 4 2).1.abs.main = (exT.resize 4 2).1.main ∧
    (exS.resize 4 2).1.abs.alt = (exT.resize 4 2).1.alt ∧ (exS.resize 4 2).2 = (exT.resize 4 2).2 :=
  ⟨scr_ext (by decide +kernel), scr_ext (by decide +kernel), by decide +kernel⟩
-- `Resize(5,3)` keeps the wide character of row 1 whole (`___中·`), `Resize(3,3)` drops it whole
set_option maxRecDepth 100000 in
example : (exS.resize 5 3).1.abs.main = (exS.abs.resize 5 3).1.main ∧
    (exS.resize 5 3).1.abs.alt = (exS.abs.resize 5 3).1.alt ∧ GTerm.inv (exS.resize 5 3).1 = true ∧
    (exS.resize 5 3).1.main.rows[1]? = some [gBlank Style.default, gBlank Style.default, gBlank Style.default,
      gCh 0x4E2D zhong 2, gCont Style.default] ∧
    (exS.resize 3 3).1.abs.main = (exS.abs.resize 3 3).1.main ∧ GTerm.inv (exS.resize 3 3).1 = true ∧
    (exS.resize 3 3).1.main.rows[1]? = some (gBlankRow 3 Style.default) :=
  ⟨scr_ext (by decide), scr_ext (by decide), by decide, by decide, scr_ext (by decide), by decide, by decide⟩
-- the theorem instantiated
example : (exS.resize 4 2).1.abs = (exS.abs.resize 4 2).1 ∧ GTerm.inv (exS.resize 4 2).1 = true := by
  have := term_resize_refines exS_refines.2 (w := 4) (h := 2) (by decide +kernel) (by decide +kernel)
  exact ⟨this.1, this.2.2⟩

/-- the token hypothesis of `apply_refines` is needed: a text token carrying two characters (never
    produced by the tokeniser) is stored by the grid as its first rune only, the model terminal
    keeps both bytes -/
theorem apply_needs_tokWF :
    GTerm.inv (GTerm.init 3 1) = true ∧ ¬ TokWF (.text [0x61, 0x62] 0x61) ∧
    ((GTerm.init 3 1).apply cwS (.text [0x61, 0x62] 0x61)).1.main.abs ≠
      ((GTerm.init 3 1).abs.apply cwS (.text [0x61, 0x62] 0x61)).1.main := by
  refine ⟨by decide, ?_, ?_⟩
  · show ¬ encodeRune (decodeRune [0x61, 0x62]).1 = [0x61, 0x62]
    decide
  · intro h
    have h3 := congrArg Scr.grid h
    revert h3
    set_option maxRecDepth 100000 in decide

end nonvacuity

end TM.C20Grid

#print axioms TM.C20Grid.csi_refines
#print axioms TM.C20Grid.apply_refines
#print axioms TM.C20Grid.term_resize_refines
#print axioms TM.C20Grid.apply_size
#print axioms TM.C20Grid.run_refines_from
#print axioms TM.C20Grid.term_abs_init
#print axioms TM.C20Grid.term_inv_init
#print axioms TM.C20Grid.run_refines
#print axioms TM.C20Grid.tokWF_of_tokOK
#print axioms TM.C20Grid.stream_refines
#print axioms TM.C20Grid.stream_rows
#print axioms TM.C20Grid.apply_needs_tokWF
