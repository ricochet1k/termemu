import Props.C03SpanFeed
import Props.C03
/-!
# C03SpanClean — `CleanFeed` follows from a clean start

The hypothesis `CleanFeed` of `C03SpanFeed.feedText_refines` (no run of SEVERAL characters starts
on the second cell of a wide character along the feed) holds automatically when the feed starts
off a continuation cell. The invariant carried along the feed (`CleanS` of the cell-level `Scr`,
`Clean` of the run-level `SScr`): the cursor is not on a continuation cell of its row, OR autowrap
is off and the cursor is pinned on the last column — where the next limit `max (w - cx) 1` is 1,
so the next run is a single character.

Why the invariant survives one character (`put_keep_clean`): the column after a character
written by `Row.put`, or inserted by `Row.putKeep`, is a character boundary (`contAt_put_after`,
`contAt_putKeep_after`); with autowrap on a character that does not fit wraps to column 0 of the
next row BEFORE the write, and column 0 is never a continuation cell. With autowrap on and the
cursor ON a continuation cell it fails (`put_keep_wrap_dirty`: the cursor wraps by the shifted
amount onto a continuation cell of the next row).

One run of the feed keeps the invariant and leaves the next run its hypothesis (`clean_run`,
`writeString_feed_clean`, `writeString_feed_next`). Hence `cleanFeed_of_clean_start`,
`feedText_refines_clean_start` (the refinement of `feedText_refines` under the start hypothesis
alone; `feedText_refines_clean` from any `Clean` state) and `feedText_clean_end` (the feed ends as
it started, so consecutive reads chain). "The first run is a single character" is enough with
autowrap off (`cleanFeed_of_first_single_nowrap`) and not with autowrap on
(`single_first_run_not_enough`: `CleanFeed` and the equation of `feedText_refines` both fail).
-/
namespace TM.C03SpanClean
open TM TM.C02Span TM.C02SpanScreen TM.C03SpanWrite TM.C16Reader TM.C03SpanFeed

/-! ## cell level: the column after a written character is a character boundary -/

/-- the column after a character written with `Row.put` is not a continuation cell (also when it
    is the first column beyond the row) -/
theorem contAt_put_after (R : Row) (x : Nat) (t : Bytes) (w : Nat) (st : Style)
    (hwf : rowWF R = true) (hw : 1 ≤ w) (hx : x + w ≤ R.length) :
    contAt (Row.put R x t w st) (x + w) = false := contAt_put_end hwf x t hw st

/-- the same for `Row.putKeep` (cursor on a continuation cell): with `e` the first column after
    the kept character, the column `e + w` after the inserted character is not a continuation
    cell (whether the inserted character still fits in the row or not) -/
theorem contAt_putKeep_after (R : Row) (x : Nat) (t : Bytes) (w : Nat) (st : Style)
    (hwf : rowWF R = true) (hc : contAt R x = true) (hw : 1 ≤ w) :
    contAt (Row.putKeep R x t w st) (headOf R x + widthAt R (headOf R x) + w) = false := by
  by_cases hfit : headOf R x + widthAt R (headOf R x) + w ≤ R.length
  · have h0 := C03.Row.putKeep_text R x t w st hwf hc hw hfit 0 (by omega)
    rw [Nat.add_zero, if_pos rfl] at h0
    exact (wf_ch (C03.Row.putKeep_wf R x t w st hwf hc hw) h0).2.2.2
  · exact contAt_ge (by rw [C03.Row.putKeep_length R x t w st hwf hc hw]; omega)

/-! ## screen level: one `Scr.put` under the span policy -/

/-- the cursor is on a character boundary of its row, or pinned on the last column with autowrap
    off (where the next limit `max (w - cx) 1` is 1) -/
def CleanS (s : Scr) : Prop :=
  contAt (s.row s.cy) s.cx = false ∨ (s.wrap = false ∧ s.cx = s.w - 1)

theorem clean_of_cx0 (S : Scr) (hinv : S.inv = true) (h : S.cx = 0) : CleanS S :=
  Or.inl (by rw [h]; exact C03.Lemmas.row_cont0 S hinv _)

theorem putAt_clean (s : Scr) (text : Bytes) (w : Nat) (hinv : s.inv = true) (hw : 1 ≤ w)
    (hfit : s.cx + w ≤ s.w) (hst : contAt (s.row s.cy) s.cx = false ∨ s.wrap = false)
    (hinv' : (Scr.putFinish (s.setRow s.cy (Scr.putRow .keep s text w)) (Scr.putX .keep s w)).inv = true) :
    CleanS (Scr.putFinish (s.setRow s.cy (Scr.putRow .keep s text w)) (Scr.putX .keep s w)) := by
  obtain ⟨hg, _, geo⟩ := (inv_iff_geo s).1 hinv
  have hcy := geo.cy_lt
  obtain ⟨hl, hwf⟩ := inv_row hinv hcy
  by_cases hX : Scr.putX .keep s w < s.w
  · rw [putFinish_lt (s := s.setRow _ _) hX]
    left
    show contAt (Scr.row _ s.cy) (Scr.putX .keep s w) = false
    rw [C03.Lemmas.row_set s _ s.cy (Scr.putRow .keep s text w) rfl s.cy (by omega), if_pos rfl]
    cases hc : contAt (s.row s.cy) s.cx with
    | false =>
      rw [putRow_plain (.inr hc), putX_plain (.inr hc)]
      exact contAt_put_end hwf _ _ hw _
    | true =>
      obtain ⟨t, wd, s', hch, hwd1, hxe, hlen, hwd⟩ := C03.Lemmas.wf_head hwf (contAt_lt hc)
      have hle := headOf_le (s.row s.cy) s.cx
      have e1 := putRow_keep hc text w
      have e2 := putX_of_cont hc w
      -- the cursor column after `putKeep` is the end of the kept character plus `w`
      rw [e1, e2, show s.cx + w + (headOf (s.row s.cy) s.cx +
          widthAt (s.row s.cy) (headOf (s.row s.cy) s.cx) - s.cx) =
        headOf (s.row s.cy) s.cx + widthAt (s.row s.cy) (headOf (s.row s.cy) s.cx) + w by
        rw [hwd]; omega]
      exact contAt_putKeep_after _ _ _ _ _ hwf hc hw
  · by_cases hwr : s.wrap = true
    · -- autowrap on: the write was not on a continuation cell, the character ended exactly at
      -- the right edge, the cursor is in column 0 of the next row
      rw [putFinish_wrap (s := s.setRow _ _) hX hwr] at hinv' ⊢
      have hc : contAt (s.row s.cy) s.cx = false := by
        rcases hst with h | h
        · exact h
        · rw [hwr] at h; cases h
      have e2 := putX_plain (pol := .keep) (.inr hc) w
      refine clean_of_cx0 _ hinv' ?_
      rw [lineDown_cx]
      show Scr.putX .keep s w - s.w = 0
      omega
    · have hwr' : s.wrap = false := by simpa using hwr
      rw [putFinish_nowrap (s := s.setRow _ _) hX hwr']
      exact Or.inr ⟨hwr', rfl⟩

/-- **one character, cell level.** `Scr.put` under the span policy, from a cursor that is not on
    a continuation cell, or with autowrap off: afterwards the cursor is on a character boundary,
    or pinned on the last column with autowrap off. -/
theorem put_keep_clean (s : Scr) (text : Bytes) (w0 : Nat) (hinv : s.inv = true)
    (hst : contAt (s.row s.cy) s.cx = false ∨ s.wrap = false) :
    CleanS (Scr.put .keep s text w0) := by
  have hinv' := C03.put_keep_inv s text w0 hinv
  have a := (geo_of_inv hinv).w_pos
  have hle := effW_le s w0 a
  have hpos := effW_pos s w0
  rw [put_eq] at hinv' ⊢
  by_cases hfit : s.cx + Scr.effW s w0 ≤ s.w
  · rw [putPre_fit hfit] at hinv' ⊢
    exact putAt_clean s _ _ hinv hpos hfit hst hinv'
  · by_cases hwrap : s.wrap = true
    · rw [putPre_wrap (by omega) hwrap] at hinv' ⊢
      have h0 : ({ s with cx := 0 } : Scr).lineDown.inv = true :=
        C03.Lemmas.lineDown_inv _ (inv_cx hinv a)
      refine putAt_clean _ _ _ h0 hpos ?_ (Or.inl ?_) hinv'
      · rw [(shift_lineDown _).w, lineDown_cx]; show 0 + Scr.effW s w0 ≤ s.w; omega
      · rw [lineDown_cx]; exact C03.Lemmas.row_cont0 _ h0 _
    · have hwrap' : s.wrap = false := by simpa using hwrap
      rw [putPre_nowrap (by omega) hwrap'] at hinv' ⊢
      have hi' : ({ s with cx := s.w - Scr.effW s w0 } : Scr).inv = true :=
        inv_cx hinv (by omega)
      refine putAt_clean _ _ _ hi' hpos ?_ (Or.inr hwrap') hinv'
      show s.w - Scr.effW s w0 + Scr.effW s w0 ≤ s.w; omega

theorem cleanS_pre {s : Scr} (h : CleanS s) : contAt (s.row s.cy) s.cx = false ∨ s.wrap = false :=
  h.elim Or.inl (fun h => Or.inr h.1)

theorem fold_put_clean : ∀ (cs : List Cl) (s : Scr), s.inv = true →
    (cs ≠ [] → contAt (s.row s.cy) s.cx = false ∨ s.wrap = false) → (cs = [] → CleanS s) →
    (cs.foldl (fun sc c => sc.put .keep c.1 c.2) s).inv = true ∧
    CleanS (cs.foldl (fun sc c => sc.put .keep c.1 c.2) s) := by
  intro cs
  induction cs with
  | nil => intro s hi _ h; exact ⟨hi, h rfl⟩
  | cons c cs ih =>
    intro s hi h _
    have h1 := put_keep_clean s c.1 c.2 hi (h (by simp))
    rw [List.foldl_cons]
    exact ih _ (C03.put_keep_inv s c.1 c.2 hi) (fun _ => cleanS_pre h1) (fun _ => h1)

/-! ## run level: one run of the feed, then the whole feed -/

/-- `CleanS` of the screen shown (`clean_abs`) -/
def Clean (cw : Nat → Nat) (s : SScr) : Prop :=
  contAt (lineCells cw (s.line s.cy)) s.cx = false ∨ (s.wrap = false ∧ s.cx = s.w - 1)

theorem clean_abs {cw : Nat → Nat} {s : SScr} : CleanS (s.abs cw) ↔ Clean cw s := by
  unfold CleanS Clean
  rw [abs_row]
  exact Iff.rfl

/-- in a `Clean` state the run the reader hands over (within the limit `max (w - cx) 1`, or a
    single character) is a single character written with autowrap off, or starts on a character
    boundary: pinned on the last column the limit is 1, and every character is at least 1 wide -/
theorem clean_run {cw : Nat → Nat} {s : SScr} (hcl : Clean cw s) {c1 : List Cl}
    (hpos : ∀ c ∈ c1, 1 ≤ c.2) (hne : c1 ≠ [])
    (hlim : ws c1 ≤ max (s.w - s.cx) 1 ∨ c1.length ≤ 1) :
    (c1.length = 1 ∧ s.wrap = false) ∨ contAt (lineCells cw (s.line s.cy)) s.cx = false := by
  rcases hcl with h | ⟨h1, h2⟩
  · exact Or.inr h
  · left
    have hl0 : 0 < c1.length := List.length_pos_iff.2 hne
    have := ws_ge_length hpos
    refine ⟨?_, h1⟩
    rcases hlim with h | h
    · omega
    · omega

/-- **one run.** A run that `feedText` hands over (valid characters, within the limit in force or
    a single character), written by `writeString` from a state where the cursor is not on a
    continuation cell — or the run is a single character and autowrap is off: afterwards the
    invariant holds and the cursor is not on a continuation cell of its row, or autowrap is off
    and the cursor is pinned on the last column. -/
theorem writeString_feed_clean {cw : Nat → Nat} (hb : cw 0x20 ≤ 1) (hr : cw 0xFFFD ≤ 1) {s : SScr}
    (hs : SScr.inv cw s = true) {c1 : List Cl} (hv : ∀ c ∈ c1, VCl cw c) (hne : c1 ≠ [])
    (hlim : ws c1 ≤ max (s.w - s.cx) 1 ∨ c1.length ≤ 1)
    (hc : (c1.length = 1 ∧ s.wrap = false) ∨ contAt (lineCells cw (s.line s.cy)) s.cx = false)
    (n : Nat) :
    SScr.inv cw (s.writeString cw (n + 1) (flat c1) (ws c1)) = true ∧
    Clean cw (s.writeString cw (n + 1) (flat c1) (ws c1)) := by
  obtain ⟨q1, q2⟩ := writeString_feed_run hb hr hs hv hne hlim
    (fun hl => by rcases hc with h | h; exact absurd h.1 hl; exact h) n
  refine ⟨q2, ?_⟩
  have hpre : contAt ((s.abs cw).row (s.abs cw).cy) (s.abs cw).cx = false ∨ (s.abs cw).wrap = false := by
    rcases hc with h | h
    · exact Or.inr h.2
    · left; rw [abs_row]; exact h
  have := (fold_put_clean c1 (s.abs cw) (abs_inv hs) (fun _ => hpre) (fun h => absurd h hne)).2
  rw [← q1] at this
  exact clean_abs.1 this

/-- after such a run the next run is again a single character with autowrap off, or starts on a
    character boundary (the hypothesis of `writeString_feed_clean` is reproduced) -/
theorem writeString_feed_next {cw : Nat → Nat} (hb : cw 0x20 ≤ 1) (hr : cw 0xFFFD ≤ 1) {s : SScr}
    (hs : SScr.inv cw s = true) {c1 : List Cl} (hv : ∀ c ∈ c1, VCl cw c) (hne : c1 ≠ [])
    (hlim : ws c1 ≤ max (s.w - s.cx) 1 ∨ c1.length ≤ 1)
    (hc : (c1.length = 1 ∧ s.wrap = false) ∨ contAt (lineCells cw (s.line s.cy)) s.cx = false)
    (n : Nat) {c2 : List Cl} (hv2 : ∀ c ∈ c2, VCl cw c) (hne2 : c2 ≠ []) :
    let s' := s.writeString cw (n + 1) (flat c1) (ws c1)
    (ws c2 ≤ max (s'.w - s'.cx) 1 ∨ c2.length ≤ 1) →
    (c2.length = 1 ∧ s'.wrap = false) ∨ contAt (lineCells cw (s'.line s'.cy)) s'.cx = false := by
  intro s' hlim2
  obtain ⟨q2, q3⟩ := writeString_feed_clean hb hr hs hv hne hlim hc n
  exact clean_run q3 (fun c hc => ((vcl_toks hv2).pos c hc).2) hne2 hlim2

theorem cleanFeed_of_clean {cw : Nat → Nat} (hb : cw 0x20 ≤ 1) (hr : cw 0xFFFD ≤ 1) :
    ∀ (fuel : Nat) (s : SScr) (r : Rdr) (rest : List Cl), SScr.inv cw s = true → Feeding cw r rest →
      Clean cw s → cleanFeed cw fuel s r = true := by
  intro fuel
  induction fuel with
  | zero => intro s r rest _ _ _; rfl
  | succ f ih =>
    intro s r rest hs hF hcl
    rw [cleanFeed]
    rcases feed_step hF s with ⟨rfl, ht⟩ | ⟨c1, rest', rfl, hne1, hv1, hlim, ht, hw, hemp, _, hF'⟩
    · rw [ht]; rfl
    · simp only [ht, hw, hemp, Bool.false_or, Bool.and_eq_true, Bool.or_eq_true, decide_eq_true_eq,
        Bool.not_eq_true', clusters_flat (vcl_toks hv1)]
      have hrun := clean_run hcl (fun c hc => ((vcl_toks hv1).pos c hc).2) hne1 hlim
      obtain ⟨q2, q3⟩ := writeString_feed_clean hb hr hs hv1 hne1 hlim hrun (flat c1).length
      exact ⟨hrun.elim (fun h => Or.inl h.1) Or.inr, ih _ _ rest' q2 hF' q3⟩

/-- **`CleanFeed` holds automatically when the feed starts off a continuation cell** (or pinned
    on the last column with autowrap off): a stretch of valid printable text, cut by the reader
    and written run by run, never starts a run of several characters on the second cell of a wide
    character. -/
theorem cleanFeed_of_clean_start {cw : Nat → Nat} (hb : cw 0x20 ≤ 1) (hr : cw 0xFFFD ≤ 1) {s : SScr}
    (hs : SScr.inv cw s = true) {cs : List Cl} (hv : ∀ c ∈ cs, VCl cw c)
    (hp : ∀ b ∈ flat cs, isPrintableByte b = true)
    (hc : contAt (lineCells cw (s.line s.cy)) s.cx = false ∨ (s.wrap = false ∧ s.cx = s.w - 1)) :
    CleanFeed cw s (flat cs) :=
  cleanFeed_of_clean hb hr _ s _ cs hs (feeding_init hv hp) hc

/-- **`feedText_refines` with the start hypothesis instead of `CleanFeed`**: valid printable text
    fed from a `Clean` cursor shows what the cell-level screen shows after the characters have been
    put one by one, and the invariant holds afterwards -/
theorem feedText_refines_clean {cw : Nat → Nat} (hb : cw 0x20 ≤ 1) (hr : cw 0xFFFD ≤ 1) {s : SScr}
    (hs : SScr.inv cw s = true) {cs : List Cl} (hv : ∀ c ∈ cs, VCl cw c)
    (hp : ∀ b ∈ flat cs, isPrintableByte b = true) (hc : Clean cw s) :
    (s.feedText cw (flat cs)).abs cw = cs.foldl (fun sc c => sc.put .keep c.1 c.2) (s.abs cw) ∧
    SScr.inv cw (s.feedText cw (flat cs)) = true :=
  feedText_refines hb hr hs hv hp (cleanFeed_of_clean_start hb hr hs hv hp hc)

/-- the same from a cursor that is not on a continuation cell -/
theorem feedText_refines_clean_start {cw : Nat → Nat} (hb : cw 0x20 ≤ 1) (hr : cw 0xFFFD ≤ 1) {s : SScr}
    (hs : SScr.inv cw s = true) {cs : List Cl} (hv : ∀ c ∈ cs, VCl cw c)
    (hp : ∀ b ∈ flat cs, isPrintableByte b = true)
    (hc : contAt (lineCells cw (s.line s.cy)) s.cx = false) :
    (s.feedText cw (flat cs)).abs cw = cs.foldl (fun sc c => sc.put .keep c.1 c.2) (s.abs cw) ∧
    SScr.inv cw (s.feedText cw (flat cs)) = true :=
  feedText_refines_clean hb hr hs hv hp (Or.inl hc)

/-- after the feed the cursor is again on a character boundary, or pinned on the last column
    with autowrap off: consecutive reads of valid printable text chain -/
theorem feedText_clean_end {cw : Nat → Nat} (hb : cw 0x20 ≤ 1) (hr : cw 0xFFFD ≤ 1) {s : SScr}
    (hs : SScr.inv cw s = true) {cs : List Cl} (hv : ∀ c ∈ cs, VCl cw c)
    (hp : ∀ b ∈ flat cs, isPrintableByte b = true)
    (hc : contAt (lineCells cw (s.line s.cy)) s.cx = false ∨ (s.wrap = false ∧ s.cx = s.w - 1)) :
    contAt (lineCells cw ((s.feedText cw (flat cs)).line (s.feedText cw (flat cs)).cy))
        (s.feedText cw (flat cs)).cx = false ∨
      ((s.feedText cw (flat cs)).wrap = false ∧ (s.feedText cw (flat cs)).cx = (s.feedText cw (flat cs)).w - 1) := by
  have hcl : CleanS (s.abs cw) := clean_abs.2 hc
  obtain ⟨e, _⟩ := feedText_refines_clean hb hr hs hv hp hc
  have := (fold_put_clean cs (s.abs cw) (abs_inv hs) (fun _ => cleanS_pre hcl) fun _ => hcl).2
  rw [← e] at this
  exact clean_abs.1 this

/-- the other start hypothesis, "the first run is a single character", is enough with autowrap
    OFF (the cursor may then stand on a continuation cell); from any reader state in the middle
    of a feed. With autowrap on it is not: `single_first_run_not_enough`. -/
theorem cleanFeed_of_first_single_nowrap {cw : Nat → Nat} (hb : cw 0x20 ≤ 1) (hr : cw 0xFFFD ≤ 1)
    (fuel : Nat) (s : SScr) (r : Rdr) (rest : List Cl) (hs : SScr.inv cw s = true)
    (hF : Feeding cw r rest) (hwrap : s.wrap = false)
    (h1 : (clusters cw (r.readPrintable cw (max (s.w - s.cx) 1)).2.text).length = 1) :
    cleanFeed cw fuel s r = true := by
  cases fuel with
  | zero => rfl
  | succ f =>
    rw [cleanFeed]
    rcases feed_step hF s with ⟨rfl, ht⟩ | ⟨c1, rest', rfl, hne1, hv1, hlim, ht, hw, hemp, _, hF'⟩
    · rw [ht]; rfl
    · rw [ht, clusters_flat (vcl_toks hv1)] at h1
      simp only [ht, hw, hemp, Bool.false_or, Bool.and_eq_true, Bool.or_eq_true, decide_eq_true_eq,
        Bool.not_eq_true', clusters_flat (vcl_toks hv1)]
      obtain ⟨q2, q3⟩ := writeString_feed_clean hb hr hs hv1 hne1 hlim (Or.inl ⟨h1, hwrap⟩) (flat c1).length
      exact ⟨Or.inl h1, cleanFeed_of_clean hb hr f _ _ rest' q2 hF' q3⟩

/-! ## non-vacuity, and what cannot be had -/

section Examples

private abbrev d : Style := Style.default

-- `contAt_put_after` / `contAt_putKeep_after` on the row `字字␣字字` of `Props/C03.lean`: `X` (3 wide)
-- over columns 1-3 ends exactly where the second wide character has its second cell
example : rowWF C03.exRow = true ∧ 1 + 3 ≤ C03.exRow.length ∧ contAt C03.exRow (1 + 3) = true ∧
    contAt (Row.put C03.exRow 1 [0x58] 3 d) (1 + 3) = false := by decide
example : contAt C03.exRow 1 = true ∧
    headOf C03.exRow 1 + widthAt C03.exRow (headOf C03.exRow 1) + 2 = 4 ∧ contAt C03.exRow 4 = true ∧
    contAt (Row.putKeep C03.exRow 1 [0x58] 2 d) 4 = false := by decide

/-- autowrap off, `中` in columns 3-4, the cursor on column 4 (its second cell): `a` is inserted
    after `中` in column 5 and the cursor is pinned there -/
def exPin : SScr := (((SScr.init 6 2).setCursor 3 0).put cwS zhong 2).setCursor 4 0

set_option maxRecDepth 100000 in
example : SScr.inv cwS exPin = true ∧ exPin.wrap = false ∧
    contAt (lineCells cwS (exPin.line exPin.cy)) exPin.cx = true ∧
    (exPin.writeString cwS 2 [0x61] 1).cx = 5 ∧ (exPin.writeString cwS 2 [0x61] 1).wrap = false := by
  decide

-- hypotheses of `cleanFeed_of_clean_start` / `feedText_refines_clean_start` on `exW` (autowrap on,
-- cursor at column 4 of 6) with `ab中c` (`exCs_valid`: the characters are valid), and the conclusions
set_option maxRecDepth 100000 in
example : SScr.inv cwS exW = true ∧ (∀ b ∈ flat exCs, isPrintableByte b = true) ∧
    contAt (lineCells cwS (exW.line exW.cy)) exW.cx = false := by decide
set_option maxRecDepth 100000 in
example : CleanFeed cwS exW (flat exCs) := by unfold CleanFeed; decide +kernel
-- the pinned start: autowrap off, cursor on the last column, on the second cell of `中` in 4-5
set_option maxRecDepth 100000 in
example :
    let s := (((SScr.init 6 2).setCursor 4 0).put cwS zhong 2)
    SScr.inv cwS s = true ∧ contAt (lineCells cwS (s.line s.cy)) s.cx = true ∧
    s.wrap = false ∧ s.cx = s.w - 1 ∧ CleanFeed cwS s (flat exCs) := by
  intro s
  unfold CleanFeed; decide +kernel

/-- autowrap ON, `中` in columns 4-5 of row 0 and in columns 0-1 of row 1 of a 6×2 screen, the
    cursor on column 5 of row 0 (the second cell of the first `中`) -/
def exDirty : SScr :=
  { ((((SScr.init 6 2).setCursor 4 0).put cwS zhong 2).setCursor 0 1).put cwS zhong 2 with
    cx := 5, cy := 0, wrap := true }

/-- `put_keep_clean` needs "not on a continuation cell, or autowrap off": on `exDirty` the
    character `a` is inserted after the kept `中` — beyond the right edge, it is lost — and the
    cursor wraps by the shifted amount to column 1 of row 1: the second cell of the other `中`. -/
theorem put_keep_wrap_dirty :
    (exDirty.abs cwS).inv = true ∧
    ((exDirty.abs cwS).put .keep [0x61] 1).cx = 1 ∧ ((exDirty.abs cwS).put .keep [0x61] 1).cy = 1 ∧
    ((exDirty.abs cwS).put .keep [0x61] 1).wrap = true ∧
    contAt (((exDirty.abs cwS).put .keep [0x61] 1).row 1) 1 = true := by
  set_option maxRecDepth 100000 in decide

/-- **"the first run is a single character" is not enough when autowrap is on.** On `exDirty`
    with the text `abcdef` the reader hands over `a` (limit 1), then `bcdef` (limit 5) — a run of
    five characters starting on the second cell of the `中` of row 1: `CleanFeed` fails, and so does
    the equation of `feedText_refines`: the span is inserted after `中` and cut back (`f` is lost),
    while put one by one `e` fills the last column, the cursor wraps and `f` lands on a fresh row. -/
theorem single_first_run_not_enough :
    let t : List Cl := [([0x61], 1), ([0x62], 1), ([0x63], 1), ([0x64], 1), ([0x65], 1), ([0x66], 1)]
    SScr.inv cwS exDirty = true ∧ exDirty.wrap = true ∧
    contAt (lineCells cwS (exDirty.line exDirty.cy)) exDirty.cx = true ∧
    feedRuns cwS ((flat t).length + 1) exDirty (Rdr.init [(flat t, false)]) =
      [([0x61], 1, 1), ([0x62, 0x63, 0x64, 0x65, 0x66], 5, 5)] ∧
    ¬ CleanFeed cwS exDirty (flat t) ∧
    (exDirty.feedText cwS (flat t)).abs cwS ≠ t.foldl (fun sc c => sc.put .keep c.1 c.2) (exDirty.abs cwS) := by
  intro t
  unfold CleanFeed
  decide +kernel

end Examples

#print axioms TM.C03SpanClean.contAt_put_after
#print axioms TM.C03SpanClean.contAt_putKeep_after
#print axioms TM.C03SpanClean.put_keep_clean
#print axioms TM.C03SpanClean.fold_put_clean
#print axioms TM.C03SpanClean.clean_run
#print axioms TM.C03SpanClean.writeString_feed_clean
#print axioms TM.C03SpanClean.writeString_feed_next
#print axioms TM.C03SpanClean.cleanFeed_of_clean
#print axioms TM.C03SpanClean.cleanFeed_of_clean_start
#print axioms TM.C03SpanClean.feedText_refines_clean_start
#print axioms TM.C03SpanClean.feedText_clean_end
#print axioms TM.C03SpanClean.cleanFeed_of_first_single_nowrap
#print axioms TM.C03SpanClean.put_keep_wrap_dirty
#print axioms TM.C03SpanClean.single_first_run_not_enough

end TM.C03SpanClean
