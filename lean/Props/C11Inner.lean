import Props.C02
import Props.C11
import Props.C11Tok
/-!
# C11 — every row the model terminal reaches is `RowOK`

`C11.RowOK` (well formed, continuation cells in the style of their head, valid styles, one
printable scalar value with its own width per character cell) is what both halves of C11 assume of
a rendered row. Here it is an invariant of the model terminal: `InnerOK'` (C02's invariant of both
buffers with `RowOK` rows and valid current styles, the size within CSI-parameter range) holds of a
fresh terminal (`innerOK_init`) and is kept by every token the tokeniser yields (`innerOK_apply`,
through C02's `good_apply` with `closed_rowOK.rowInv`), hence along every byte stream
(`innerOK'_run`); `innerOK_init` and `innerOK_apply` too speak of `InnerOK'`. `InnerOK` is the
part of it that the mirror (`Props/C11Mirror.lean`) reads off the active screen, with `Scr.inv` of
both buffers (C02), from which what C10 asks for the damage regions follows (`InnerOK.shaped`,
`InnerOK.needWF`; `InnerOK'.toInnerOK`).

Assumed of the width function: `cw 32 ≤ 1` and `cw 0xFFFD ≤ 1` — erasing writes U+0020 and an
invalid byte is stored as U+FFFD, each in ONE cell, and `RowOK.text` asks of a cell its character's
own width.
-/
namespace TM.C11M
open TM TM.C07 TM.C11 TM.C11.Lemmas
open Lemmas

/-- the cell-wise part of `RowOK` -/
def CellOK (cw : Nat → Nat) (c : Cell) : Prop :=
  Style.valid c.sty ∧ ∀ t w, c.g = .ch t w → TxtOK cw t w

namespace Lemmas

theorem txtOK_space {cw : Nat → Nat} (hsp : cw 32 ≤ 1) : TxtOK cw [0x20] 1 :=
  ⟨32, by decide, by decide, by decide, (encodeRune_one 32 (by decide)).symm, by omega⟩

theorem txtOK_replacement {cw : Nat → Nat} (hrep : cw 0xFFFD ≤ 1) : TxtOK cw replacementChar 1 :=
  ⟨0xFFFD, by decide, by decide, by decide, by decide, by omega⟩

theorem mem_fixTail {r : Row} {st : Style} {c : Cell} (h : c ∈ fixTail r st) :
    c ∈ r ∨ c = blank st := TM.mem_fixTail h

theorem cs_fixTail {r : Row} (h : CS r) (st : Style) : CS (fixTail r st) := by
  unfold fixTail
  split
  · split
    · apply cs_append
      · rw [List.dropLast_eq_take]; exact cs_take h _
      · intro i st' hi; simp at hi
      · unfold contAt; simp [blank]
    · exact h
  · exact h

theorem rowInv_rowOK {cw : Nat → Nat} (hsp : cw 32 ≤ 1) (hrep : cw 0xFFFD ≤ 1) (pol : WidePolicy) :
    TM.C02.Lemmas.RowInv pol Style.valid (TxtOK cw) (RowOK cw) :=
  closed_rowOK.rowInv (txtOK_space hsp) (txtOK_replacement hrep) (fun hv qs => applySGR_valid hv qs) pol

end Lemmas

theorem rowOK_blankRow (cw : Nat → Nat) (n : Nat) (st : Style) (hv : Style.valid st) (hsp : cw 32 ≤ 1) :
    RowOK cw (blankRow n st) := closed_rowOK.blanks (txtOK_space hsp) n hv

def CA (cw : Nat → Nat) (s : Scr) : Prop :=
  (∀ r ∈ s.grid, ∀ c ∈ r, CellOK cw c) ∧ Style.valid s.sty

def TA (cw : Nat → Nat) (t : Term) : Prop := CA cw t.main ∧ CA cw t.alt

/-- what the mirror needs of the inner (model) terminal: `Scr.inv` of both buffers (C02), both
    of the same size, the rows of the active screen `RowOK`, the size within CSI-parameter range.
    It is not inductive (it says nothing of the buffer that is not active): every reachable state
    has it through `InnerOK'` (`InnerOK'.toInnerOK`), which is what `innerOK_init` and
    `innerOK_apply` are about. -/
structure InnerOK (cw : Nat → Nat) (t : Term) : Prop where
  minv : t.main.inv = true
  ainv : t.alt.inv = true
  size : t.main.w = t.alt.w ∧ t.main.h = t.alt.h
  rows : ∀ y, y < t.scr.h → RowOK cw (t.scr.row y)
  wmax : t.scr.w ≤ paramMax
  hmax : t.scr.h ≤ paramMax

/-- the invariant of the model terminal that implies `InnerOK` and is preserved by every token:
    the C02 invariant (geometry, well-formed rows) with
    `contSty` on every row of both buffers, the cell-wise invariant `TA` (valid styles — also the
    current ones —, one printable scalar value per character cell), the size within range -/
structure InnerOK' (cw : Nat → Nat) (t : Term) : Prop where
  rows : TM.C02.Lemmas.TOk (fun r => TM.C02.Lemmas.okRow TM.C02.Lemmas.Top r ∧ CS r) t
  cells : TA cw t
  wmax : t.main.w ≤ paramMax
  hmax : t.main.h ≤ paramMax

namespace Lemmas

/-- `InnerOK'` in the terms of the C02 framework: every row of both buffers `RowOK`, valid
    current styles -/
theorem innerOK'_iff {cw : Nat → Nat} {t : Term} : InnerOK' cw t ↔
    (TM.C02.Lemmas.TOk (RowOK cw) t ∧ TM.C02.Lemmas.StOk Style.valid t) ∧
      t.main.w ≤ paramMax ∧ t.main.h ≤ paramMax := by
  -- `RowOK` is `okRow Top ∧ CS` with `CellOK` of every cell (`mk`, `un`); the rest only takes
  -- `TOk`, `TA` apart (geometry `g`, rows `r`, cells `c`, current styles `v` of main 1 and alt 2)
  have mk {r : Row} (a : TM.C02.Lemmas.okRow TM.C02.Lemmas.Top r ∧ CS r) (c : ∀ c ∈ r, CellOK cw c) :
      RowOK cw r := ⟨a.1.1, a.2, fun x hx => (c x hx).1, fun x hx => (c x hx).2⟩
  have un {r : Row} (h : RowOK cw r) : (TM.C02.Lemmas.okRow TM.C02.Lemmas.Top r ∧ CS r) ∧
      ∀ c ∈ r, CellOK cw c := ⟨⟨⟨h.wf, fun _ _ _ _ => trivial⟩, h.contSty⟩, fun c hc => ⟨h.valid c hc, h.text c hc⟩⟩
  exact ⟨fun ⟨⟨⟨g1, r1⟩, ⟨g2, r2⟩, sz⟩, ⟨⟨c1, v1⟩, c2, v2⟩, hW, hH⟩ =>
      ⟨⟨⟨⟨g1, fun r m => mk (r1 r m) (c1 r m)⟩, ⟨g2, fun r m => mk (r2 r m) (c2 r m)⟩, sz⟩, v1, v2⟩, hW, hH⟩,
    fun ⟨⟨⟨⟨g1, r1⟩, ⟨g2, r2⟩, sz⟩, v1, v2⟩, hW, hH⟩ =>
      ⟨⟨⟨g1, fun r m => (un (r1 r m)).1⟩, ⟨g2, fun r m => (un (r2 r m)).1⟩, sz⟩,
        ⟨⟨fun r m => (un (r1 r m)).2, v1⟩, fun r m => (un (r2 r m)).2, v2⟩, hW, hH⟩⟩

/-- also beyond the grid, where `Scr.row` is `[]` -/
theorem rowOK_getD {cw : Nat → Nat} {G : List Row} (h : ∀ r ∈ G, RowOK cw r) (y : Nat) :
    RowOK cw (G.getD y []) := by
  rw [List.getD_eq_getElem?_getD]
  by_cases hy : y < G.length
  · rw [List.getElem?_eq_getElem hy, Option.getD_some]
    exact h _ (List.getElem_mem hy)
  · rw [List.getElem?_eq_none (by omega), Option.getD_none]
    exact rowOK_nil cw

theorem tok_mono {P Q : Row → Prop} {t : Term} (h : TM.C02.Lemmas.TOk P t) (hpq : ∀ r, P r → Q r) :
    TM.C02.Lemmas.TOk Q t :=
  ⟨⟨h.1.1, fun r hr => hpq r (h.1.2 r hr)⟩, ⟨h.2.1.1, fun r hr => hpq r (h.2.1.2 r hr)⟩, h.2.2⟩

end Lemmas

theorem InnerOK'.wf {cw : Nat → Nat} {t : Term} (h : InnerOK' cw t) : t.wf :=
  (TM.C02.Lemmas.wf_iff t).2 (tok_mono h.rows (fun _ hr => hr.1))

theorem InnerOK'.rowOK_main {cw : Nat → Nat} {t : Term} (h : InnerOK' cw t) (y : Nat) :
    RowOK cw (t.main.row y) := rowOK_getD (innerOK'_iff.1 h).1.1.1.2 y

theorem InnerOK'.rowOK_alt {cw : Nat → Nat} {t : Term} (h : InnerOK' cw t) (y : Nat) :
    RowOK cw (t.alt.row y) := rowOK_getD (innerOK'_iff.1 h).1.1.2.1.2 y

theorem InnerOK'.toInnerOK {cw : Nat → Nat} {t : Term} (h : InnerOK' cw t) : InnerOK cw t := by
  obtain ⟨hs, hw, hh⟩ := TM.C02.Lemmas.scr_ok (innerOK'_iff.1 h).1.1
  have hinv := TM.C02.wf_inv h.wf
  exact ⟨hinv.1, hinv.2, h.rows.2.2, fun y hy => hs.2 _ (TM.C02.Lemmas.row_mem hs hy),
    by rw [hw]; exact h.wmax, by rw [hh]; exact h.hmax⟩

theorem InnerOK.shaped {cw : Nat → Nat} {t : Term} (h : InnerOK cw t) : TM.C10.Shaped t.scr :=
  TM.C10.Lemmas.shaped_scr (TM.C10.Lemmas.inv_shaped h.minv) (TM.C10.Lemmas.inv_shaped h.ainv)

theorem InnerOK.rowlen {cw : Nat → Nat} {t : Term} (h : InnerOK cw t) (y : Nat) (hy : y < t.scr.h) :
    (t.scr.row y).length = t.scr.w :=
  h.shaped.2 _ (TM.row_mem t.scr y (by rw [h.shaped.1]; exact hy))

theorem InnerOK.needWF {cw : Nat → Nat} {t : Term} (h : InnerOK cw t) : TM.C10.NeedWF t :=
  TM.C10.Lemmas.needWF_of_inv h.minv h.ainv

/-- `InnerOK'` is kept by every token the tokeniser can produce, for every width function that
    gives the space and U+FFFD at most one cell (characters of 3 or more cells are allowed under
    both policies; `Scr.merge`, the grapheme-mode writer, is not reachable from `Term.apply`). -/
theorem innerOK_apply (cw : Nat → Nat) (t : Term) (tok : Tok) (h : InnerOK' cw t)
    (htok : TokOK tok) (hsp : cw 32 ≤ 1) (hrep : cw 0xFFFD ≤ 1) :
    InnerOK' cw (Term.apply cw t tok).1 ∧ (Term.apply cw t tok).1.pol = t.pol := by
  obtain ⟨⟨hT, hS⟩, hW, hH⟩ := innerOK'_iff.1 h
  -- `good_apply`: the rows `g1`, width `g2`, height `g3`, policy `g4`, current styles `gs`
  obtain ⟨⟨g1, g2, g3, g4, _⟩, gs⟩ := TM.C02.Lemmas.good_apply (rowInv_rowOK hsp hrep t.pol) cw tok
    (fun stored cp e => by
      subst e
      obtain ⟨a1, a2, a3, a4⟩ := htok
      exact ⟨cp, a1, a2, a3, a4, rfl⟩) hT hS
  exact ⟨innerOK'_iff.2 ⟨⟨g1, gs⟩, by rw [g2]; exact hW, by rw [g3]; exact hH⟩, g4⟩

theorem innerOK_init (cw : Nat → Nat) (pol : WidePolicy) (w h : Nat) (hw : 1 ≤ w) (hh : 1 ≤ h)
    (hW : w ≤ paramMax) (hH : h ≤ paramMax) (hsp : cw 32 ≤ 1) : InnerOK' cw (Term.init pol w h) := by
  have hb := TM.C02.Lemmas.sok_init (h := h) (rowOK_blankRow cw w _ valid_default hsp) hw hh
  exact innerOK'_iff.2 ⟨⟨⟨hb, hb, rfl, rfl⟩, valid_default, valid_default⟩, hW, hH⟩

theorem innerOK'_run (cw : Nat → Nat) (hsp : cw 32 ≤ 1) (hrep : cw 0xFFFD ≤ 1) {t : Term}
    (h : InnerOK' cw t) (bs : Bytes) : InnerOK' cw (run cw t bs).1 :=
  run_inv cw next_tokOK (fun t tok h htok => (innerOK_apply cw t tok h htok hsp hrep).1) h bs

end TM.C11M

#print axioms TM.C11M.rowOK_blankRow
#print axioms TM.C11M.innerOK_apply
#print axioms TM.C11M.innerOK_init
