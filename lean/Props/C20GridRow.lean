import TM.GridScreen
import Proofs.Row
import Proofs.RowClosed
import Proofs.Utf8
import Proofs.Ite
/-!
# C20GridRow — the rows of the cell-grid buffer as the code stores them

`TM/GridScreen.lean` stores a row the way `screen_grid.go` does: per cell one record of the five
parallel arrays (`chars`, `cellText`, `cellWidth`, `cellCont`, `cellStyles`), with the loops of
`clearWideAt`, `rawWriteRunes` (blanks), `rawWriteRune`, `deleteChars` and the row part of `setSize`
transcribed. `GCell.abs` reads a stored cell as a cell of the model, and `r.map GCell.abs` is the
row shown.

The loops are put in closed form (`blankLoop_simple`, `writeBlanks_eq`, `writeRune_eq`,
`deleteChars_eq`, `cutLoop_eq`, `resize_eq`); through `abs` they are the row editors of the model
(`clearWideAt_abs` = `blankCharAt`, `writeBlanks_abs` = `Row.erase`, `writeRune_abs` = `Row.put`
of the encoded rune, `deleteChars_abs` = `Row.dch`, `resize_abs` = `fitRow`). The bounds these
need (`x + n ≤ r.length`) are the guards of the Go callers, which `GScr.dch`, `GScr.put` and
`GScr.eraseRegion` supply (`Props/C20GridScreen.lean`, through `RowInv` and `eraseRow_abs`).
Every cell they leave is an old cell, the canonical blank, or the head / continuation cell just
written (`_cells`; `writeBlanks` and `writeRune` under the bounds). Without any bound, a predicate
on cells that ignores the style and holds of the blank and of the continuation cell is kept by
every operation on any row (`CellClosed`: from `_cells`, for `writeBlanks` and `writeRune` read off
the loops); `GCell.ok` is one (`closed_ok`). A row of consistent cells that shows a well-formed
row (`RowOK`) stays one (`_rowOK`), of the same length (`_length`). `gFix` is the guarded
`clearWideAt` every caller writes.
-/
namespace TM.C20Grid
open TM

/-! ## cells and the row shown -/

theorem abs_gBlank (st : Style) : (gBlank st).abs = blank st := rfl
theorem ok_gBlank (st : Style) : (gBlank st).ok = true := rfl
theorem ok_gCont (st : Style) : (gCont st).ok = true := rfl
theorem abs_gCont (st : Style) : (gCont st).abs = ⟨.cont, st⟩ := rfl

theorem abs_of_not_cont {c : GCell} (h : c.cont = false) : c.abs = ⟨.ch c.text c.width, c.sty⟩ := by
  simp [GCell.abs, h]

theorem abs_of_cont {c : GCell} (h : c.cont = true) : c.abs = ⟨.cont, c.sty⟩ := by
  simp [GCell.abs, h]

theorem cell_abs_sty (c : GCell) : c.abs.sty = c.sty := by
  unfold GCell.abs; split <;> rfl

theorem abs_ch_inv {c : GCell} {t : Bytes} {w : Nat} {s : Style} (h : c.abs = ⟨.ch t w, s⟩) :
    c.cont = false ∧ c.text = t ∧ c.width = w ∧ c.sty = s := by
  cases hc : c.cont with
  | true => rw [abs_of_cont hc] at h; cases h
  | false =>
    rw [abs_of_not_cont hc] at h
    simp only [Cell.mk.injEq, Glyph.ch.injEq] at h
    exact ⟨rfl, h.1.1, h.1.2, h.2⟩

theorem contAt_abs (r : GRow) (x : Nat) : contAt (r.map GCell.abs) x = r.contAt x := by
  unfold contAt GRow.contAt
  rw [List.getElem?_map]
  cases r[x]? with
  | none => rfl
  | some c =>
    cases hc : c.cont with
    | true => simp [abs_of_cont hc, hc]
    | false => simp [abs_of_not_cont hc, hc]

theorem gBase_headOf (r : GRow) (x : Nat) : gBase r x = headOf (r.map GCell.abs) x := by
  induction x with
  | zero => rfl
  | succ x ih => simp only [gBase, headOf, contAt_abs, ih]

theorem gcontAt_some {r : GRow} {x : Nat} {c : GCell} (h : r[x]? = some c) : r.contAt x = c.cont := by
  unfold GRow.contAt; rw [h]

theorem gcontAt_get {r : GRow} {j : Nat} (h : j < r.length) : r.contAt j = (r[j]).cont :=
  gcontAt_some (List.getElem?_eq_getElem h)

theorem gcontAt_lt {r : GRow} {x : Nat} (h : r.contAt x = true) : x < r.length := by
  unfold GRow.contAt at h
  cases hx : r[x]? with
  | none => rw [hx] at h; cases h
  | some c => exact (List.getElem?_eq_some_iff.1 hx).1

theorem gcontAt_congr {r r' : GRow} {x : Nat} (h : r'[x]? = r[x]?) : r'.contAt x = r.contAt x := by
  unfold GRow.contAt; rw [h]

theorem gBase_congr {r r' : GRow} (x : Nat) (h : ∀ j, j ≤ x → r'.contAt j = r.contAt j) :
    gBase r' x = gBase r x := by
  rw [gBase_headOf, gBase_headOf]
  exact headOf_congr fun j _ hj => by rw [contAt_abs, contAt_abs]; exact h j hj

def RowOK (r : GRow) : Prop := r.all GCell.ok = true ∧ rowWF (r.map GCell.abs) = true

theorem RowOK.cells {r : GRow} (h : RowOK r) : ∀ c ∈ r, c.ok = true := List.all_eq_true.1 h.1

theorem RowOK.of_abs {r : GRow} {R : Row} (hc : ∀ c ∈ r, c.ok = true) (e : r.map GCell.abs = R)
    (hwf : rowWF R = true) : RowOK r := ⟨List.all_eq_true.2 hc, e ▸ hwf⟩

/-! ## `clearWideAt` -/

def gWidthAt (r : GRow) (b : Nat) : Nat := match r[b]? with | some c => c.width | none => 0

theorem clearWideAt_eq (r : GRow) (x : Nat) (st : Style) :
    r.clearWideAt x st =
      if gWidthAt r (gBase r x) ≤ 1 then r else
        r.mapIdx fun i c =>
          if gBase r x ≤ i ∧ i < min (gBase r x + gWidthAt r (gBase r x)) r.length then gBlank st else c := rfl

theorem clearWideAt_length (r : GRow) (x : Nat) (st : Style) : (r.clearWideAt x st).length = r.length := by
  rw [clearWideAt_eq]
  split <;> simp

theorem clearWideAt_cells (r : GRow) (x : Nat) (st : Style) :
    ∀ c ∈ r.clearWideAt x st, c ∈ r ∨ c = gBlank st := by
  rw [clearWideAt_eq]
  split
  · exact fun c hc => Or.inl hc
  · apply mem_mapIdx_cases
    intro i c hc
    split
    · exact Or.inr rfl
    · exact Or.inl hc

theorem map_abs_blankIdx (r : GRow) (a n : Nat) (st : Style) :
    (r.mapIdx fun i c => if a ≤ i ∧ i < a + n then gBlank st else c).map GCell.abs =
      blankRange (r.map GCell.abs) a n st :=
  map_mapIdx_comm fun i _ => by split <;> rfl

theorem clearWideAt_abs {r : GRow} (hwf : rowWF (r.map GCell.abs) = true) (x : Nat) (st : Style) :
    (r.clearWideAt x st).map GCell.abs = blankCharAt (r.map GCell.abs) x st := by
  rw [clearWideAt_eq, gBase_headOf]
  unfold blankCharAt
  simp only []
  by_cases hx : x < r.length
  · -- the cell at the base is a head, and it stores the width the model reads
    obtain ⟨t, w, s, hch, _, hxw, hlen, _⟩ := wf_head hwf (x := x) (by simpa using hx)
    have hg : gWidthAt r (headOf (r.map GCell.abs) x) = w := by
      unfold gWidthAt
      rw [List.getElem?_map] at hch
      cases hc : r[headOf (r.map GCell.abs) x]? with
      | none => rw [hc] at hch; cases hch
      | some c => rw [hc] at hch; exact (abs_ch_inv (Option.some.inj hch)).2.2.1
    rw [hg, wf_widthAt hwf hch]
    by_cases hw : w ≤ 1
    · have hxh : headOf (r.map GCell.abs) x = x := by have := headOf_le (r.map GCell.abs) x; omega
      have hc : contAt (r.map GCell.abs) x = false := by rw [← hxh]; exact contAt_ch hch
      simp [hw, hc]
    · rw [if_neg hw, if_neg (fun h => hw h.1), Nat.min_eq_left (by simpa using hlen), map_abs_blankIdx]
  · have hc : contAt (r.map GCell.abs) x = false := contAt_ge (by simpa using Nat.le_of_not_lt hx)
    rw [headOf_of_not_cont hc]
    have : r[x]? = none := List.getElem?_eq_none (by omega)
    have hw : widthAt (r.map GCell.abs) x = 1 := by
      unfold widthAt; rw [List.getElem?_map, this]; rfl
    simp [gWidthAt, this, hw, hc]

/-! ## `CellClosed`: what every operation keeps of the cells -/

/-- A predicate on cells that every row operation keeps, whatever the row, the columns and the
    counts (`CellClosed.writeBlanks` … `CellClosed.resize`): it does not look at the style and holds
    of a blank and of a continuation cell, which with the head cell of `writeRune` are all the
    buffer ever stores. `GCell.ok` is one, `GCell.okCh` (`C20GridAnsi.closed_okCh`) another. -/
structure CellClosed (P : GCell → Prop) : Prop where
  sty : ∀ {c : GCell} (st : Style), P c → P { c with sty := st }
  blank : ∀ st, P (gBlank st)
  cont : ∀ st, P (gCont st)

theorem closed_ok : CellClosed (fun c => c.ok = true) := ⟨fun _ h => h, ok_gBlank, ok_gCont⟩

theorem CellClosed.of_cells {P : GCell → Prop} (hP : CellClosed P) {r r' : GRow} {st : Style} (h : ∀ c ∈ r, P c)
    (hc : ∀ c ∈ r', c ∈ r ∨ c = gBlank st) : ∀ c ∈ r', P c := by
  intro c hc'
  rcases hc c hc' with h1 | rfl
  · exact h c h1
  · exact hP.blank st

theorem CellClosed.clearWideAt {P : GCell → Prop} (hP : CellClosed P) {r : GRow} (h : ∀ c ∈ r, P c)
    (x : Nat) (st : Style) : ∀ c ∈ r.clearWideAt x st, P c :=
  hP.of_cells h (clearWideAt_cells r x st)

theorem CellClosed.blankRow {P : GCell → Prop} (hP : CellClosed P) (w : Nat) (st : Style) :
    ∀ c ∈ gBlankRow w st, P c :=
  fun _ hc => (List.mem_replicate.1 hc).2 ▸ hP.blank st

theorem clearWideAt_rowOK {r : GRow} (h : RowOK r) (x : Nat) (st : Style) : RowOK (r.clearWideAt x st) := by
  refine ⟨List.all_eq_true.2 (closed_ok.clearWideAt (List.all_eq_true.1 h.1) x st), ?_⟩
  rw [clearWideAt_abs h.2]
  exact TM.closed_wf.blankCharAt trivial h.2 x trivial

/-! ## `gFix`: the guarded repair -/

/-- the Go idiom `if cellCont[y][c] { clearWideAt(y, c) }` -/
def gFix (r : GRow) (c : Nat) (st : Style) : GRow := if r.contAt c then r.clearWideAt c st else r

theorem gFix_def (r : GRow) (c : Nat) (st : Style) :
    (if r.contAt c = true then r.clearWideAt c st else r) = gFix r c st := rfl

theorem gFix_guard {r1 : GRow} {W : Nat} (hl : r1.length ≤ W) (e : Nat) (st : Style) :
    (if e < W ∧ r1.contAt e = true then r1.clearWideAt e st else r1) = gFix r1 e st := by
  unfold gFix
  by_cases hc : r1.contAt e = true
  · rw [if_pos ⟨by have := gcontAt_lt hc; omega, hc⟩, if_pos hc]
  · rw [if_neg (fun h => hc h.2), if_neg hc]

theorem gFix_length (r : GRow) (c : Nat) (st : Style) : (gFix r c st).length = r.length := by
  unfold gFix; split
  · exact clearWideAt_length ..
  · rfl

theorem gFix_cells (r : GRow) (x : Nat) (st : Style) : ∀ c ∈ gFix r x st, c ∈ r ∨ c = gBlank st := by
  unfold gFix
  split
  · exact clearWideAt_cells r x st
  · exact fun c hc => Or.inl hc

theorem gFix_gFix_cells (r : GRow) (x y : Nat) (st : Style) :
    ∀ c ∈ gFix (gFix r x st) y st, c ∈ r ∨ c = gBlank st := by
  intro c hc
  rcases gFix_cells _ _ _ c hc with h | h
  · exact gFix_cells _ _ _ c h
  · exact Or.inr h

theorem gFix_abs {r : GRow} (hwf : rowWF (r.map GCell.abs) = true) (c : Nat) (st : Style) :
    (gFix r c st).map GCell.abs = Row.fixAt (r.map GCell.abs) c st := by
  unfold gFix Row.fixAt
  rw [contAt_abs]
  split
  · exact clearWideAt_abs hwf c st
  · rfl

theorem gFix_rowOK {r : GRow} (h : RowOK r) (c : Nat) (st : Style) : RowOK (gFix r c st) := by
  unfold gFix
  split
  · exact clearWideAt_rowOK h c st
  · exact h

theorem gFix_gFix_abs {r : GRow} (h : RowOK r) (a b : Nat) (st : Style) :
    (gFix (gFix r a st) b st).map GCell.abs = blankStraddlers (r.map GCell.abs) a b st := by
  rw [gFix_abs (gFix_rowOK h _ _).2, gFix_abs h.2, blankStraddlers_eq_fixAt]

/-! ## `writeBlanks` (`eraseRegion`) -/

/-- what the loop of `rawWriteRunes` stores in a cell before the styles are written -/
def blankCell (c : GCell) : GCell := { c with ch := 0x20, text := [0x20], width := 1, cont := false }

/-- right of a narrow cell that is not a continuation the loop only stores blanks -/
theorem blankLoop_simple (st : Style) : ∀ (n idx : Nat) (r : GRow), 0 < idx → idx + n ≤ r.length →
    (∃ c, r[idx - 1]? = some c ∧ c.cont = false ∧ c.width ≤ 1) →
    GRow.blankLoop st n idx r = r.mapIdx fun i c => if idx ≤ i ∧ i < idx + n then blankCell c else c := by
  intro n
  induction n with
  | zero =>
    intro idx r _ _ _
    rw [mapIdx_eq_self]
    · rfl
    · intro i a _; rw [if_neg (by omega)]
  | succ n ih =>
    intro idx r h0 hlen ⟨c, hc, hc1, hc2⟩
    obtain ⟨k, rfl⟩ : ∃ k, idx = k + 1 := ⟨idx - 1, by omega⟩
    simp only [Nat.add_sub_cancel] at hc
    have hstep : (if r.contAt (k + 1) then r.clearWideAt (k + 1) st else r) = r := by
      by_cases hca : r.contAt (k + 1) = true
      · rw [if_pos hca, clearWideAt_eq]
        have hb : gBase r (k + 1) = k := by
          simp only [gBase, hca, if_true]
          cases k with
          | zero => rfl
          | succ j => simp only [gBase, gcontAt_some hc, hc1]; simp
        rw [hb]
        have : gWidthAt r k = c.width := by unfold gWidthAt; rw [hc]
        rw [this, if_pos hc2]
      · rw [if_neg hca]
    unfold GRow.blankLoop
    simp only [hstep]
    have hk : k + 1 < r.length := by omega
    -- the cell just stored at `k + 1` is a narrow head, so the next guard is idle again
    rw [ih (k + 1 + 1) _ (by omega) (by rw [List.length_set]; omega)
      ⟨_, by simp only [Nat.add_sub_cancel]; rw [List.getElem?_set_self hk], rfl, Nat.le_refl _⟩]
    apply mapIdx_set_eq_mapIdx
    · intro c hc
      rw [if_neg (by omega), if_pos (by omega), List.getD_eq_getElem?_getD, hc]; rfl
    · intro i c hi _
      by_cases h1 : k + 1 + 1 ≤ i ∧ i < k + 1 + 1 + n
      · rw [if_pos h1, if_pos (by omega)]
      · rw [if_neg h1, if_neg (by omega)]

theorem writeBlanks_eq {r : GRow} (x n : Nat) (st : Style) (hn : 0 < n) (hx : x + n ≤ r.length) :
    r.writeBlanks x n st =
      (gFix (gFix r (x + n) st) x st).mapIdx fun i c => if x ≤ i ∧ i < x + n then gBlank st else c := by
  obtain ⟨m, rfl⟩ : ∃ m, n = m + 1 := ⟨n - 1, by omega⟩
  have h0 : (if m + 1 > 0 ∧ x + (m + 1) < r.length ∧ r.contAt (x + (m + 1)) = true
      then r.clearWideAt (x + (m + 1)) st else r) = gFix r (x + (m + 1)) st := by
    simp only [gt_iff_lt, Nat.zero_lt_succ, true_and]
    exact gFix_guard (Nat.le_refl _) _ _
  unfold GRow.writeBlanks
  simp only [h0]
  generalize hr0 : gFix r (x + (m + 1)) st = r0
  have hl0 : r0.length = r.length := by rw [← hr0, gFix_length]
  -- the first iteration by hand: its guard is the repair at `x`; the cell it stores is a narrow
  -- head, so `blankLoop_simple` takes the other `m`
  unfold GRow.blankLoop
  simp only []
  rw [gFix_def]
  generalize hr1 : gFix r0 x st = r1
  have hl1 : r1.length = r.length := by rw [← hr1, gFix_length, hl0]
  have hxl : x < r1.length := by omega
  rw [blankLoop_simple st m (x + 1) _ (by omega) (by rw [List.length_set]; omega)
    ⟨_, by simp only [Nat.add_sub_cancel]; rw [List.getElem?_set_self hxl], rfl, Nat.le_refl _⟩]
  rw [List.mapIdx_mapIdx]
  apply mapIdx_set_eq_mapIdx
  · intro c _
    have e1 : ¬ (x + 1 ≤ x ∧ x < x + 1 + m) := by omega
    have e2 : x ≤ x ∧ x < x + (m + 1) := by omega
    simp only [Function.comp, e1, e2, and_self, if_true, if_false]; rfl
  · intro i c hi _
    by_cases h2 : x + 1 ≤ i ∧ i < x + 1 + m
    · have e2 : x ≤ i ∧ i < x + (m + 1) := by omega
      simp only [Function.comp, h2, e2, and_self, if_true]; rfl
    · have e2 : ¬ (x ≤ i ∧ i < x + (m + 1)) := by omega
      simp only [Function.comp, h2, e2, if_false]

theorem blankStraddlers_comm {R : Row} (hwf : rowWF R = true) (a b : Nat) (st : Style) :
    blankStraddlers R a b st = blankStraddlers R b a st := by
  apply List.ext_getElem?
  intro i
  rw [getElem?_blankStraddlers hwf, getElem?_blankStraddlers hwf]
  by_cases h : Row.inCut R a i ∨ Row.inCut R b i
  · rw [if_pos h, if_pos (Or.symm h)]
  · rw [if_neg h, if_neg (fun h' => h (Or.symm h'))]

theorem writeBlanks_zero (r : GRow) (x : Nat) (st : Style) : r.writeBlanks x 0 st = r := by
  unfold GRow.writeBlanks GRow.blankLoop
  simp only [Nat.lt_irrefl, false_and, if_false, Nat.add_zero]
  apply mapIdx_eq_self
  intro i a _; rw [if_neg (by omega)]

theorem writeBlanks_abs {r : GRow} (h : RowOK r) (x n : Nat) (st : Style) (hx : x + n ≤ r.length) :
    (r.writeBlanks x n st).map GCell.abs = Row.erase (r.map GCell.abs) x (x + n) st := by
  by_cases hn : 0 < n
  · rw [writeBlanks_eq x n st hn hx, map_abs_blankIdx, gFix_gFix_abs h, blankStraddlers_comm h.2]
    unfold Row.erase
    simp only [List.length_map]
    rw [Nat.min_eq_left hx, if_neg (by omega), Nat.add_sub_cancel_left]
  · have hn0 : n = 0 := by omega
    subst hn0
    rw [writeBlanks_zero]
    unfold Row.erase
    simp only [List.length_map, Nat.add_zero]
    rw [if_pos (Nat.min_le_left _ _)]

theorem writeBlanks_length (r : GRow) (x n : Nat) (st : Style) (hx : x + n ≤ r.length) :
    (r.writeBlanks x n st).length = r.length := by
  by_cases hn : 0 < n
  · rw [writeBlanks_eq x n st hn hx, List.length_mapIdx, gFix_length, gFix_length]
  · rw [show n = 0 by omega, writeBlanks_zero]

theorem writeBlanks_cells (r : GRow) (x n : Nat) (st : Style) (hx : x + n ≤ r.length) :
    ∀ c ∈ r.writeBlanks x n st, c ∈ r ∨ c = gBlank st := by
  by_cases hn : 0 < n
  · rw [writeBlanks_eq x n st hn hx]
    apply mem_mapIdx_cases
    intro i c hc
    split
    · exact Or.inr rfl
    · exact gFix_gFix_cells _ _ _ _ c hc
  · rw [show n = 0 by omega, writeBlanks_zero]
    exact fun c hc => Or.inl hc

theorem CellClosed.blankLoop {P : GCell → Prop} (hP : CellClosed P) (st : Style) :
    ∀ (n idx : Nat) {r : GRow}, (∀ c ∈ r, P c) → ∀ c ∈ GRow.blankLoop st n idx r, P c
  | 0, _, _, h => h
  | n + 1, idx, r, h => by
    unfold GRow.blankLoop
    refine hP.blankLoop st n _ fun c hc => ?_
    rcases List.mem_or_eq_of_mem_set hc with hc | rfl
    · exact hP.of_cells h (gFix_cells r idx st) c hc
    · exact hP.blank _

/-- read off the loops themselves, not off `writeBlanks_eq`: no bound on `x + n` -/
theorem CellClosed.writeBlanks {P : GCell → Prop} (hP : CellClosed P) {r : GRow} (h : ∀ c ∈ r, P c)
    (x n : Nat) (st : Style) : ∀ c ∈ r.writeBlanks x n st, P c := by
  unfold GRow.writeBlanks
  refine forall_mapIdx (hP.blankLoop st n x ?_) fun i c hc => ?_
  · split
    · exact hP.clearWideAt h _ st
    · exact h
  · split
    · exact hP.sty st hc
    · exact hc

theorem writeBlanks_rowOK {r : GRow} (h : RowOK r) (x n : Nat) (st : Style) (hx : x + n ≤ r.length) :
    RowOK (r.writeBlanks x n st) :=
  .of_abs (closed_ok.writeBlanks h.cells x n st) (writeBlanks_abs h x n st hx) (closed_wf.erase trivial h.2 _ _ trivial)

/-! ## `writeRune` (`rawWriteRune`) -/

/-- the head cell `rawWriteRune` stores -/
def gHead (rune w : Nat) (st : Style) : GCell := ⟨rune, encodeRune rune, w, false, st⟩

theorem ok_gHead (rune : Nat) {w : Nat} (hw : 1 ≤ w) (st : Style) : (gHead rune w st).ok = true := by
  have := encodeRune_length_pos rune
  cases h : encodeRune rune with
  | nil => rw [h] at this; cases this
  | cons a b => simp [GCell.ok, gHead, h]; omega

theorem ok_gHead_max (rune : Nat) (w : Nat) (st : Style) : (gHead rune (max w 1) st).ok = true :=
  ok_gHead rune (Nat.le_max_right _ _) st

/-- the row after both repairs of `rawWriteRune`: column `x` and column `x + w` are character
    boundaries, so the cell at `x` is a head no wider than `w` -/
theorem fixed_head_width {r2 : GRow} (hwf : rowWF (r2.map GCell.abs) = true) {x w : Nat} (hw : 1 ≤ w)
    (hx : x < r2.length) (h1 : contAt (r2.map GCell.abs) x = false)
    (h2 : contAt (r2.map GCell.abs) (x + w) = false) :
    max (match r2[x]? with | some c => c.width | none => 1) 1 ≤ w := by
  rw [List.getElem?_eq_getElem hx]
  simp only []
  have hc : r2[x].cont = false := by
    rw [contAt_abs, gcontAt_some (List.getElem?_eq_getElem hx)] at h1; exact h1
  have hch : (r2.map GCell.abs)[x]? = some ⟨.ch r2[x].text r2[x].width, r2[x].sty⟩ := by
    rw [List.getElem?_map, List.getElem?_eq_getElem hx, Option.map_some, abs_of_not_cont hc]
  obtain ⟨_, _, cs, _⟩ := wf_ch hwf hch
  by_cases hgt : w < r2[x].width
  · have := cs (x + w) (by omega) (by omega)
    rw [h2] at this; cases this
  · omega

theorem writeRune_eq {r : GRow} (h : RowOK r) (x rune w : Nat) (st : Style) (hx : x + max w 1 ≤ r.length) :
    r.writeRune x rune w st =
      (gFix (gFix r x st) (x + max w 1) st).mapIdx fun i c =>
        if i = x then gHead rune (max w 1) st
        else if x < i ∧ i < x + max w 1 then gCont st else c := by
  have hw1 : 1 ≤ max w 1 := Nat.le_max_right _ _
  generalize hw' : max w 1 = w' at hx hw1
  unfold GRow.writeRune
  simp only [hw']
  rw [gFix_def]
  have hok1 := gFix_rowOK h x st
  generalize hr1 : gFix r x st = r1 at hok1
  have hl1 : r1.length = r.length := by rw [← hr1, gFix_length]
  rw [gFix_guard (Nat.le_of_eq hl1)]
  have hok2 := gFix_rowOK hok1 (x + w') st
  have hA : (gFix r1 (x + w') st).map GCell.abs = blankStraddlers (r.map GCell.abs) x (x + w') st := by
    rw [← hr1, gFix_gFix_abs h]
  have hc1 : contAt ((gFix r1 (x + w') st).map GCell.abs) x = false := by
    rw [hA]; exact contAt_blankStraddlers_at h.2 _ _ st (.inl rfl)
  have hc2 : contAt ((gFix r1 (x + w') st).map GCell.abs) (x + w') = false := by
    rw [hA]; exact contAt_blankStraddlers_at h.2 _ _ st (.inr rfl)
  generalize hr2 : gFix r1 (x + w') st = r2 at hok2 hc1 hc2
  have hl2 : r2.length = r.length := by rw [← hr2, gFix_length, hl1]
  -- after both repairs the cell at `x` is a head no wider than `w'`: the third branch of
  -- `rawWriteRune` (blanking what a narrower character frees) is empty, and `max w' pw = w'`
  have hpw := fixed_head_width hok2.2 hw1 (by omega) hc1 hc2
  generalize (max (match r2[x]? with | some c => c.width | none => 1) 1) = pw at hpw
  apply List.ext_getElem?
  intro i
  simp only [List.getElem?_mapIdx]
  cases r2[i]? with
  | none => rfl
  | some d =>
    simp only [Option.map_some, Option.some.injEq]
    have e0 : max w' pw = w' := Nat.max_eq_left hpw
    have e1 : min (x + w') r.length = x + w' := Nat.min_eq_left hx
    simp only [e0, e1]
    by_cases c1 : i = x
    · subst c1
      have e2 : i ≤ i ∧ i < i + w' := by omega
      simp only [if_true, e2, and_self]; rfl
    · by_cases c2 : x < i ∧ i < x + w'
      · have e2 : x ≤ i ∧ i < x + w' := by omega
        simp only [c1, c2, e2, and_self, if_true, if_false]; rfl
      · have e2 : ¬ (x ≤ i ∧ i < x + w') := by omega
        have e3 : ¬ (x + w' ≤ i ∧ i < x + pw) := by omega
        simp only [c1, c2, e2, e3, if_false]

theorem writeRune_abs {r : GRow} (h : RowOK r) (x rune w : Nat) (st : Style) (hx : x + max w 1 ≤ r.length) :
    (r.writeRune x rune w st).map GCell.abs =
      Row.put (r.map GCell.abs) x (encodeRune rune) (max w 1) st := by
  rw [writeRune_eq h x rune w st hx]
  have hw1 : 1 ≤ max w 1 := Nat.le_max_right _ _
  generalize max w 1 = w' at hx hw1
  unfold Row.put
  rw [← gFix_gFix_abs h]
  have hl : (gFix (gFix r x st) (x + w') st).length = r.length := by rw [gFix_length, gFix_length]
  generalize gFix (gFix r x st) (x + w') st = r2 at hl
  apply List.ext_getElem?
  intro i
  by_cases hi : i < r2.length
  · have hl' := charCells_length_pos (encodeRune rune) hw1 st
    rw [getElem?_setRange, hl', getElem?_charCells]
    simp only [List.getElem?_map, List.getElem?_mapIdx, List.getElem?_eq_getElem hi, Option.map_some,
      List.length_map]
    by_cases c1 : i = x
    · subst c1
      rw [if_pos rfl, if_pos ⟨Nat.le_refl _, by omega, hi⟩, if_pos (Nat.sub_self _)]; rfl
    · rw [if_neg c1]
      by_cases c2 : x < i ∧ i < x + w'
      · rw [if_pos c2, if_pos ⟨by omega, c2.2, hi⟩, if_neg (by omega), if_pos (by omega)]; rfl
      · rw [if_neg c2, if_neg (by omega)]
  · rw [List.getElem?_eq_none (by simp; omega), List.getElem?_eq_none (by rw [setRange_length]; simp; omega)]

theorem writeRune_length {r : GRow} (h : RowOK r) (x rune w : Nat) (st : Style) (hx : x + max w 1 ≤ r.length) :
    (r.writeRune x rune w st).length = r.length := by
  rw [writeRune_eq h x rune w st hx, List.length_mapIdx, gFix_length, gFix_length]

theorem writeRune_cells {r : GRow} (h : RowOK r) (x rune w : Nat) (st : Style) (hx : x + max w 1 ≤ r.length) :
    ∀ c ∈ r.writeRune x rune w st,
      c ∈ r ∨ c = gBlank st ∨ c = gHead rune (max w 1) st ∨ c = gCont st := by
  rw [writeRune_eq h x rune w st hx]
  apply mem_mapIdx_cases
  intro i c hc
  split
  · exact Or.inr (Or.inr (Or.inl rfl))
  · split
    · exact Or.inr (Or.inr (Or.inr rfl))
    · rcases gFix_gFix_cells _ _ _ _ c hc with h | h
      · exact Or.inl h
      · exact Or.inr (Or.inl h)

/-- `hh`: the head cell written satisfies `P` -/
theorem CellClosed.writeRune {P : GCell → Prop} (hP : CellClosed P) {r : GRow} (h : ∀ c ∈ r, P c)
    (x : Nat) {rune w : Nat} (st : Style) (hh : P (gHead rune (max w 1) st)) :
    ∀ c ∈ r.writeRune x rune w st, P c := by
  have h1 : ∀ c ∈ gFix r x st, P c := hP.of_cells h (gFix_cells r x st)
  have h2 : ∀ c ∈ (if x + max w 1 < r.length ∧ (gFix r x st).contAt (x + max w 1) = true
      then (gFix r x st).clearWideAt (x + max w 1) st else gFix r x st), P c := by
    split
    · exact hP.clearWideAt h1 _ st
    · exact h1
  unfold GRow.writeRune
  refine forall_mapIdx (forall_mapIdx h2 fun i c hc => ?_) fun i c hc => ?_
  · -- the third branch blanks what a narrower character frees
    refine ite_of (hP.sty c.sty hh) (ite_of (hP.cont c.sty) (ite_of (hP.blank c.sty) hc))
  · exact ite_of (hP.sty st hc) hc

theorem writeRune_rowOK {r : GRow} (h : RowOK r) (x rune w : Nat) (st : Style) (hx : x + max w 1 ≤ r.length) :
    RowOK (r.writeRune x rune w st) :=
  .of_abs (closed_ok.writeRune h.cells x st (ok_gHead_max rune w st)) (writeRune_abs h x rune w st hx)
    (closed_wf.put trivial h.2 (Nat.le_max_right _ _) (by simpa using hx) trivial trivial)

/-! ## `deleteChars` -/

theorem deleteChars_eq (r : GRow) (x n : Nat) (st : Style) :
    r.deleteChars x n st =
      (gFix (gFix r x st) (x + n) st).take x ++ (gFix (gFix r x st) (x + n) st).drop (x + n) ++
        List.replicate n (gBlank st) := by
  unfold GRow.deleteChars
  simp only []
  rw [gFix_def, gFix_guard (by rw [gFix_length]; exact Nat.le_refl _)]

theorem deleteChars_abs {r : GRow} (h : RowOK r) (x n : Nat) (st : Style)
    (hx : x < r.length) (hn : 0 < n) (hxn : x + n ≤ r.length) :
    (r.deleteChars x n st).map GCell.abs = Row.dch (r.map GCell.abs) x n st := by
  rw [deleteChars_eq]
  unfold Row.dch
  simp only [List.length_map]
  rw [if_neg (by omega), Nat.min_eq_left (by omega)]
  simp only [List.map_append, List.map_take, List.map_drop, List.map_replicate, abs_gBlank]
  rw [gFix_gFix_abs h]

theorem deleteChars_length (r : GRow) (x n : Nat) (st : Style) (hxn : x + n ≤ r.length) :
    (r.deleteChars x n st).length = r.length := by
  rw [deleteChars_eq]
  simp only [List.length_append, List.length_take, List.length_drop, List.length_replicate, gFix_length]
  omega

theorem deleteChars_cells (r : GRow) (x n : Nat) (st : Style) :
    ∀ c ∈ r.deleteChars x n st, c ∈ r ∨ c = gBlank st := by
  rw [deleteChars_eq]
  intro c hc
  rcases List.mem_append.1 hc with hc | hc
  · rcases List.mem_append.1 hc with hc | hc
    · exact gFix_gFix_cells _ _ _ _ c (List.mem_of_mem_take hc)
    · exact gFix_gFix_cells _ _ _ _ c (List.mem_of_mem_drop hc)
  · exact Or.inr (List.mem_replicate.1 hc).2

theorem CellClosed.deleteChars {P : GCell → Prop} (hP : CellClosed P) {r : GRow} (h : ∀ c ∈ r, P c)
    (x n : Nat) (st : Style) : ∀ c ∈ r.deleteChars x n st, P c :=
  hP.of_cells h (deleteChars_cells r x n st)

theorem deleteChars_rowOK {r : GRow} (h : RowOK r) (x n : Nat) (st : Style)
    (hx : x < r.length) (hn : 0 < n) (hxn : x + n ≤ r.length) : RowOK (r.deleteChars x n st) :=
  .of_abs (closed_ok.deleteChars h.cells x n st) (deleteChars_abs h x n st hx hn hxn) (closed_wf.dch trivial h.2 _ _ trivial)

/-! ## `resize` (a kept row of `setSize`) -/

/-- the loop of `setSize` blanks the columns from the base of the cut character to the new edge -/
theorem cutLoop_eq (st : Style) : ∀ (k : Nat) (r : GRow), k < r.length →
    GRow.cutLoop st (k + 1) r = r.mapIdx fun i c => if gBase r k ≤ i ∧ i ≤ k then gBlank st else c := by
  intro k
  induction k with
  | zero =>
    intro r hk
    have : GRow.cutLoop st 1 r = r.set 0 (gBlank st) := by
      unfold GRow.cutLoop
      simp only []
      split
      · rfl
      · rfl
    rw [this, show gBase r 0 = 0 from rfl]
    apply set_eq_mapIdx
    · intro c _; rw [if_pos (by omega)]
    · intro i c hi _; rw [if_neg (by omega)]
  | succ k ih =>
    intro r hk
    unfold GRow.cutLoop
    simp only []
    by_cases hc : r.contAt (k + 1) = true
    · rw [if_pos hc, ih _ (by rw [List.length_set]; omega)]
      have hb : gBase (r.set (k + 1) (gBlank st)) k = gBase r k := by
        apply gBase_congr
        intro j hj
        apply gcontAt_congr
        rw [List.getElem?_set, if_neg (by omega)]
      have hb2 : gBase r (k + 1) = gBase r k := by simp only [gBase, hc, if_true]
      rw [hb, hb2]
      have hle : gBase r k ≤ k := by rw [gBase_headOf]; exact headOf_le _ _
      apply mapIdx_set_eq_mapIdx
      · intro c _; rw [if_neg (by omega), if_pos (by omega)]
      · intro i c hi _
        by_cases h1 : gBase r k ≤ i ∧ i ≤ k
        · rw [if_pos h1, if_pos (by omega)]
        · rw [if_neg h1, if_neg (by omega)]
    · rw [if_neg hc]
      have hb2 : gBase r (k + 1) = k + 1 := by simp only [gBase, hc]; simp
      rw [hb2]
      apply set_eq_mapIdx
      · intro c _; rw [if_pos (by omega)]
      · intro i c hi _; rw [if_neg (by omega)]

/-- a kept row of `setSize` in closed form: the character cut by the new edge is blanked from its
    base on -/
theorem resize_eq (r : GRow) (w : Nat) (st : Style) :
    r.resize w st =
      if w < r.length ∧ r.contAt w = true then
        (r.take w).mapIdx fun i c => if gBase r w ≤ i then gBlank st else c
      else r.take w ++ List.replicate (w - r.length) (gBlank st) := by
  unfold GRow.resize
  simp only [Bool.and_eq_true, decide_eq_true_eq]
  by_cases hcut : w < r.length ∧ r.contAt w = true
  · rw [if_pos hcut, if_pos hcut, show w - r.length = 0 by omega, List.replicate_zero, List.append_nil]
    cases w with
    | zero => rfl
    | succ k =>
      have hb : gBase (r.take (k + 1)) k = gBase r (k + 1) := by
        rw [gBase_congr (r := r) k (fun j hj => gcontAt_congr (by rw [List.getElem?_take, if_pos (by omega)]))]
        simp only [gBase, hcut.2, if_true]
      rw [cutLoop_eq st k _ (by rw [List.length_take]; omega), hb]
      refine List.mapIdx_eq_mapIdx_iff.2 fun i hi => ?_
      rw [List.length_take] at hi
      by_cases h1 : gBase r (k + 1) ≤ i
      · rw [if_pos ⟨h1, by omega⟩, if_pos h1]
      · rw [if_neg (fun h => h1 h.1), if_neg h1]
  · rw [if_neg hcut, if_neg hcut]

theorem resize_abs {r : GRow} (h : RowOK r) (w : Nat) (st : Style) :
    (r.resize w st).map GCell.abs = fitRow (r.map GCell.abs) w st := by
  rw [resize_eq]
  by_cases hcut : w < r.length ∧ r.contAt w = true
  · -- a row cut inside a character is `fixAt` at the cut, then `take`
    rw [if_pos hcut, gBase_headOf, ← cutRow_eq_fitRow _ (by simp; omega), cutRow_eq_fixAt]
    have hcA : contAt (r.map GCell.abs) w = true := by rw [contAt_abs]; exact hcut.2
    obtain ⟨t, wd, s, hch, hw1, hxw, hlen, _⟩ := wf_head h.2 (x := w) (by simpa using hcut.1)
    have hwd := wf_widthAt h.2 hch
    apply List.ext_getElem?
    intro i
    simp only [List.getElem?_map, List.getElem?_mapIdx, List.getElem?_take]
    by_cases hi : i < w
    · have hil : i < (r.map GCell.abs).length := by simp; omega
      rw [if_pos hi, if_pos hi, Row.getElem?_fixAt]
      simp only [Row.inCut, hcA, true_and, hwd]
      rw [List.getElem?_map, List.getElem?_eq_getElem (show i < r.length by omega)]
      simp only [Option.map_some]
      by_cases hin : headOf (r.map GCell.abs) w ≤ i
      · rw [if_pos hin, if_pos ⟨⟨hin, by omega⟩, hil⟩]; rfl
      · rw [if_neg hin, if_neg (fun h => hin h.1.1)]
    · rw [if_neg hi, if_neg hi]; rfl
  · rw [if_neg hcut]
    simp only [List.map_append, List.map_take, List.map_replicate, abs_gBlank]
    unfold fitRow
    simp only [List.length_map]
    by_cases hl : r.length ≥ w
    · rw [if_pos hl]
      have hc : contAt (r.map GCell.abs) w = false := by
        rw [contAt_abs]
        cases hc : r.contAt w with
        | false => rfl
        | true => exact absurd ⟨gcontAt_lt hc, hc⟩ hcut
      simp only [hc, Bool.false_eq_true, if_false]
      rw [show w - r.length = 0 by omega, List.replicate_zero, List.append_nil]
    · rw [if_neg hl, List.take_of_length_le (by simp; omega)]

theorem resize_length (r : GRow) (w : Nat) (st : Style) : (r.resize w st).length = w := by
  rw [resize_eq]
  split <;> simp <;> omega

theorem resize_cells (r : GRow) (w : Nat) (st : Style) :
    ∀ c ∈ r.resize w st, c ∈ r ∨ c = gBlank st := by
  rw [resize_eq]
  split
  · apply mem_mapIdx_cases
    intro i c hc
    split
    · exact Or.inr rfl
    · exact Or.inl (List.mem_of_mem_take hc)
  · intro c hc
    rcases List.mem_append.1 hc with hc | hc
    · exact Or.inl (List.mem_of_mem_take hc)
    · exact Or.inr (List.mem_replicate.1 hc).2

theorem CellClosed.resize {P : GCell → Prop} (hP : CellClosed P) {r : GRow} (h : ∀ c ∈ r, P c)
    (w : Nat) (st : Style) : ∀ c ∈ r.resize w st, P c :=
  hP.of_cells h (resize_cells r w st)

theorem resize_rowOK {r : GRow} (h : RowOK r) (w : Nat) (st : Style) : RowOK (r.resize w st) :=
  .of_abs (closed_ok.resize h.cells w st) (resize_abs h w st) (closed_wf.fitRow trivial h.2 _ trivial)

/-! ## a stored row of a screen -/

def RowInv (W : Nat) (r : GRow) : Prop :=
  r.length = W ∧ r.all GCell.ok = true ∧ rowWF (r.map GCell.abs) = true

theorem RowInv.ok {W : Nat} {r : GRow} (h : RowInv W r) : RowOK r := ⟨h.2.1, h.2.2⟩

theorem abs_gBlankRow (w : Nat) (st : Style) : (gBlankRow w st).map GCell.abs = blankRow w st := by
  simp [gBlankRow, blankRow, abs_gBlank]

theorem rowInv_gBlankRow (w : Nat) (st : Style) : RowInv w (gBlankRow w st) := by
  refine ⟨by simp [gBlankRow], List.all_eq_true.2 (closed_ok.blankRow w st), ?_⟩
  rw [abs_gBlankRow]; exact blankRow_wf w st

theorem eraseRow_abs {W : Nat} {r : GRow} (h : RowInv W r) (st : Style) (a b : Nat) :
    (r.writeBlanks a (min b W - a) st).map GCell.abs = Row.erase (r.map GCell.abs) a b st := by
  have hl := h.1
  by_cases hab : a < min b W
  · have hx : a + (min b W - a) ≤ r.length := by omega
    rw [writeBlanks_abs h.ok a _ st hx, show a + (min b W - a) = min b W by omega, ← hl]
    have := TM.erase_min (r.map GCell.abs) a b st
    rw [List.length_map] at this
    exact this
  · rw [show min b W - a = 0 by omega, writeBlanks_zero, erase_empty]
    rw [List.length_map, hl]; omega

/-! ## non-vacuity: `a中___` -/

def zh : Bytes := [0xe4, 0xb8, 0xad]

def exRow : GRow :=
  [⟨0x61, [0x61], 1, false, Style.default⟩, ⟨0x4E2D, zh, 2, false, Style.default⟩, gCont Style.default,
   gBlank Style.default, gBlank Style.default, gBlank Style.default]

example : RowOK exRow ∧ RowInv 6 exRow :=
  ⟨⟨by decide, by decide⟩, by decide, by decide, by decide⟩
-- the second cell of the wide character: `clearWideAt` walks back to column 1 and blanks both cells
example : gBase exRow 2 = 1 ∧ exRow.clearWideAt 2 Style.default =
    [⟨0x61, [0x61], 1, false, Style.default⟩, gBlank Style.default, gBlank Style.default,
     gBlank Style.default, gBlank Style.default, gBlank Style.default] := by decide
-- a write onto the second cell, an erase ending inside the character, DCH cutting it, a resize cutting it
example : (exRow.writeRune 2 0x62 1 Style.default).map GCell.abs =
    Row.put (exRow.map GCell.abs) 2 [0x62] 1 Style.default ∧
    (exRow.writeRune 2 0x62 1 Style.default)[1]? = some (gBlank Style.default) := by decide
example : (exRow.writeBlanks 0 2 Style.default).map GCell.abs =
    Row.erase (exRow.map GCell.abs) 0 2 Style.default ∧
    (exRow.writeBlanks 0 2 Style.default)[2]? = some (gBlank Style.default) := by decide
example : (exRow.deleteChars 2 1 Style.default).map GCell.abs =
    Row.dch (exRow.map GCell.abs) 2 1 Style.default ∧
    (exRow.deleteChars 2 1 Style.default)[1]? = some (gBlank Style.default) := by decide
example : (exRow.resize 2 Style.default).map GCell.abs = fitRow (exRow.map GCell.abs) 2 Style.default ∧
    exRow.resize 2 Style.default = [⟨0x61, [0x61], 1, false, Style.default⟩, gBlank Style.default] := by decide

end TM.C20Grid

#print axioms TM.C20Grid.gBase_headOf
#print axioms TM.C20Grid.clearWideAt_abs
#print axioms TM.C20Grid.clearWideAt_length
#print axioms TM.C20Grid.clearWideAt_rowOK
#print axioms TM.C20Grid.writeBlanks_abs
#print axioms TM.C20Grid.writeBlanks_length
#print axioms TM.C20Grid.writeBlanks_rowOK
#print axioms TM.C20Grid.writeBlanks_cells
#print axioms TM.C20Grid.writeRune_abs
#print axioms TM.C20Grid.writeRune_length
#print axioms TM.C20Grid.writeRune_rowOK
#print axioms TM.C20Grid.writeRune_cells
#print axioms TM.C20Grid.deleteChars_abs
#print axioms TM.C20Grid.deleteChars_length
#print axioms TM.C20Grid.deleteChars_rowOK
#print axioms TM.C20Grid.deleteChars_cells
#print axioms TM.C20Grid.resize_abs
#print axioms TM.C20Grid.resize_length
#print axioms TM.C20Grid.resize_rowOK
#print axioms TM.C20Grid.resize_cells
#print axioms TM.C20Grid.resize_eq
#print axioms TM.C20Grid.CellClosed.writeBlanks
#print axioms TM.C20Grid.CellClosed.writeRune
#print axioms TM.C20Grid.blankLoop_simple
#print axioms TM.C20Grid.cutLoop_eq
