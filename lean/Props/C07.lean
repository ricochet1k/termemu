import Proofs.Term
import Proofs.Put
import Proofs.Ite
/-!
# C07 — the current rendition is the left-to-right fold of all SGR parameters

Model: `TM.applySGR` / `TM.sgrSimple` / `TM.Style.*` (`style.go`, `case 'm'` of `escapes.go`), the
`CSI … m` row of `TM.Term.csiPlain`, and the cell writers of `TM/Screen.lean`.

A readable specification (`Mode`, `AColor`, `AStyle`, `Sgr.simple`, `Sgr.fold`), the decoding
`abs : Style → AStyle` of the packed words and the invariant `Style.valid`. Proved: `applySGR`
refines `Sgr.fold` for every parameter list (no hypothesis on the start style, every `Int`, every
length, truncated forms) and keeps `Style.valid`; `abs` is injective on valid styles; modes and
colours do not interfere; the style reported by `CSI … m` and carried by cells written or blanked
afterwards is that fold, and no other style ever appears on the screen. `put_cell_partial` and
`sgr_then_text_partial` give exact cell content only away from the right edge, off continuation
cells.

The packed words are read through views: `view` of a colour word (a flag and a payload) and `sview`
of a style, of which `abs` and `Style.valid` are projections and which each operation of `style.go`
updates in one place. Bits (`getLsbD`) are touched only to prove the view lemmas.
-/
namespace TM.C07

/-! ## Specification -/

/-- the thirteen modes of `style.go` -/
inductive Mode
  | bold | dim | italic | underline | blink | reverse | invisible | strike | overline
  | doubleUnderline | framed | encircled | rapidBlink
deriving DecidableEq, Repr

/-- bit index of a mode in the Go constant block (`ModeBold Mode = 1 << iota …`) -/
def Mode.bit : Mode → Nat
  | .bold => 0 | .dim => 1 | .italic => 2 | .underline => 3 | .blink => 4 | .reverse => 5
  | .invisible => 6 | .strike => 7 | .overline => 8 | .doubleUnderline => 9 | .framed => 10
  | .encircled => 11 | .rapidBlink => 12

def Mode.ofBit : Nat → Mode
  | 0 => .bold | 1 => .dim | 2 => .italic | 3 => .underline | 4 => .blink | 5 => .reverse
  | 6 => .invisible | 7 => .strike | 8 => .overline | 9 => .doubleUnderline | 10 => .framed
  | 11 => .encircled | _ => .rapidBlink

def Mode.all : List Mode :=
  [.bold, .dim, .italic, .underline, .blink, .reverse, .invisible, .strike, .overline,
   .doubleUnderline, .framed, .encircled, .rapidBlink]

namespace Lemmas

theorem Mode.bit_lt (m : Mode) : m.bit < 13 := by cases m <;> decide

theorem Mode.ofBit_bit (m : Mode) : Mode.ofBit m.bit = m := by cases m <;> rfl

theorem Mode.bit_ofBit (i : Nat) (h : i < 13) : (Mode.ofBit i).bit = i := by
  have : ∀ k : Fin 13, (Mode.ofBit k.val).bit = k.val := by decide
  exact this ⟨i, h⟩

theorem Mode.bit_inj {a b : Mode} (h : a.bit = b.bit) : a = b := by
  rw [← Mode.ofBit_bit a, ← Mode.ofBit_bit b, h]

end Lemmas

/-- a colour as the frontend distinguishes it -/
inductive AColor
  | dflt
  | idx (n : Nat)        -- palette entry 0–255 (30–37 / 40–47 give 0–7)
  | bright (n : Nat)     -- 90–97 / 100–107 give 0–7
  | rgb (r g b : Nat)
deriving DecidableEq, Repr

structure AStyle where
  fg : AColor
  bg : AColor
  modes : Mode → Bool

def AStyle.default : AStyle := ⟨.dflt, .dflt, fun _ => false⟩

def AStyle.on (a : AStyle) (m : Mode) : AStyle :=
  { a with modes := fun k => if k = m then true else a.modes k }

def AStyle.off (a : AStyle) (ms : List Mode) : AStyle :=
  { a with modes := fun k => if k ∈ ms then false else a.modes k }

def AStyle.setColor (a : AStyle) (c : Comp) (v : AColor) : AStyle :=
  match c with
  | .fg => { a with fg := v }
  | .bg => { a with bg := v }

/-- effect of one SGR code that stands alone — the property's list of codes -/
def Sgr.simple (a : AStyle) (p : Int) : AStyle :=
  if p = 0 then AStyle.default
  else if p = 1 then a.on .bold
  else if p = 2 then a.on .dim
  else if p = 3 then a.on .italic
  else if p = 4 then a.on .underline
  else if p = 5 then a.on .blink
  else if p = 6 then a.on .rapidBlink
  else if p = 7 then a.on .reverse
  else if p = 8 then a.on .invisible
  else if p = 9 then a.on .strike
  else if p = 21 then a.on .doubleUnderline
  else if p = 51 then a.on .framed
  else if p = 52 then a.on .encircled
  else if p = 53 then a.on .overline
  else if p = 22 then a.off [.bold, .dim]
  else if p = 23 then a.off [.italic]
  else if p = 24 then a.off [.underline, .doubleUnderline]
  else if p = 25 then a.off [.blink, .rapidBlink]
  else if p = 27 then a.off [.reverse]
  else if p = 28 then a.off [.invisible]
  else if p = 29 then a.off [.strike]
  else if p = 54 then a.off [.framed, .encircled]
  else if p = 55 then a.off [.overline]
  else if 30 ≤ p ∧ p ≤ 37 then a.setColor .fg (.idx (p - 30).toNat)
  else if 40 ≤ p ∧ p ≤ 47 then a.setColor .bg (.idx (p - 40).toNat)
  else if 90 ≤ p ∧ p ≤ 97 then a.setColor .fg (.bright (p - 90).toNat)
  else if 100 ≤ p ∧ p ≤ 107 then a.setColor .bg (.bright (p - 100).toNat)
  else if p = 39 then a.setColor .fg .dflt
  else if p = 49 then a.setColor .bg .dflt
  else a                                         -- every other code is ignored

/-- the colour selected by the parameters that follow `38` / `48`, and how many of them it uses:
    `5;n` (2 parameters) or `2;r;g;b` (4 parameters); each value is taken modulo 256.
    `none` when the form is unknown or truncated. -/
def Sgr.extended : List Int → Option (AColor × Nat)
  | a :: n :: tl =>
    if a = 5 then some (.idx (n % 256).toNat, 2)
    else if a = 2 then
      match tl with
      | g :: b :: _ => some (.rgb (n % 256).toNat (g % 256).toNat (b % 256).toNat, 4)
      | _ => none
    else none
  | _ => none

/-- left-to-right fold of a whole parameter list. `38` / `48` followed by a complete extended
    form consume it; otherwise the `38` / `48` alone is dropped and nothing is skipped. -/
def Sgr.fold (a : AStyle) : List Int → AStyle
  | [] => a
  | p :: rest =>
    if p = 38 ∨ p = 48 then
      match Sgr.extended rest with
      | some (col, k) => Sgr.fold (a.setColor (if p = 48 then .bg else .fg) col) (rest.drop k)
      | none => Sgr.fold a rest
    else Sgr.fold (Sgr.simple a p) rest
termination_by ps => ps.length
decreasing_by all_goals (simp_wf; try omega)

/-! ### decoding the packed words -/

/-- colour payload: bits 0–23 -/
def payload (w : BitVec 32) : Nat := w.toNat % 2 ^ 24

/-- bit 31 set: 24-bit RGB; otherwise `0x100` default, `< 0x100` palette, `0x200 ||| i` bright -/
def absColor (w : BitVec 32) : AColor :=
  let p := payload w
  if w.getLsbD 31 then .rgb (p / 65536) (p / 256 % 256) (p % 256)
  else if p = 0x100 then .dflt
  else if p < 0x100 then .idx p
  else .bright (p % 8)

def abs (s : Style) : AStyle := ⟨absColor s.fg, absColor s.bg, fun m => s.testMode m.bit⟩

/-- reachable colour words (bits 24–30 are not constrained here: they hold modes) -/
def colValid (w : BitVec 32) : Prop :=
  w.getLsbD 31 = true ∨ payload w = 0x100 ∨ payload w < 0x100 ∨
    (0x200 ≤ payload w ∧ payload w < 0x208)

instance (w : BitVec 32) : Decidable (colValid w) := by unfold colValid; infer_instance

/-- invariant of every style reachable from `Style.default` by SGR: both colour words are of one
    of the four shapes, bit 30 of `bg` (no mode lives there) is clear, and `ul` is never touched -/
def Style.valid (s : Style) : Prop :=
  colValid s.fg ∧ colValid s.bg ∧ s.bg.getLsbD 30 = false ∧ s.ul = colDefault

instance (s : Style) : Decidable (Style.valid s) := by unfold Style.valid; infer_instance

/-! ## Bits of the packed words -/

namespace Lemmas

theorem testBit_lt_of_le {x n j : Nat} (hx : x < 2 ^ n) (h : n ≤ j) : x.testBit j = false :=
  Nat.testBit_lt_two_pow (Nat.lt_of_lt_of_le hx (Nat.pow_le_pow_right (by decide) h))

theorem getLsbD_lowMask {n : Nat} (hn : n ≤ 32) (j : Nat) :
    (BitVec.ofNat 32 (2 ^ n - 1)).getLsbD j = decide (j < n) := by
  rw [BitVec.getLsbD_ofNat, Nat.testBit_two_pow_sub_one]
  by_cases h : j < n
  · simp [h, show j < 32 by omega]
  · simp [h]

theorem getLsbD_7F (j : Nat) : (0x7F#32).getLsbD j = decide (j < 7) := getLsbD_lowMask (n := 7) (by decide) j

theorem getLsbD_3F (j : Nat) : (0x3F#32).getLsbD j = decide (j < 6) := getLsbD_lowMask (n := 6) (by decide) j

/-- `testMode` read off the words: modes 0–6 are bits 24–30 of `fg`, modes 7–12 bits 24–29 of `bg` -/
theorem testMode_eq (s : Style) (j : Nat) :
    s.testMode j = if j < 7 then s.fg.getLsbD (24 + j)
                   else if j < 13 then s.bg.getLsbD (24 + (j - 7)) else false := by
  unfold Style.testMode Style.modeBits
  have ha : ((s.fg >>> 24) &&& 0x7F#32).toNat < 2 ^ 7 := by
    rw [BitVec.toNat_and]; exact Nat.lt_of_le_of_lt Nat.and_le_right (by decide)
  rw [Nat.add_comm, Nat.mul_comm, show (128 : Nat) = 2 ^ 7 from rfl,
    Nat.testBit_two_pow_mul_add _ ha]
  by_cases h7 : j < 7
  · simp only [h7, if_true, BitVec.testBit_toNat, BitVec.getLsbD_and, BitVec.getLsbD_ushiftRight,
      getLsbD_7F]
    simp
  · simp only [h7, if_false, BitVec.testBit_toNat, BitVec.getLsbD_and,
      BitVec.getLsbD_ushiftRight, getLsbD_3F]
    by_cases h13 : j < 13
    · have : j - 7 < 6 := by omega
      simp [h13, this]
    · have : ¬ j - 7 < 6 := by omega
      simp [h13, this]

theorem modeBitsMask_eq : modeBitsMask = 0x7F#32 <<< 24 := by decide

theorem getLsbD_modeBitsMask (k : Nat) : modeBitsMask.getLsbD k = decide (24 ≤ k ∧ k < 31) := by
  rw [modeBitsMask_eq, BitVec.getLsbD_shiftLeft, getLsbD_7F]
  by_cases h1 : k < 32 <;> by_cases h2 : k < 24 <;> simp [h1, h2]
  all_goals first | omega | (rw [← Bool.decide_and, decide_eq_decide]; omega)

theorem colorTypeMask_eq : colorTypeMask = BitVec.twoPow 32 31 := by decide

theorem getLsbD_colorTypeMask (k : Nat) : colorTypeMask.getLsbD k = decide (k = 31) := by
  rw [colorTypeMask_eq, BitVec.getLsbD_twoPow]
  by_cases h : k = 31 <;> simp [h] <;> omega

theorem payload_lt (w : BitVec 32) : payload w < 2 ^ 24 := Nat.mod_lt _ (by decide)

theorem payload_testBit (w : BitVec 32) (k : Nat) :
    (payload w).testBit k = (decide (k < 24) && w.getLsbD k) := by
  unfold payload
  rw [Nat.testBit_mod_two_pow, BitVec.testBit_toNat]

end Lemmas

/-! ## A colour word is a flag and a payload

`absColor` and `colValid` read a word through the same pair, its `view`: bit 31 and bits 0–23.
So whatever keeps the view of a word keeps its colour and its validity, and a word whose view is
`v` has the colour `decode v` and is valid when `v` has one of the four shapes (`viewOk`).
`ofView v` is the word with view `v` and no mode bit: what the four setters write, and what
`color()` (`&^ modeBitsMask`) leaves of any word. -/

/-- the colours that have a word: what `absColor` can give -/
def AColor.ok : AColor → Prop
  | .dflt => True
  | .idx n => n < 256
  | .bright n => n < 8
  | .rgb r g b => r < 256 ∧ g < 256 ∧ b < 256

namespace Lemmas

def view (w : BitVec 32) : Bool × Nat := (w.getLsbD 31, payload w)

def decode (v : Bool × Nat) : AColor :=
  if v.1 then .rgb (v.2 / 65536) (v.2 / 256 % 256) (v.2 % 256)
  else if v.2 = 0x100 then .dflt
  else if v.2 < 0x100 then .idx v.2
  else .bright (v.2 % 8)

/-- the four shapes of a reachable colour: RGB, default, palette, bright -/
def viewOk (v : Bool × Nat) : Prop :=
  v.1 = true ∨ v.2 = 0x100 ∨ v.2 < 0x100 ∨ (0x200 ≤ v.2 ∧ v.2 < 0x208)

theorem absColor_eq (w : BitVec 32) : absColor w = decode (view w) := rfl

theorem colValid_iff (w : BitVec 32) : colValid w ↔ viewOk (view w) := Iff.rfl

/-- the view an `ok` colour is stored as: `decode` and `encode` are inverse to each other between
    the `viewOk` views and the `ok` colours -/
def encode : AColor → Bool × Nat
  | .dflt => (false, 0x100)
  | .idx n => (false, n)
  | .bright n => (false, 0x200 + n)
  | .rgb r g b => (true, r * 65536 + g * 256 + b)

theorem encode_decode {v : Bool × Nat} (h : viewOk v) : encode (decode v) = v := by
  obtain ⟨f, p⟩ := v
  unfold decode
  cases f
  · simp only [viewOk, Bool.false_eq_true, if_false, false_or] at h ⊢
    rcases h with rfl | h | h
    · rfl
    · rw [if_neg (by omega), if_pos h]; rfl
    · rw [if_neg (by omega), if_neg (by omega)]
      show (false, 0x200 + p % 8) = _
      congr 1; omega
  · show (true, p / 65536 * 65536 + p / 256 % 256 * 256 + p % 256) = _
    congr 1; omega

theorem decode_inj {v w : Bool × Nat} (hv : viewOk v) (hw : viewOk w) (h : decode v = decode w) :
    v = w := by
  rw [← encode_decode hv, ← encode_decode hw, h]

theorem decode_encode {a : AColor} (h : a.ok) :
    decode (encode a) = a ∧ viewOk (encode a) ∧ (encode a).2 < 2 ^ 24 := by
  have e24 : (2:Nat) ^ 24 = 16777216 := by decide
  cases a with
  | dflt => exact ⟨rfl, .inr (.inl rfl), by decide⟩
  | idx n =>
    have h : n < 256 := h
    refine ⟨?_, .inr (.inr (.inl h)), show n < 2 ^ 24 by omega⟩
    show decode (false, n) = _
    simp only [decode, Bool.false_eq_true, if_false]
    rw [if_neg (by omega), if_pos h]
  | bright n =>
    have h : n < 8 := h
    refine ⟨?_, .inr (.inr (.inr (show 0x200 ≤ 0x200 + n ∧ 0x200 + n < 0x208 by omega))),
      show 0x200 + n < 2 ^ 24 by omega⟩
    show decode (false, 0x200 + n) = _
    simp only [decode, Bool.false_eq_true, if_false]
    rw [if_neg (by omega), if_neg (by omega)]; congr 1; omega
  | rgb r g b =>
    obtain ⟨hr, hg, hb⟩ : r < 256 ∧ g < 256 ∧ b < 256 := h
    refine ⟨?_, .inl rfl, show r * 65536 + g * 256 + b < 2 ^ 24 by omega⟩
    show decode (true, r * 65536 + g * 256 + b) = _
    simp only [decode, if_true]
    congr 1 <;> omega

theorem decode_ok {v : Bool × Nat} (hp : v.2 < 2 ^ 24) : (decode v).ok := by
  have e24 : (2:Nat) ^ 24 = 16777216 := by decide
  unfold decode
  split
  · show _ < 256 ∧ _ < 256 ∧ _ < 256; omega
  · split
    · trivial
    · split
      · assumption
      · show _ % 8 < 8; omega

theorem absColor_ok (w : BitVec 32) : (absColor w).ok := decode_ok (v := view w) (payload_lt w)

theorem view_eq_iff {a b : BitVec 32} :
    view a = view b ↔ ∀ k, k < 24 ∨ k = 31 → a.getLsbD k = b.getLsbD k := by
  constructor
  · intro h k hk
    obtain ⟨h1, h2⟩ := Prod.mk.inj h
    rcases hk with hk | rfl
    · simpa [payload_testBit, hk] using congrArg (Nat.testBit · k) h2
    · exact h1
  · intro h
    refine Prod.ext (h 31 (.inr rfl)) (Nat.eq_of_testBit_eq fun k => ?_)
    show (payload a).testBit k = (payload b).testBit k
    rw [payload_testBit, payload_testBit]
    by_cases hk : k < 24
    · rw [h k (.inl hk)]
    · simp [hk]

def ofView (v : Bool × Nat) : BitVec 32 :=
  BitVec.ofNat 32 v.2 ||| (if v.1 then colorTypeMask else 0#32)

theorem getLsbD_ofView {v : Bool × Nat} (hp : v.2 < 2 ^ 24) (k : Nat) :
    (ofView v).getLsbD k = if k = 31 then v.1 else (decide (k < 24) && v.2.testBit k) := by
  unfold ofView
  rw [BitVec.getLsbD_or, BitVec.getLsbD_ofNat]
  by_cases h31 : k = 31
  · subst h31
    rw [testBit_lt_of_le hp (by decide)]
    cases v.1 <;> simp [getLsbD_colorTypeMask]
  · have : (if v.1 then colorTypeMask else 0#32).getLsbD k = false := by
      cases v.1 <;> simp [getLsbD_colorTypeMask, h31]
    rw [this, if_neg h31, Bool.or_false]
    by_cases h24 : k < 24
    · simp [h24, show k < 32 by omega]
    · simp [h24, testBit_lt_of_le hp (show 24 ≤ k by omega)]

theorem view_ofView {v : Bool × Nat} (hp : v.2 < 2 ^ 24) : view (ofView v) = v := by
  refine Prod.ext ?_ (Nat.eq_of_testBit_eq fun k => ?_)
  · show (ofView v).getLsbD 31 = v.1
    rw [getLsbD_ofView hp, if_pos rfl]
  · show (payload (ofView v)).testBit k = v.2.testBit k
    rw [payload_testBit, getLsbD_ofView hp]
    by_cases hk : k < 24
    · simp [hk, show k ≠ 31 by omega]
    · simp [hk, testBit_lt_of_le hp (show 24 ≤ k by omega)]

theorem colorPart_eq (w : BitVec 32) : w &&& ~~~modeBitsMask = ofView (view w) := by
  apply BitVec.eq_of_getLsbD_eq; intro k hk
  rw [getLsbD_ofView (payload_lt w), BitVec.getLsbD_and, BitVec.getLsbD_not, getLsbD_modeBitsMask]
  show _ = if k = 31 then w.getLsbD 31 else (decide (k < 24) && (payload w).testBit k)
  rw [payload_testBit]
  by_cases h31 : k = 31
  · subst h31; simp
  · by_cases h24 : k < 24
    · simp [h24, h31, hk, show ¬ 24 ≤ k by omega]
    · simp [h24, h31, hk, show 24 ≤ k ∧ k < 31 by omega]

theorem view_colorPart (w : BitVec 32) : view (w &&& ~~~modeBitsMask) = view w := by
  rw [colorPart_eq, view_ofView (payload_lt w)]

theorem ofView_colorPart {v : Bool × Nat} (hp : v.2 < 2 ^ 24) :
    ofView v &&& ~~~modeBitsMask = ofView v := by
  rw [colorPart_eq, view_ofView hp]

theorem ofView_false (p : Nat) : ofView (false, p) = BitVec.ofNat 32 p := by simp [ofView]

theorem absColor_of_colorPart_eq {a b : BitVec 32}
    (h : a &&& ~~~modeBitsMask = b &&& ~~~modeBitsMask) : absColor a = absColor b := by
  rw [absColor_eq, absColor_eq, ← view_colorPart a, h, view_colorPart]

/-- a setter's `(w & modeBitsMask) | v`, for the canonical word of a view: mode bits of `w`, the
    rest of `v` -/
theorem getLsbD_recolor (w : BitVec 32) {v : Bool × Nat} (hp : v.2 < 2 ^ 24) (k : Nat) :
    ((w &&& modeBitsMask) ||| ofView v).getLsbD k =
      if 24 ≤ k ∧ k < 31 then w.getLsbD k else (ofView v).getLsbD k := by
  rw [BitVec.getLsbD_or, BitVec.getLsbD_and, getLsbD_modeBitsMask]
  by_cases h : 24 ≤ k ∧ k < 31
  · simp [h, getLsbD_ofView hp, show ¬ k = 31 by omega, show ¬ k < 24 by omega]
  · simp [h]

def modeBit (i : Nat) : BitVec 32 := BitVec.ofNat 32 (2 ^ i) <<< 24

theorem getLsbD_modeBit (i k : Nat) : (modeBit i).getLsbD k = decide (k < 32 ∧ k = 24 + i) := by
  unfold modeBit
  rw [BitVec.getLsbD_shiftLeft, BitVec.getLsbD_ofNat, Nat.testBit_two_pow]
  by_cases h : k < 32 ∧ k = 24 + i
  · obtain ⟨h1, rfl⟩ := h
    have h3 : i < 32 := by omega
    simp [h1, h3]
  · simp only [h, decide_false]
    by_cases h1 : k < 32 <;> by_cases h2 : k < 24 <;> simp [h1, h2]
    omega

/-- bit `24 + i` of a word written: `|=` and `&^=` of `SetMode` / `ResetMode` as one operation -/
def wrBit (b : Bool) (w : BitVec 32) (i : Nat) : BitVec 32 :=
  if b then w ||| modeBit i else w &&& ~~~modeBit i

theorem getLsbD_wrBit (b : Bool) (w : BitVec 32) {i : Nat} (hi : i < 7) (k : Nat) :
    (wrBit b w i).getLsbD k = if k = 24 + i then b else w.getLsbD k := by
  have hm : (modeBit i).getLsbD k = decide (k = 24 + i) := by
    rw [getLsbD_modeBit, decide_eq_decide]; omega
  cases b
  · show (w &&& ~~~modeBit i).getLsbD k = _
    rw [BitVec.getLsbD_and, BitVec.getLsbD_not, hm]
    by_cases e : k = 24 + i
    · simp [e]
    · simpa [e] using BitVec.lt_of_getLsbD  -- `~~~` is cut at the width; a set bit of `w` lies below it
  · show (w ||| modeBit i).getLsbD k = _
    rw [BitVec.getLsbD_or, hm]
    by_cases e : k = 24 + i <;> simp [e]

end Lemmas

/-! ## The exact view of a style

The three words, unpacked: the views of `fg` and `bg`, the thirteen modes, the one bit that is
neither (`pad`, bit 30 of `bg`) and `ul`. `abs` and `Style.valid` are projections of it
(`abs_eq`, `valid_iff`), it determines the style (`sview_injective`), and each operation of
`style.go` is one update of it (`sview_writeMode`, `sview_setColorVal`): what the operation does to
`abs`, to validity, to the modes and to the colour parts is read off that update. -/
namespace Lemmas

@[ext] structure SView where
  fg : Bool × Nat
  bg : Bool × Nat
  modes : Nat → Bool
  pad : Bool
  ul : BitVec 32

def sview (s : Style) : SView := ⟨view s.fg, view s.bg, s.testMode, s.bg.getLsbD 30, s.ul⟩

theorem abs_eq (s : Style) :
    abs s = ⟨decode (sview s).fg, decode (sview s).bg, fun m => (sview s).modes m.bit⟩ := rfl

theorem valid_iff (s : Style) : Style.valid s ↔
    viewOk (sview s).fg ∧ viewOk (sview s).bg ∧ (sview s).pad = false ∧ (sview s).ul = colDefault :=
  Iff.rfl

theorem testMode_fg_bit (s : Style) (k : Nat) (h1 : 24 ≤ k) (h2 : k < 31) :
    s.fg.getLsbD k = s.testMode (k - 24) := by
  rw [testMode_eq, if_pos (by omega)]; congr 1; omega

theorem testMode_bg_bit (s : Style) (k : Nat) (h1 : 24 ≤ k) (h2 : k < 30) :
    s.bg.getLsbD k = s.testMode (k - 24 + 7) := by
  rw [testMode_eq, if_neg (by omega), if_pos (by omega)]; congr 1; omega

/-- every bit of the three words is in the view: no validity needed -/
theorem sview_injective {s₁ s₂ : Style} (h : sview s₁ = sview s₂) : s₁ = s₂ := by
  obtain ⟨hf, hb, hm, hp, hu⟩ := SView.mk.inj h
  have efg : s₁.fg = s₂.fg := by
    apply BitVec.eq_of_getLsbD_eq; intro k hk
    by_cases hk1 : k < 24 ∨ k = 31
    · exact view_eq_iff.1 hf k hk1
    · rw [testMode_fg_bit s₁ k (by omega) (by omega), testMode_fg_bit s₂ k (by omega) (by omega), hm]
  have ebg : s₁.bg = s₂.bg := by
    apply BitVec.eq_of_getLsbD_eq; intro k hk
    by_cases hk1 : k < 24 ∨ k = 31
    · exact view_eq_iff.1 hb k hk1
    · by_cases hk3 : k = 30
      · subst hk3; exact hp
      · rw [testMode_bg_bit s₁ k (by omega) (by omega), testMode_bg_bit s₂ k (by omega) (by omega), hm]
  cases s₁; cases s₂
  simp only at efg ebg hu
  rw [efg, ebg, hu]

def writeMode (s : Style) (i : Nat) (b : Bool) : Style := if b then s.setMode i else s.resetMode i

theorem writeMode_true (s : Style) (i : Nat) : writeMode s i true = s.setMode i := rfl

theorem writeMode_false (s : Style) (i : Nat) : writeMode s i false = s.resetMode i := rfl

theorem writeMode_eq (s : Style) (i : Nat) (b : Bool) :
    writeMode s i b = if i < 7 then { s with fg := wrBit b s.fg i }
      else if i < 13 then { s with bg := wrBit b s.bg (i - 7) } else s := by
  cases b <;> rfl

theorem sview_writeMode (s : Style) (i : Nat) (b : Bool) :
    sview (writeMode s i b) =
      { sview s with modes := fun j => if j = i ∧ i < 13 then b else s.testMode j } := by
  rw [writeMode_eq]
  by_cases h7 : i < 7
  · rw [if_pos h7]
    refine SView.ext (view_eq_iff.2 fun k hk => ?_) rfl (funext fun j => ?_) rfl rfl
    · show (wrBit b s.fg i).getLsbD k = _
      rw [getLsbD_wrBit b _ h7, if_neg (by omega)]
    · show Style.testMode { s with fg := wrBit b s.fg i } j = if j = i ∧ i < 13 then b else s.testMode j
      -- both sides are cascades on `j`: they agree at `j = i` and away from it
      simp only [testMode_eq, getLsbD_wrBit b _ h7, Nat.add_left_cancel_iff]
      by_cases e : j = i
      · simp [e, h7, show i < 13 by omega]
      · simp [e]
  rw [if_neg h7]
  by_cases h13 : i < 13
  · rw [if_pos h13]
    have h6 : i - 7 < 7 := by omega
    refine SView.ext rfl (view_eq_iff.2 fun k hk => ?_) (funext fun j => ?_) ?_ rfl
    · show (wrBit b s.bg (i - 7)).getLsbD k = _
      rw [getLsbD_wrBit b _ h6, if_neg (by omega)]
    · show Style.testMode { s with bg := wrBit b s.bg (i - 7) } j = if j = i ∧ i < 13 then b else s.testMode j
      simp only [testMode_eq, getLsbD_wrBit b _ h6, Nat.add_left_cancel_iff]
      by_cases e : j = i
      · simp [e, h7, h13]
      · have : j < 7 ∨ ¬ j - 7 = i - 7 := by omega
        rcases this with h | h <;> simp [e, h]
    · show (wrBit b s.bg (i - 7)).getLsbD 30 = s.bg.getLsbD 30
      rw [getLsbD_wrBit b _ h6, if_neg (by omega)]
  · rw [if_neg h13]
    exact SView.ext rfl rfl (funext fun j => (if_neg fun h => h13 h.2).symm) rfl rfl

theorem testMode_congr {s s' : Style}
    (hf : ∀ k, 24 ≤ k → k < 31 → s'.fg.getLsbD k = s.fg.getLsbD k)
    (hb : ∀ k, 24 ≤ k → k < 31 → s'.bg.getLsbD k = s.bg.getLsbD k) (j : Nat) :
    s'.testMode j = s.testMode j := by
  simp only [testMode_eq]
  split
  · exact hf _ (by omega) (by omega)
  · split
    · exact hb _ (by omega) (by omega)
    · rfl

theorem sview_setColorVal (s : Style) (c : Comp) {v : Bool × Nat} (hp : v.2 < 2 ^ 24) :
    sview (s.setColorVal c (ofView v)) =
      match c with
      | .fg => { sview s with fg := v }
      | .bg => { sview s with bg := v } := by
  have hview (w : BitVec 32) : view ((w &&& modeBitsMask) ||| ofView v) = v :=
    (view_eq_iff.2 fun k hk => by rw [getLsbD_recolor w hp, if_neg (by omega)]).trans (view_ofView hp)
  have hmode (w : BitVec 32) (k : Nat) (h1 : 24 ≤ k) (h2 : k < 31) :
      ((w &&& modeBitsMask) ||| ofView v).getLsbD k = w.getLsbD k := by
    rw [getLsbD_recolor w hp, if_pos ⟨h1, h2⟩]
  cases c
  · exact SView.ext (hview _) rfl (funext (testMode_congr (hmode _) fun _ _ _ => rfl)) rfl rfl
  · exact SView.ext rfl (hview _) (funext (testMode_congr (fun _ _ _ => rfl) (hmode _)))
      (hmode _ 30 (by decide) (by decide)) rfl

end Lemmas
open Lemmas

/-! ## Modes and colours do not interfere (all thirteen modes) -/

theorem setColor256_reject (s : Style) (c : Comp) {n : Int} (h : n < 0 ∨ 255 < n) :
    s.setColor256 c n = s := by
  unfold Style.setColor256; rw [if_pos (by omega)]

theorem setColorBright_reject (s : Style) (c : Comp) {n : Int} (h : n < 0 ∨ 7 < n) :
    s.setColorBright c n = s := by
  unfold Style.setColorBright; rw [if_pos (by omega)]

namespace Lemmas

theorem testMode_writeMode (s : Style) (i : Nat) (b : Bool) (j : Nat) :
    (writeMode s i b).testMode j = if j = i ∧ i < 13 then b else s.testMode j :=
  congrFun (congrArg SView.modes (sview_writeMode s i b)) j

theorem writeMode_color_frame (s : Style) (i : Nat) (b : Bool) :
    (writeMode s i b).fg &&& ~~~modeBitsMask = s.fg &&& ~~~modeBitsMask ∧
    (writeMode s i b).bg &&& ~~~modeBitsMask = s.bg &&& ~~~modeBitsMask ∧
    (writeMode s i b).ul = s.ul := by
  have h := sview_writeMode s i b
  rw [colorPart_eq, colorPart_eq, colorPart_eq, colorPart_eq]
  exact ⟨congrArg (fun V : SView => ofView V.fg) h, congrArg (fun V : SView => ofView V.bg) h, congrArg SView.ul h⟩

theorem absColor_writeMode (s : Style) (i : Nat) (b : Bool) :
    absColor (writeMode s i b).fg = absColor s.fg ∧ absColor (writeMode s i b).bg = absColor s.bg :=
  have h := sview_writeMode s i b
  ⟨congrArg (fun V : SView => decode V.fg) h, congrArg (fun V : SView => decode V.bg) h⟩

/-! ### `abs` of each style operation, and validity -/

theorem absColor_default : absColor colDefault = .dflt := by decide

theorem abs_default : abs Style.default = AStyle.default := by
  unfold abs AStyle.default
  rw [show Style.default.fg = colDefault from rfl, show Style.default.bg = colDefault from rfl,
    absColor_default]
  congr 1; funext m
  cases m <;> decide

theorem valid_default : Style.valid Style.default := by decide

theorem abs_writeMode (s : Style) (m : Mode) (b : Bool) :
    abs (writeMode s m.bit b) =
      { abs s with modes := fun k => if k = m then b else (abs s).modes k } := by
  rw [abs_eq, sview_writeMode]
  show AStyle.mk _ _ _ = AStyle.mk _ _ _
  congr 1; funext k
  show (if k.bit = m.bit ∧ m.bit < 13 then b else s.testMode k.bit) =
    if k = m then b else s.testMode k.bit
  by_cases h : k = m
  · rw [if_pos ⟨congrArg _ h, Mode.bit_lt m⟩, if_pos h]
  · rw [if_neg (fun e => h (Mode.bit_inj e.1)), if_neg h]

theorem abs_setMode (s : Style) (m : Mode) : abs (s.setMode m.bit) = (abs s).on m :=
  abs_writeMode s m true

theorem abs_resetMode (s : Style) (m : Mode) : abs (s.resetMode m.bit) = (abs s).off [m] := by
  rw [← writeMode_false, abs_writeMode]
  simp [AStyle.off]

theorem off_off (a : AStyle) (xs ys : List Mode) : (a.off xs).off ys = a.off (xs ++ ys) := by
  unfold AStyle.off
  congr 1; funext k
  by_cases h1 : k ∈ xs <;> by_cases h2 : k ∈ ys <;> simp [h1, h2]

theorem abs_resetMode2 (s : Style) (m n : Mode) :
    abs ((s.resetMode m.bit).resetMode n.bit) = (abs s).off [m, n] := by
  rw [abs_resetMode, abs_resetMode, off_off]; rfl

theorem valid_writeMode {s : Style} (h : Style.valid s) (i : Nat) (b : Bool) :
    Style.valid (writeMode s i b) := by
  rw [valid_iff, sview_writeMode]; exact (valid_iff s).1 h

theorem testMode_setColorVal (s : Style) (c : Comp) {a : AColor} (h : a.ok) (j : Nat) :
    (s.setColorVal c (ofView (encode a))).testMode j = s.testMode j := by
  have := congrArg SView.modes (sview_setColorVal s c (decode_encode h).2.2)
  cases c <;> exact congrFun this j

theorem abs_setColorVal (s : Style) (c : Comp) {a : AColor} (h : a.ok) :
    abs (s.setColorVal c (ofView (encode a))) = (abs s).setColor c a := by
  rw [abs_eq, sview_setColorVal s c (decode_encode h).2.2]
  cases c
  · show AStyle.mk (decode (encode a)) _ _ = _; rw [(decode_encode h).1]; rfl
  · show AStyle.mk _ (decode (encode a)) _ = _; rw [(decode_encode h).1]; rfl

theorem valid_setColorVal {s : Style} (hs : Style.valid s) (c : Comp) {a : AColor} (h : a.ok) :
    Style.valid (s.setColorVal c (ofView (encode a))) := by
  obtain ⟨h1, h2, h3, h4⟩ := (valid_iff s).1 hs
  rw [valid_iff, sview_setColorVal s c (decode_encode h).2.2]
  cases c
  · exact ⟨(decode_encode h).2.1, h2, h3, h4⟩
  · exact ⟨h1, (decode_encode h).2.1, h3, h4⟩

/-! ### the colour setters on `Int` arguments: what each setter writes is the canonical word of the
colour it selects -/

theorem setColor256_eq (s : Style) (c : Comp) {n : Int} (h : 0 ≤ n ∧ n ≤ 255) :
    s.setColor256 c n = s.setColorVal c (ofView (encode (.idx n.toNat))) := by
  unfold Style.setColor256
  rw [if_neg (by omega)]; exact congrArg _ (ofView_false _).symm

theorem setColorBright_eq (s : Style) (c : Comp) {n : Int} (h : 0 ≤ n ∧ n ≤ 7) :
    s.setColorBright c n = s.setColorVal c (ofView (encode (.bright n.toNat))) := by
  have : ∀ k : Fin 8, colBright ||| BitVec.ofNat 32 k.val = ofView (encode (.bright k.val)) := by decide
  unfold Style.setColorBright
  rw [if_neg (by omega)]; exact congrArg _ (this ⟨n.toNat, by omega⟩)

theorem setColorRGB_eq (s : Style) (c : Comp) (r g b : Int) :
    s.setColorRGB c r g b =
      s.setColorVal c (ofView (encode (.rgb (r % 256).toNat (g % 256).toNat (b % 256).toNat))) := rfl

theorem setColorDefault_eq (s : Style) (c : Comp) :
    s.setColorDefault c = s.setColorVal c (ofView (encode .dflt)) := rfl

/-- what a colour setter of `style.go` makes of `s`, on any argument -/
inductive Setter (s : Style) (c : Comp) : Style → Prop
  | c256 (n : Int) : Setter s c (s.setColor256 c n)
  | bright (n : Int) : Setter s c (s.setColorBright c n)
  | rgb (r g b : Int) : Setter s c (s.setColorRGB c r g b)
  | dflt : Setter s c (s.setColorDefault c)

/-- so a property that every such write has, and the style itself has, holds after every setter,
    on every argument -/
theorem setter_cases {Q : Style → Prop} {s : Style} {c : Comp} (same : Q s)
    (set : ∀ a : AColor, a.ok → Q (s.setColorVal c (ofView (encode a)))) {s' : Style}
    (h : Setter s c s') : Q s' := by
  cases h with
  | c256 n =>
    by_cases h : 0 ≤ n ∧ n ≤ 255
    · rw [setColor256_eq s c h]; exact set (.idx _) (show n.toNat < 256 by omega)
    · rw [setColor256_reject s c (by omega)]; exact same
  | bright n =>
    by_cases h : 0 ≤ n ∧ n ≤ 7
    · rw [setColorBright_eq s c h]; exact set (.bright _) (show n.toNat < 8 by omega)
    · rw [setColorBright_reject s c (by omega)]; exact same
  | rgb r g b => rw [setColorRGB_eq]; exact set (.rgb _ _ _) ⟨by omega, by omega, by omega⟩
  | dflt => exact set .dflt trivial

theorem valid_setter {s s' : Style} {c : Comp} (h : Style.valid s) (hs : Setter s c s') :
    Style.valid s' :=
  setter_cases h (fun _ ha => valid_setColorVal h c ha) hs

end Lemmas

/-- setting mode `i` turns exactly mode `i` on: every other mode keeps its value -/
theorem setMode_testMode (s : Style) (i j : Nat) (hi : i < 13) :
    (s.setMode i).testMode j = (s.testMode j || decide (j = i)) := by
  rw [← writeMode_true, testMode_writeMode]
  by_cases e : j = i <;> simp [e, hi]

theorem resetMode_testMode (s : Style) (i j : Nat) (hi : i < 13) :
    (s.resetMode i).testMode j = (s.testMode j && !decide (j = i)) := by
  rw [← writeMode_false, testMode_writeMode]
  by_cases e : j = i <;> simp [e, hi]

/-- mode indices outside 0–12 do not exist -/
theorem setMode_out_of_range (s : Style) (i : Nat) (hi : 13 ≤ i) :
    s.setMode i = s ∧ s.resetMode i = s ∧ s.testMode i = false := by
  have h7 : ¬ i < 7 := by omega
  have h13 : ¬ i < 13 := by omega
  simp [Style.setMode, Style.resetMode, testMode_eq, h7, h13]

/-- a mode write leaves every bit outside 24–30 of `fg`/`bg` (the colours and the RGB flag) and
    all of `ul` unchanged — packed form (`color() = c &^ modeBitsMask`) -/
theorem setMode_color_frame (s : Style) (i : Nat) :
    (s.setMode i).fg &&& ~~~modeBitsMask = s.fg &&& ~~~modeBitsMask ∧
    (s.setMode i).bg &&& ~~~modeBitsMask = s.bg &&& ~~~modeBitsMask ∧
    (s.setMode i).ul = s.ul :=
  writeMode_color_frame s i true

theorem resetMode_color_frame (s : Style) (i : Nat) :
    (s.resetMode i).fg &&& ~~~modeBitsMask = s.fg &&& ~~~modeBitsMask ∧
    (s.resetMode i).bg &&& ~~~modeBitsMask = s.bg &&& ~~~modeBitsMask ∧
    (s.resetMode i).ul = s.ul :=
  writeMode_color_frame s i false

theorem setMode_absColor (s : Style) (i : Nat) :
    absColor (s.setMode i).fg = absColor s.fg ∧ absColor (s.setMode i).bg = absColor s.bg :=
  absColor_writeMode s i true

theorem resetMode_absColor (s : Style) (i : Nat) :
    absColor (s.resetMode i).fg = absColor s.fg ∧ absColor (s.resetMode i).bg = absColor s.bg :=
  absColor_writeMode s i false

/-- `SetColor256` with an index in range selects palette entry `n`; modes and the other colour are
    untouched -/
theorem abs_setColor256 (s : Style) (c : Comp) {n : Int} (h : 0 ≤ n ∧ n ≤ 255) :
    abs (s.setColor256 c n) = (abs s).setColor c (.idx n.toNat) := by
  rw [setColor256_eq s c h, abs_setColorVal s c (a := .idx _) (show n.toNat < 256 by omega)]

theorem abs_setColorBright (s : Style) (c : Comp) {n : Int} (h : 0 ≤ n ∧ n ≤ 7) :
    abs (s.setColorBright c n) = (abs s).setColor c (.bright n.toNat) := by
  rw [setColorBright_eq s c h, abs_setColorVal s c (a := .bright _) (show n.toNat < 8 by omega)]

/-- `SetColorRGB` takes every component modulo 256 (`& 0xff`), for every `Int` -/
theorem abs_setColorRGB (s : Style) (c : Comp) (r g b : Int) :
    abs (s.setColorRGB c r g b) =
      (abs s).setColor c (.rgb (r % 256).toNat (g % 256).toNat (b % 256).toNat) :=
  abs_setColorVal s c (a := .rgb _ _ _) ⟨by omega, by omega, by omega⟩

theorem abs_setColorDefault (s : Style) (c : Comp) :
    abs (s.setColorDefault c) = (abs s).setColor c .dflt :=
  abs_setColorVal s c (a := .dflt) trivial

/-! ## Refinement: one stand-alone code -/

namespace Lemmas

/-- the four colour ranges of `sgrSimple`, eight codes each, read off the cascade one by one -/
theorem sgrSimple_color (s : Style) {k : Nat} (h : k < 8) :
    sgrSimple s ↑(30 + k) = s.setColor256 .fg k ∧ sgrSimple s ↑(40 + k) = s.setColor256 .bg k ∧
    sgrSimple s ↑(90 + k) = s.setColorBright .fg k ∧
    sgrSimple s ↑(100 + k) = s.setColorBright .bg k := by
  have : k = 0 ∨ k = 1 ∨ k = 2 ∨ k = 3 ∨ k = 4 ∨ k = 5 ∨ k = 6 ∨ k = 7 := by omega
  rcases this with rfl | rfl | rfl | rfl | rfl | rfl | rfl | rfl <;> exact ⟨rfl, rfl, rfl, rfl⟩

theorem simple_color (a : AStyle) {k : Nat} (h : k < 8) :
    Sgr.simple a ↑(30 + k) = a.setColor .fg (.idx k) ∧
    Sgr.simple a ↑(40 + k) = a.setColor .bg (.idx k) ∧
    Sgr.simple a ↑(90 + k) = a.setColor .fg (.bright k) ∧
    Sgr.simple a ↑(100 + k) = a.setColor .bg (.bright k) := by
  have : k = 0 ∨ k = 1 ∨ k = 2 ∨ k = 3 ∨ k = 4 ∨ k = 5 ∨ k = 6 ∨ k = 7 := by omega
  rcases this with rfl | rfl | rfl | rfl | rfl | rfl | rfl | rfl <;> exact ⟨rfl, rfl, rfl, rfl⟩

theorem sgrSimple_cases {Q : Style → Prop} (s : Style) (p : Int) (reset : Q Style.default)
    (on : ∀ i, Q (s.setMode i)) (off : ∀ i, Q (s.resetMode i))
    (off2 : ∀ i j, Q ((s.resetMode i).resetMode j)) (c256 : ∀ c n, Q (s.setColor256 c n))
    (bright : ∀ c n, Q (s.setColorBright c n)) (dflt : ∀ c, Q (s.setColorDefault c)) (same : Q s) :
    Q (sgrSimple s p) := by
  have ite {c : Prop} [Decidable c] {a b : Style} (ha : Q a) (hb : Q b) : Q (if c then a else b) :=
    ite_cases (fun _ => ha) fun _ => hb
  unfold sgrSimple
  -- in the order of the cascade: 0, 1–5, 6, 7, 8, 9, 21, 22, 23, 24, 25, 27, 28, 29, 51, 52, 53, 54,
  -- 55, 30–37, 39, 40–47, 49, 90–97, 100–107
  exact ite reset <| ite (on _) <| ite (on _) <| ite (on _) <| ite (on _) <| ite (on _) <|
    ite (on _) <| ite (off2 _ _) <| ite (off _) <| ite (off2 _ _) <| ite (off2 _ _) <| ite (off _) <|
    ite (off _) <| ite (off _) <| ite (on _) <| ite (on _) <| ite (on _) <| ite (off2 _ _) <|
    ite (off _) <| ite (c256 _ _) <| ite (dflt _) <| ite (c256 _ _) <| ite (dflt _) <|
    ite (bright _ _) <| ite (bright _ _) same

end Lemmas

theorem sgrSimple_refines (s : Style) (p : Int) : abs (sgrSimple s p) = Sgr.simple (abs s) p := by
  -- in the order of `Sgr.simple` (switch on, switch off, colours), which is not that of `sgrSimple`
  -- (numeric): a code is settled on both sides at once, so the order is immaterial
  by_cases h0 : p = 0; · subst h0; exact abs_default
  by_cases h1 : p = 1; · subst h1; exact abs_setMode s .bold
  by_cases h2 : p = 2; · subst h2; exact abs_setMode s .dim
  by_cases h3 : p = 3; · subst h3; exact abs_setMode s .italic
  by_cases h4 : p = 4; · subst h4; exact abs_setMode s .underline
  by_cases h5 : p = 5; · subst h5; exact abs_setMode s .blink
  by_cases h6 : p = 6; · subst h6; exact abs_setMode s .rapidBlink
  by_cases h7 : p = 7; · subst h7; exact abs_setMode s .reverse
  by_cases h8 : p = 8; · subst h8; exact abs_setMode s .invisible
  by_cases h9 : p = 9; · subst h9; exact abs_setMode s .strike
  by_cases h21 : p = 21; · subst h21; exact abs_setMode s .doubleUnderline
  by_cases h51 : p = 51; · subst h51; exact abs_setMode s .framed
  by_cases h52 : p = 52; · subst h52; exact abs_setMode s .encircled
  by_cases h53 : p = 53; · subst h53; exact abs_setMode s .overline
  by_cases h22 : p = 22; · subst h22; exact abs_resetMode2 s .bold .dim
  by_cases h23 : p = 23; · subst h23; exact abs_resetMode s .italic
  by_cases h24 : p = 24; · subst h24; exact abs_resetMode2 s .underline .doubleUnderline
  by_cases h25 : p = 25; · subst h25; exact abs_resetMode2 s .blink .rapidBlink
  by_cases h27 : p = 27; · subst h27; exact abs_resetMode s .reverse
  by_cases h28 : p = 28; · subst h28; exact abs_resetMode s .invisible
  by_cases h29 : p = 29; · subst h29; exact abs_resetMode s .strike
  by_cases h54 : p = 54; · subst h54; exact abs_resetMode2 s .framed .encircled
  by_cases h55 : p = 55; · subst h55; exact abs_resetMode s .overline
  by_cases h39 : p = 39; · subst h39; exact abs_setColorDefault s .fg
  by_cases h49 : p = 49; · subst h49; exact abs_setColorDefault s .bg
  -- a code in one of the four colour ranges is `base + k` with `k < 8`
  have range (base : Nat) (h : (base : Int) ≤ p ∧ p ≤ base + 7) :
      ∃ k : Nat, k < 8 ∧ p = ↑(base + k) := ⟨(p - base).toNat, by omega, by omega⟩
  by_cases ha : 30 ≤ p ∧ p ≤ 37
  · obtain ⟨k, hk, rfl⟩ := range 30 ha
    rw [(sgrSimple_color s hk).1, (simple_color _ hk).1, abs_setColor256 s .fg (by omega),
      Int.toNat_natCast]
  by_cases hb : 40 ≤ p ∧ p ≤ 47
  · obtain ⟨k, hk, rfl⟩ := range 40 hb
    rw [(sgrSimple_color s hk).2.1, (simple_color _ hk).2.1, abs_setColor256 s .bg (by omega),
      Int.toNat_natCast]
  by_cases hc : 90 ≤ p ∧ p ≤ 97
  · obtain ⟨k, hk, rfl⟩ := range 90 hc
    rw [(sgrSimple_color s hk).2.2.1, (simple_color _ hk).2.2.1, abs_setColorBright s .fg (by omega),
      Int.toNat_natCast]
  by_cases hd : 100 ≤ p ∧ p ≤ 107
  · obtain ⟨k, hk, rfl⟩ := range 100 hd
    rw [(sgrSimple_color s hk).2.2.2, (simple_color _ hk).2.2.2, abs_setColorBright s .bg (by omega),
      Int.toNat_natCast]
  -- every condition of both cascades is now refuted by a hypothesis, except `1 ≤ p ∧ p ≤ 5`
  unfold sgrSimple Sgr.simple
  simp only [h0, h1, h2, h3, h4, h5, h6, h7, h8, h9, h21, h51, h52, h53, h22, h23, h24, h25, h27, h28,
    h29, h54, h55, h39, h49, ha, hb, hc, hd, if_false]
  rw [if_neg (by omega)]

theorem sgrSimple_valid {s : Style} (h : Style.valid s) (p : Int) : Style.valid (sgrSimple s p) :=
  sgrSimple_cases s p valid_default (fun i => valid_writeMode h i true)
    (fun i => valid_writeMode h i false) (fun i j => valid_writeMode (valid_writeMode h i false) j false)
    (fun c n => valid_setter h (.c256 (c := c) n)) (fun c n => valid_setter h (.bright (c := c) n))
    (fun c => valid_setter h (.dflt (c := c))) h

/-! ## Refinement: whole parameter lists -/

namespace Lemmas

theorem refines_valid (s : Style) (ps : List Int) :
    abs (applySGR s ps) = Sgr.fold (abs s) ps ∧ (Style.valid s → Style.valid (applySGR s ps)) := by
  fun_induction applySGR s ps with
  | case1 s => exact ⟨by rw [Sgr.fold], id⟩  -- `[]`
  | case2 s p hp c n tl ih =>  -- `38|48;5;n`
    rw [Sgr.fold, if_pos hp]
    simp only [Sgr.extended, if_true, List.drop_succ_cons, List.drop_zero]
    rw [abs_setColor256 _ _ (by omega)] at ih
    exact ⟨ih.1, fun hv => ih.2 (valid_setter hv (.c256 _))⟩
  | case3 s p hp c n g b tl _ ih =>  -- `38|48;2;r;g;b`
    rw [Sgr.fold, if_pos hp]
    simp only [Sgr.extended, show ¬ ((2 : Int) = 5) by decide, if_false, if_true, List.drop_succ_cons, List.drop_zero]
    rw [abs_setColorRGB] at ih
    exact ⟨ih.1, fun hv => ih.2 (valid_setter hv (.rgb _ _ _))⟩
  | case4 s p hp n tl0 hno _ ih =>  -- `38|48;2` truncated: the `38|48` is dropped
    rw [Sgr.fold, if_pos hp]
    have : Sgr.extended (2 :: n :: tl0) = none := by
      match tl0, hno with
      | [], _ => rfl
      | [g], _ => rfl
      | g :: b :: tl', hno => exact absurd rfl (hno g b tl')
    simpa [this] using ih
  | case5 s p hp a n tl h5 h2 ih =>  -- another selector than `5`, `2`
    rw [Sgr.fold, if_pos hp]
    simpa [Sgr.extended, h5, h2] using ih
  | case6 s p hp a ih =>  -- one trailing parameter
    rw [Sgr.fold, if_pos hp]
    simpa [Sgr.extended] using ih
  | case7 s p hp =>  -- bare `38|48` at the end
    rw [Sgr.fold, if_pos hp]
    simp [Sgr.extended, Sgr.fold]
  | case8 s p rest hp ih =>  -- a simple code
    rw [Sgr.fold, if_neg hp]
    rw [sgrSimple_refines] at ih
    exact ⟨ih.1, fun hv => ih.2 (sgrSimple_valid hv p)⟩

end Lemmas

/-- the packed style after any parameter list decodes to the specification's left-to-right fold;
    no hypothesis on `s` -/
theorem packed_refines (s : Style) (ps : List Int) :
    abs (applySGR s ps) = Sgr.fold (abs s) ps :=
  (refines_valid s ps).1

theorem applySGR_valid {s : Style} (h : Style.valid s) (ps : List Int) :
    Style.valid (applySGR s ps) :=
  (refines_valid s ps).2 h

theorem reachable_valid (pss : List (List Int)) :
    Style.valid (pss.foldl applySGR Style.default) := by
  have : ∀ s, Style.valid s → Style.valid (pss.foldl applySGR s) := by
    induction pss with
    | nil => intro s h; exact h
    | cons ps t ih => intro s h; exact ih _ (applySGR_valid h ps)
  exact this _ valid_default

/-- the terminal starts in a valid style (both buffers) -/
theorem init_style_valid (pol : WidePolicy) (w h : Nat) :
    Style.valid (Term.init pol w h).main.sty ∧ Style.valid (Term.init pol w h).alt.sty :=
  ⟨valid_default, valid_default⟩

/-! ## `abs` is injective on valid styles -/

/-- all three words agree: `ul` is never written by SGR, so validity fixes it -/
theorem abs_injective {s₁ s₂ : Style} (h₁ : Style.valid s₁) (h₂ : Style.valid s₂)
    (h : abs s₁ = abs s₂) : s₁ = s₂ := by
  obtain ⟨f1, b1, z1, u1⟩ := (valid_iff s₁).1 h₁
  obtain ⟨f2, b2, z2, u2⟩ := (valid_iff s₂).1 h₂
  obtain ⟨hfg, hbg, hm⟩ := AStyle.mk.inj ((abs_eq s₁).symm.trans (h.trans (abs_eq s₂)))
  -- the view has the decoded colours (`decode` is injective on valid views), the modes, and two
  -- fields that validity fixes
  refine sview_injective (SView.ext (decode_inj f1 f2 hfg) (decode_inj b1 b2 hbg) (funext fun i => ?_)
    (z1.trans z2.symm) (u1.trans u2.symm))
  by_cases hi : i < 13
  · simpa [Mode.bit_ofBit i hi] using congrFun hm (Mode.ofBit i)
  · exact (setMode_out_of_range s₁ i (by omega)).2.2.trans
      (setMode_out_of_range s₂ i (by omega)).2.2.symm

theorem abs_injective_words {s₁ s₂ : Style} (h₁ : Style.valid s₁) (h₂ : Style.valid s₂)
    (h : abs s₁ = abs s₂) : s₁.fg = s₂.fg ∧ s₁.bg = s₂.bg := by
  rw [abs_injective h₁ h₂ h]; exact ⟨rfl, rfl⟩

/-! ## Black-ish foregrounds and backgrounds; a colour setter leaves the modes alone -/

/-- default (39), palette black (30), bright black (90) and RGB black (38;2;0;0;0), set on top of
    any style, decode to four different abstract colours -/
theorem blackish_abs (s : Style) :
    (abs (applySGR s [39])).fg = .dflt ∧ (abs (applySGR s [30])).fg = .idx 0 ∧
    (abs (applySGR s [90])).fg = .bright 0 ∧ (abs (applySGR s [38, 2, 0, 0, 0])).fg = .rgb 0 0 0 := by
  simp [packed_refines, Sgr.fold, Sgr.simple, Sgr.extended, AStyle.setColor]

theorem blackish_packed_distinct (s : Style) :
    (applySGR s [39]).fg ≠ (applySGR s [30]).fg ∧ (applySGR s [39]).fg ≠ (applySGR s [90]).fg ∧
    (applySGR s [39]).fg ≠ (applySGR s [38, 2, 0, 0, 0]).fg ∧
    (applySGR s [30]).fg ≠ (applySGR s [90]).fg ∧
    (applySGR s [30]).fg ≠ (applySGR s [38, 2, 0, 0, 0]).fg ∧
    (applySGR s [90]).fg ≠ (applySGR s [38, 2, 0, 0, 0]).fg := by
  obtain ⟨h1, h2, h3, h4⟩ := blackish_abs s
  have k : ∀ a b : Style, (abs a).fg ≠ (abs b).fg → a.fg ≠ b.fg := by
    intro a b h e; exact h (congrArg absColor e)
  refine ⟨k _ _ ?_, k _ _ ?_, k _ _ ?_, k _ _ ?_, k _ _ ?_, k _ _ ?_⟩ <;>
    simp [h1, h2, h3, h4]

theorem blackish_abs_bg (s : Style) :
    (abs (applySGR s [49])).bg = .dflt ∧ (abs (applySGR s [40])).bg = .idx 0 ∧
    (abs (applySGR s [100])).bg = .bright 0 ∧ (abs (applySGR s [48, 2, 0, 0, 0])).bg = .rgb 0 0 0 := by
  simp [packed_refines, Sgr.fold, Sgr.simple, Sgr.extended, AStyle.setColor]

/-- on the initial style the four packed words are exactly `0x100`, `0`, `0x200`, `0x80000000` -/
example :
    (Style.default.setColorDefault .fg).fg = 0x100#32 ∧ (Style.default.setColor256 .fg 0).fg = 0x0#32 ∧
    (Style.default.setColorBright .fg 0).fg = 0x200#32 ∧
    (Style.default.setColorRGB .fg 0 0 0).fg = 0x80000000#32 := by decide

theorem setColor_testMode (s : Style) (c : Comp) (n r g b : Int) (j : Nat) :
    (s.setColor256 c n).testMode j = s.testMode j ∧
    (s.setColorBright c n).testMode j = s.testMode j ∧
    (s.setColorRGB c r g b).testMode j = s.testMode j ∧
    (s.setColorDefault c).testMode j = s.testMode j := by
  have h {s' : Style} : Setter s c s' → s'.testMode j = s.testMode j :=
    setter_cases (Q := fun s' => s'.testMode j = s.testMode j) rfl fun _ ha => testMode_setColorVal s c ha j
  exact ⟨h (.c256 n), h (.bright n), h (.rgb r g b), h .dflt⟩

theorem setColorVal_other (s : Style) (v : BitVec 32) :
    (s.setColorVal .fg v).bg = s.bg ∧ (s.setColorVal .fg v).ul = s.ul ∧
    (s.setColorVal .bg v).fg = s.fg ∧ (s.setColorVal .bg v).ul = s.ul :=
  ⟨rfl, rfl, rfl, rfl⟩

/-! ## Dispatch of `CSI … m`, and the style of written / blanked cells -/

namespace Lemmas

/-- the `m` leaf of the dispatch, by evaluation (the final byte is concrete) -/
theorem csiPlain_m (t : Term) (ps : List Int) : t.csiPlain ps 0x6d =
    (t.setScr { t.scr with sty := applySGR t.scr.sty (match ps with | [] => [0] | _ => ps) },
      [.style (applySGR t.scr.sty (match ps with | [] => [0] | _ => ps))]) := rfl

end Lemmas

/-- `CSI ps m`: the active screen's style becomes the fold of the parameters (`[0]` when there are
    none), exactly that style is reported, and nothing else changes -/
theorem sgr_dispatch (t : Term) (ps : List Int) :
    let st := applySGR t.scr.sty (if ps = [] then [0] else ps)
    let r := t.csiPlain ps 0x6d
    r.2 = [Ev.style st] ∧ r.1.scr = { t.scr with sty := st } ∧ r.1.onAlt = t.onAlt ∧
    (if t.onAlt then r.1.main = t.main else r.1.alt = t.alt) ∧
    r.1.pol = t.pol ∧ r.1.vflags = t.vflags ∧ r.1.vints = t.vints ∧ r.1.vstrs = t.vstrs ∧
    r.1.kmain = t.kmain ∧ r.1.kalt = t.kalt := by
  intro st r
  have e : r = (t.setScr { t.scr with sty := st }, [Ev.style st]) := by
    show t.csiPlain ps 0x6d = _
    rw [csiPlain_m]
    cases ps <;> rfl
  rw [e]
  exact ⟨rfl, Term.scr_setScr _ _, t.setScr_onAlt _, t.setScr_inactive _, t.setScr_pol _,
    t.setScr_vflags _, t.setScr_vints _, t.setScr_vstrs _, t.setScr_kmain _, t.setScr_kalt _⟩

theorem sgr_dispatch_apply (cw : Nat → Nat) (t : Term) (ps : List Int) :
    Term.apply cw t (.csi 0 ps true 0x6d) = t.csiPlain ps 0x6d := by
  simp [Term.apply, Term.csi]

theorem sgr_dispatch_abs (cw : Nat → Nat) (t : Term) (ps : List Int) :
    let r := Term.apply cw t (.csi 0 ps true 0x6d)
    r.2 = [Ev.style r.1.scr.sty] ∧
    abs r.1.scr.sty = Sgr.fold (abs t.scr.sty) (if ps = [] then [0] else ps) ∧
    (Style.valid t.scr.sty → Style.valid r.1.scr.sty) := by
  intro r
  have e : r = t.csiPlain ps 0x6d := sgr_dispatch_apply cw t ps
  obtain ⟨h1, h2, _⟩ := sgr_dispatch t ps
  rw [e, h1, h2]
  exact ⟨rfl, packed_refines _ _, fun h => applySGR_valid h _⟩

/-- written cells: after `Row.put r x text w st` every cell of `[x, x + max w 1)` inside the row is
    the character's head or a continuation cell carrying exactly `st`, whatever `r` held there -/
theorem written_cell (r : Row) (x : Nat) (text : Bytes) (w : Nat) (st : Style) (i : Nat)
    (hx : x ≤ i) (hi : i < x + max w 1) (hr : i < r.length) :
    (r.put x text w st)[i]? = some (if i = x then ⟨.ch text w, st⟩ else ⟨.cont, st⟩) :=
  (getElem?_put r x text w st i).trans (if_pos ⟨hx, hi, hr⟩)

theorem written_style (r : Row) (x : Nat) (text : Bytes) (w : Nat) (st : Style) (i : Nat) (c : Cell)
    (hx : x ≤ i) (hi : i < x + max w 1) (hc : (r.put x text w st)[i]? = some c) : c.sty = st := by
  have hr : i < r.length := by
    have := (List.getElem?_eq_some_iff.mp hc).1
    rwa [put_length] at this
  rw [written_cell r x text w st i hx hi hr] at hc
  injection hc with hc; subst hc
  split <;> rfl

/-- blanked cells: after `Row.erase r a b st` every cell of `[a, b)` inside the row is a blank
    carrying exactly `st` -/
theorem erased_cell (r : Row) (a b : Nat) (st : Style) (i : Nat)
    (ha : a ≤ i) (hb : i < b) (hr : i < r.length) :
    (r.erase a b st)[i]? = some (blank st) := by
  unfold Row.erase
  simp only []
  rw [if_neg (by omega), getElem?_blankRange,
    if_pos ⟨ha, by omega, by rw [blankStraddlers_length]; exact hr⟩]

theorem blank_style (st : Style) : (blank st).sty = st ∧ (blank st).g = .ch [0x20] 1 := ⟨rfl, rfl⟩

/-- screen level: `eraseRegion` (EL / ED / ECH) blanks every addressed cell in the screen's current
    style -/
theorem eraseRegion_cell (s : Scr) (x1 y1 x2 y2 x y : Nat) (hy : y1 ≤ y ∧ y < y2)
    (hx : x1 ≤ x ∧ x < x2) (hrow : x < (s.row y).length) :
    ((s.eraseRegion x1 y1 x2 y2).row y)[x]? = some (blank s.sty) := by
  rw [eraseRegion_row, if_pos hy]
  exact erased_cell _ _ _ _ _ hx.1 hx.2 hrow

/-! ## The left-to-right fold reading -/

theorem sgr_reset (s : Style) (ps : List Int) : applySGR s (0 :: ps) = applySGR Style.default ps := by
  rw [applySGR]; simp [sgrSimple]

/-- `ps` does not end inside an extended-colour form: scanning it left to right, every `38`/`48`
    sees enough parameters to decide its own fate (`;5;n`, `;2;r;g;b`, or a selector other than
    `5`/`2`, which just drops the `38`/`48`). -/
def Sgr.closed : List Int → Bool
  | [] => true
  | p :: rest =>
    if p = 38 ∨ p = 48 then
      match rest with
      | a :: n :: tl =>
        if a = 5 then Sgr.closed tl
        else if a = 2 then
          match tl with
          | _ :: _ :: tl' => Sgr.closed tl'
          | _ => false
        else Sgr.closed (a :: n :: tl)
      | [a] => if a = 5 ∨ a = 2 then false else Sgr.closed [a]
      | [] => false
    else Sgr.closed rest
termination_by ps => ps.length
decreasing_by all_goals (simp_wf; try omega)

theorem sgr_append (s : Style) (ps qs : List Int) (h : Sgr.closed ps = true) :
    applySGR s (ps ++ qs) = applySGR (applySGR s ps) qs := by
  fun_induction applySGR s ps with
  | case1 s => rfl  -- `[]`
  | case2 s p hp c n tl ih =>  -- `38|48;5;n`
    rw [Sgr.closed.eq_def] at h; simp only [hp, if_true] at h
    rw [List.cons_append, List.cons_append, List.cons_append, applySGR, if_pos hp]
    exact ih (by simpa using h)
  | case3 s p hp c n g b tl h25 ih =>  -- `38|48;2;r;g;b`
    rw [Sgr.closed.eq_def] at h; simp only [hp, if_true] at h
    simp only [List.cons_append]
    rw [applySGR, if_pos hp]
    simp only [h25, if_false, if_true]
    exact ih (by simpa using h)
  | case4 s p hp n tl0 hno _ ih =>  -- `38|48;2` truncated
    rw [Sgr.closed.eq_def] at h; simp only [hp, if_true] at h
    exfalso
    match tl0, hno, h with
    | [], _, h => simp at h
    | [g], _, h => simp at h
    | g :: b :: tl', hno, _ => exact hno g b tl' rfl
  | case5 s p hp a n tl h5 h2 ih =>  -- another selector
    rw [Sgr.closed.eq_def] at h; simp only [hp, if_true] at h
    simp only [h5, h2, if_false] at h
    simp only [List.cons_append] at ih ⊢
    rw [applySGR, if_pos hp]
    simp only [h5, h2, if_false]
    exact ih h
  | case6 s p hp a ih =>  -- one trailing parameter
    rw [Sgr.closed.eq_def] at h; simp only [hp, if_true] at h
    by_cases ha : a = 5 ∨ a = 2
    · simp [ha] at h
    · simp only [ha, if_false] at h
      rw [← ih h]
      cases qs with
      | nil => show applySGR s [p, a] = applySGR s [a]; rw [applySGR, if_pos hp]
      | cons q qs' =>
        show applySGR s (p :: a :: q :: qs') = applySGR s (a :: q :: qs')
        rw [applySGR, if_pos hp]
        simp only [show ¬ a = 5 from fun e => ha (.inl e), show ¬ a = 2 from fun e => ha (.inr e), if_false]
  | case7 s p hp =>  -- bare `38|48`
    rw [Sgr.closed.eq_def] at h; simp only [hp, if_true] at h
    simp at h
  | case8 s p rest hp ih =>  -- a simple code
    rw [Sgr.closed.eq_def] at h; simp only [hp, if_false] at h
    rw [List.cons_append, applySGR, if_neg hp]
    exact ih h

theorem applySGR_single (s : Style) (p : Int) (hp : ¬ (p = 38 ∨ p = 48)) :
    applySGR s [p] = sgrSimple s p := by
  rw [applySGR, if_neg hp, applySGR]

/-- without `38`/`48` the effect is literally `List.foldl` of the one-code step -/
theorem sgr_foldl (s : Style) (ps : List Int) (h : ∀ p ∈ ps, ¬ (p = 38 ∨ p = 48)) :
    applySGR s ps = ps.foldl sgrSimple s := by
  induction ps generalizing s with
  | nil => rw [applySGR]; rfl
  | cons p rest ih =>
    rw [applySGR, if_neg (h p (by simp)), List.foldl_cons]
    exact ih _ (fun q hq => h q (by simp [hq]))

theorem sgr_zero (s : Style) : applySGR s [0] = Style.default := by
  rw [sgr_reset, applySGR]

/-! ### the codes that `ANSIEscape` emits for the modes -/

/-- the code for mode bit `i` (`modeToSGRCode`) switches on exactly mode `i`: every other mode and
    both colours keep their value -/
theorem mode_code_roundtrip (s : Style) (i c : Nat) (h : modeSGRCode i = some c) (j : Nat) :
    (applySGR s [(c : Int)]).testMode j = (s.testMode j || decide (j = i)) ∧
    absColor (applySGR s [(c : Int)]).fg = absColor s.fg ∧
    absColor (applySGR s [(c : Int)]).bg = absColor s.bg := by
  have key : i < 13 ∧ applySGR s [(c : Int)] = s.setMode i := by
    unfold modeSGRCode at h
    split at h <;> cases h <;> exact ⟨by decide, applySGR_single s _ (by decide)⟩
  rw [key.2]
  exact ⟨setMode_testMode s i j key.1, (setMode_absColor s i).1, (setMode_absColor s i).2⟩

/-! ## End to end: the rendition set by `CSI … m` is the one later cells carry -/

namespace Lemmas

theorem inv_facts {s : Scr} (h : s.inv = true) :
    s.cy < s.h ∧ s.cx < s.w ∧ s.grid.length = s.h ∧ (s.row s.cy).length = s.w := by
  have g := geo_of_inv h
  exact ⟨g.cy_lt, g.cx_lt, inv_glen h, (inv_row h g.cy_lt).1⟩

/-- `CSI ps m` and then a printed character: `Scr.put` on the screen with the new rendition -/
theorem sgr_then_text_scr (cw : Nat → Nat) (t : Term) (ps : List Int) (stored : Bytes) (cp : Nat) :
    (Term.apply cw (Term.apply cw t (.csi 0 ps true 0x6d)).1 (.text stored cp)).1.scr =
      Scr.put t.pol { t.scr with sty := applySGR t.scr.sty (if ps = [] then [0] else ps) } stored (cw cp) := by
  obtain ⟨_, h1, _, _, hp, _⟩ := sgr_dispatch t ps
  rw [sgr_dispatch_apply, ← h1, ← hp]
  simp only [Term.apply]; rw [Term.scr_setScr]

end Lemmas

/-- `CSI ps m` followed by `CSI 2 K` (erase line): every cell of the cursor row is a blank whose
    style decodes to the fold of `ps` over the previous rendition -/
theorem sgr_then_erase_line (t : Term) (ps : List Int) (x : Nat) (hinv : t.scr.inv = true)
    (hx : x < t.scr.w) :
    let st := applySGR t.scr.sty (if ps = [] then [0] else ps)
    let t1 := (t.csiPlain ps 0x6d).1
    let t2 := (t1.csiPlain [2] 0x4b).1
    (t2.scr.row t.scr.cy)[x]? = some (blank st) ∧
    abs st = Sgr.fold (abs t.scr.sty) (if ps = [] then [0] else ps) := by
  intro st t1 t2
  refine ⟨?_, packed_refines _ _⟩
  obtain ⟨hcy, hcx, hg, hrow⟩ := inv_facts hinv
  have h1 : t1.scr = { t.scr with sty := st } := (sgr_dispatch t ps).2.1
  have h2 : t2.scr = t1.scr.eraseRegion 0 t.scr.cy t.scr.w (t.scr.cy + 1) := by
    show (t1.setScr (t1.scr.eraseRegionI 0 t1.scr.cy t1.scr.w (t1.scr.cy + 1))).scr = _
    rw [Term.scr_setScr, h1]
    exact eraseRegionI_nat _ 0 t.scr.cy t.scr.w (t.scr.cy + 1)
      ⟨Nat.zero_le _, Nat.le_refl _, Nat.le_succ _, hcy⟩
  rw [h2, h1]
  have := eraseRegion_cell { t.scr with sty := st } 0 t.scr.cy t.scr.w (t.scr.cy + 1) x t.scr.cy
    ⟨Nat.le_refl _, Nat.lt_succ_self _⟩ ⟨Nat.zero_le _, hx⟩
    (by show x < (t.scr.row t.scr.cy).length; omega)
  exact this

/-- PARTIAL (screen level; the row-level statement `written_cell` is complete).
    Full statement: for every screen satisfying `Scr.inv`, every policy, text and width, every cell
    that `Scr.put` writes (after a possible line wrap / scroll, after the U+FFFD substitution for a
    too-wide character, and under the `keep` policy after the kept wide character) carries
    `s.sty`. Proved here: a character of width `w0 ≥ 1` printed where it fits strictly inside the
    line and not on the second half of a wide character — its cells carry exactly the screen's
    current style, whatever was there before. Missing: the wrap, too-wide and `putKeep` branches. -/
theorem put_cell_partial (pol : WidePolicy) (s : Scr) (text : Bytes) (w0 : Nat) (hw : 1 ≤ w0)
    (hfit : s.cx + w0 < s.w) (hk : contAt (s.row s.cy) s.cx = false)
    (hcy : s.cy < s.grid.length) (hrow : (s.row s.cy).length = s.w) (i : Nat)
    (hi : s.cx ≤ i ∧ i < s.cx + w0) :
    ((s.put pol text w0).row s.cy)[i]? =
      some (if i = s.cx then ⟨.ch text w0, s.sty⟩ else ⟨.cont, s.sty⟩) ∧
    (s.put pol text w0).sty = s.sty := by
  have ew := effW_normal (s := s) (w0 := w0) (by omega)
  have et := effText_normal (s := s) (w0 := w0) (by omega) text
  rw [Nat.max_eq_left hw] at ew
  rw [put_of_fit pol s text w0 (by rw [ew]; omega) (.inr hk), ew, et,
    putFinish_lt (s := s.setRow _ _) hfit]
  refine ⟨?_, rfl⟩
  have : (({ s.setRow s.cy ((s.row s.cy).put s.cx text w0 s.sty) with cx := s.cx + w0 } : Scr).row s.cy) =
      (s.row s.cy).put s.cx text w0 s.sty :=
    (row_setRow s s.cy _ s.cy).trans (if_pos ⟨rfl, hcy⟩)
  rw [this]
  exact written_cell _ _ _ _ _ _ hi.1 (by omega) (by omega)

/-- PARTIAL in the same way as `put_cell_partial` (no wrap, not on a continuation cell):
    `CSI ps m` followed by a printed character — the character's cells carry the style that
    decodes to the fold of `ps` over the previous rendition, and it stays the current style -/
theorem sgr_then_text_partial (cw : Nat → Nat) (t : Term) (ps : List Int) (stored : Bytes) (cp : Nat)
    (hinv : t.scr.inv = true) (hw : 1 ≤ cw cp) (hfit : t.scr.cx + cw cp < t.scr.w)
    (hk : contAt (t.scr.row t.scr.cy) t.scr.cx = false) (i : Nat)
    (hi : t.scr.cx ≤ i ∧ i < t.scr.cx + cw cp) :
    let st := applySGR t.scr.sty (if ps = [] then [0] else ps)
    let t1 := (Term.apply cw t (.csi 0 ps true 0x6d)).1
    let t2 := (Term.apply cw t1 (.text stored cp)).1
    (t2.scr.row t.scr.cy)[i]? =
      some (if i = t.scr.cx then ⟨.ch stored (cw cp), st⟩ else ⟨.cont, st⟩) ∧
    t2.scr.sty = st ∧
    abs st = Sgr.fold (abs t.scr.sty) (if ps = [] then [0] else ps) := by
  intro st t1 t2
  obtain ⟨hcy, hcx, hg, hrow⟩ := inv_facts hinv
  have := put_cell_partial t.pol { t.scr with sty := st } stored (cw cp) hw hfit hk
    (by show t.scr.cy < t.scr.grid.length; omega) hrow i hi
  rw [← sgr_then_text_scr cw t ps stored cp] at this
  exact ⟨this.1, this.2, packed_refines _ _⟩

/-! ## No foreign style ever appears: provenance of every cell after a write -/

namespace Lemmas

def RowProv (st : Style) (r r' : Row) : Prop := ∀ c ∈ r', c.sty = st ∨ c ∈ r

theorem prov_of_mem {st : Style} {r r' : Row} {text : Bytes} {w : Nat}
    (h : ∀ c ∈ r', c ∈ r ∨ c = blank st ∨ c ∈ charCells text w st) : RowProv st r r' := by
  intro c hc
  rcases h c hc with h | h | h
  · exact Or.inr h
  · exact Or.inl (h ▸ rfl)
  · exact Or.inl ((mem_charCells h).elim (· ▸ rfl) (· ▸ rfl))

theorem prov_put (r : Row) (x : Nat) (text : Bytes) (w : Nat) (st : Style) :
    RowProv st r (r.put x text w st) := prov_of_mem fun _ => mem_put

theorem prov_putKeep (r : Row) (x : Nat) (text : Bytes) (w : Nat) (st : Style) :
    RowProv st r (r.putKeep x text w st) := prov_of_mem fun _ => mem_putKeep

theorem prov_fixTail (r : Row) (st : Style) : RowProv st r (fixTail r st) :=
  fun _ hc => (mem_fixTail hc).elim Or.inr fun e => Or.inl (e ▸ rfl)

theorem sty_of_mem_blankRow {w : Nat} {st : Style} {c : Cell} (h : c ∈ blankRow w st) :
    c.sty = st := by
  unfold blankRow at h; rw [(List.mem_replicate.mp h).2]; rfl

end Lemmas

/-- written cells at screen level, all branches (wrap, scroll, too-wide substitution, both wide
    policies): after printing a character, every cell of the grid either carries the screen's
    current style or is a cell of the screen before the write, and the current style is unchanged -/
theorem put_style_provenance (pol : WidePolicy) (s : Scr) (text : Bytes) (w0 : Nat) :
    (s.put pol text w0).sty = s.sty ∧
    ∀ r' ∈ (s.put pol text w0).grid, ∀ c ∈ r', c.sty = s.sty ∨ ∃ r ∈ s.grid, c ∈ r := by
  refine ⟨(frame_put pol s text w0).sty, fun r' hr' c hc => ?_⟩
  have hp := s.putPre_wrapped (Scr.effW s w0)
  rcases put_grid_mem pol s text w0 hr' with h | h | h
  · exact .inr ⟨r', h, hc⟩
  · exact .inl (sty_of_mem_blankRow (h ▸ hc))
  · -- the written row: a cell of it is new, or a cell of the row written on, which is a row of
    -- the screen before the write or a blank row that the early wrap scrolled in
    have hrp : RowProv (s.putPre (Scr.effW s w0)).sty
        ((s.putPre (Scr.effW s w0)).row (s.putPre (Scr.effW s w0)).cy) r' := by
      rw [h]; unfold Scr.putRow; split
      · exact prov_putKeep _ _ _ _ _
      · exact prov_put _ _ _ _ _
    rcases hrp c hc with h1 | h1
    · exact .inl (h1.trans hp.shift.sty)
    · by_cases hy : (s.putPre (Scr.effW s w0)).cy < (s.putPre (Scr.effW s w0)).grid.length
      · exact (hp.shift.mem (row_mem _ _ hy)).elim (fun hm => .inr ⟨_, hm, h1⟩)
          fun e => .inl (sty_of_mem_blankRow (e ▸ h1))
      · rw [row_nil (Nat.not_lt.1 hy)] at h1; cases h1

/-- `CSI ps m` followed by any printed character, any screen state: afterwards the current style
    is still the fold of `ps`, and every cell on the screen either carries it or was there before -/
theorem sgr_then_text_provenance (cw : Nat → Nat) (t : Term) (ps : List Int) (stored : Bytes)
    (cp : Nat) :
    let st := applySGR t.scr.sty (if ps = [] then [0] else ps)
    let t1 := (Term.apply cw t (.csi 0 ps true 0x6d)).1
    let t2 := (Term.apply cw t1 (.text stored cp)).1
    t2.scr.sty = st ∧ abs st = Sgr.fold (abs t.scr.sty) (if ps = [] then [0] else ps) ∧
    ∀ r' ∈ t2.scr.grid, ∀ c ∈ r', c.sty = st ∨ ∃ r ∈ t.scr.grid, c ∈ r := by
  intro st t1 t2
  have := put_style_provenance t.pol { t.scr with sty := st } stored (cw cp)
  rw [← sgr_then_text_scr cw t ps stored cp] at this
  exact ⟨this.1, packed_refines _ _, this.2⟩

/-! ## Non-vacuity and sanity examples -/

example : Style.valid Style.default := by decide

/-- a non-trivial packed style (bold + underline + framed, palette 196 on RGB) is valid -/
example : Style.valid
    ((((Style.default.setMode 0).setMode 3).setMode 10).setColor256 .fg 196 |>.setColorRGB .bg 10 20 300) := by
  decide

/-- the specification evaluated on a mixed list: modes, both extended forms, a truncated form
    (`38;2;7` at the end: the `38` is dropped, `2` is "dim", `7` is "reverse") -/
example :
    let a := Sgr.fold AStyle.default [1, 38, 5, 196, 48, 2, 10, 20, 300, 4, 38, 2, 7]
    a.fg = .idx 196 ∧ a.bg = .rgb 10 20 44 ∧ a.modes .bold = true ∧ a.modes .underline = true ∧
    a.modes .dim = true ∧ a.modes .reverse = true ∧ a.modes .italic = false := by
  simp [Sgr.fold, Sgr.extended, Sgr.simple, AStyle.setColor, AStyle.on, AStyle.default]

/-- … and so does the packed implementation (through `packed_refines`) -/
example :
    let s := applySGR Style.default [1, 38, 5, 196, 48, 2, 10, 20, 300, 4, 38, 2, 7]
    (abs s).fg = .idx 196 ∧ (abs s).bg = .rgb 10 20 44 ∧ (abs s).modes .bold = true ∧
    (abs s).modes .italic = false ∧ Style.valid s := by
  intro s
  have h : (abs s).fg = .idx 196 ∧ (abs s).bg = .rgb 10 20 44 ∧ (abs s).modes .bold = true ∧
      (abs s).modes .italic = false := by
    simp [s, packed_refines, abs_default, Sgr.fold, Sgr.extended, Sgr.simple, AStyle.setColor,
      AStyle.on, AStyle.default]
  exact ⟨h.1, h.2.1, h.2.2.1, h.2.2.2, applySGR_valid valid_default _⟩

/-- validity is needed for injectivity: two unreachable words decode to the same colour -/
example : absColor 0x300#32 = absColor 0x308#32 ∧ (0x300#32 : BitVec 32) ≠ 0x308#32 ∧
    ¬ colValid 0x308#32 := by decide

example : Sgr.closed [1, 38, 5, 196, 48, 2, 1, 2, 3, 0] = true := by simp [Sgr.closed]
example : Sgr.closed [38, 7] = true := by simp [Sgr.closed]
example : Sgr.closed [1, 38] = false ∧ Sgr.closed [38, 5] = false ∧ Sgr.closed [48, 2, 1, 2] = false := by
  simp [Sgr.closed]

/-- the side condition of `sgr_append` cannot be dropped: cutting `38;5;1` after the `38` -/
example : applySGR Style.default ([38] ++ [5, 1]) ≠ applySGR (applySGR Style.default [38]) [5, 1] := by
  intro h
  have := congrArg (fun s => (abs s).fg) h
  simp [packed_refines, abs_default, Sgr.fold, Sgr.extended, Sgr.simple, AStyle.setColor, AStyle.on,
    AStyle.default] at this

/-- hypotheses of the end-to-end theorems are satisfiable -/
example : (Term.init .blank 4 2).scr.inv = true ∧ (0 : Nat) < (Term.init .blank 4 2).scr.w ∧
    contAt ((Term.init .blank 4 2).scr.row (Term.init .blank 4 2).scr.cy) (Term.init .blank 4 2).scr.cx = false ∧
    (Term.init .blank 4 2).scr.cx + 2 < (Term.init .blank 4 2).scr.w := by decide

/-- the thirteen abstract modes are exactly the Go mode constants, bit indices 0–12, each once -/
example : Mode.all.map Mode.bit = List.range 13 ∧
    Mode.all.map Mode.bit = [mBold, mDim, mItalic, mUnderline, mBlink, mReverse, mInvisible, mStrike,
      mOverline, mDoubleUnderline, mFramed, mEncircled, mRapidBlink] := by decide

end TM.C07

#print axioms TM.C07.sgrSimple_refines
#print axioms TM.C07.packed_refines
#print axioms TM.C07.applySGR_valid
#print axioms TM.C07.reachable_valid
#print axioms TM.C07.init_style_valid
#print axioms TM.C07.abs_injective
#print axioms TM.C07.abs_injective_words
#print axioms TM.C07.setMode_testMode
#print axioms TM.C07.resetMode_testMode
#print axioms TM.C07.setMode_out_of_range
#print axioms TM.C07.setMode_color_frame
#print axioms TM.C07.resetMode_color_frame
#print axioms TM.C07.setMode_absColor
#print axioms TM.C07.resetMode_absColor
#print axioms TM.C07.setColor_testMode
#print axioms TM.C07.abs_setColor256
#print axioms TM.C07.setColor256_reject
#print axioms TM.C07.abs_setColorBright
#print axioms TM.C07.setColorBright_reject
#print axioms TM.C07.abs_setColorRGB
#print axioms TM.C07.abs_setColorDefault
#print axioms TM.C07.blackish_abs
#print axioms TM.C07.blackish_abs_bg
#print axioms TM.C07.blackish_packed_distinct
#print axioms TM.C07.mode_code_roundtrip
#print axioms TM.C07.sgr_dispatch
#print axioms TM.C07.sgr_dispatch_apply
#print axioms TM.C07.sgr_dispatch_abs
#print axioms TM.C07.written_cell
#print axioms TM.C07.written_style
#print axioms TM.C07.erased_cell
#print axioms TM.C07.eraseRegion_cell
#print axioms TM.C07.sgr_reset
#print axioms TM.C07.sgr_zero
#print axioms TM.C07.sgr_append
#print axioms TM.C07.sgr_foldl
#print axioms TM.C07.sgr_then_erase_line
#print axioms TM.C07.put_cell_partial
#print axioms TM.C07.sgr_then_text_partial
#print axioms TM.C07.put_style_provenance
#print axioms TM.C07.sgr_then_text_provenance
