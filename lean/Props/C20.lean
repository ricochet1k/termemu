import TM.Run
import Proofs.Act
import Proofs.Put
import Proofs.Run
/-!
# C20 — the cell-grid buffer and the span buffer are observationally equivalent

"Driven by the same input, a terminal backed by the cell-grid buffer and one backed by the span
buffer show the same text and attributes in every cell, the same cursor and scroll region, and
send equivalent change notifications. The only sanctioned difference is a write that starts on
the second half of a double-width character, where the span buffer keeps the character and the
grid buffer blanks it."

Model: both buffer kinds are the same functions of `TM/Screen.lean` / `TM/Term.lean`, selected by
the field `Term.pol : WidePolicy` (`.keep` = span buffer, `.blank` = grid buffer). `effW` is
`Scr.effW` (`Proofs/Put`); `TextClean` repeats the hypotheses of `TM.C03.put_keep_eq_blank`.

`obsEq t₁ t₂`: all fields but `pol` are equal. Every token that is not text, and `Resize`, give
the same state up to `pol` and the same events (`apply_nontext`, `resize_policy_independent`).
`Scr.put` reads the policy only when the column really written, after its right-edge adjustment,
is a continuation cell (`landsOnCont`, `put_policy_irrelevant`). So a run of tokens and resizes
that never writes onto a continuation cell is the same run under either buffer kind
(`offCont_run_equivalent`; `clean_run_equivalent` with the clean-step condition of the property,
`clean_run_equivalent_of_invariant` with `Scr.inv` supplied by any preserved invariant), and so is
the byte-level read loop (`run_equivalent`, `feed_equivalent`). A difference can only come from a
character written onto a continuation cell (`sanctioned_only`), and there the span buffer keeps
the wide character and the grid buffer blanks it (`sanctioned_difference`).
-/
namespace TM

/-- the same terminal state, backed by the buffer kind `p` -/
def Term.withPol (t : Term) (p : WidePolicy) : Term := { t with pol := p }

end TM

namespace TM.C20

/-- Observational equality: everything but the buffer kind is the same — both screens (cells
    with text, width and attributes; cursor, saved cursor, margins, autowrap, current style),
    which of them is shown, the view flags / ints / strings and both keyboard-flag stacks. -/
def obsEq (t₁ t₂ : Term) : Prop :=
  t₁.main = t₂.main ∧ t₁.alt = t₂.alt ∧ t₁.onAlt = t₂.onAlt ∧ t₁.vflags = t₂.vflags ∧
  t₁.vints = t₂.vints ∧ t₁.vstrs = t₂.vstrs ∧ t₁.kmain = t₂.kmain ∧ t₁.kalt = t₂.kalt

def mapPol (p : WidePolicy) (r : Term × List Ev) : Term × List Ev := (r.1.withPol p, r.2)

namespace Lemmas

theorem obsEq_refl (t : Term) : obsEq t t := ⟨rfl, rfl, rfl, rfl, rfl, rfl, rfl, rfl⟩

theorem obsEq_symm {t₁ t₂ : Term} (h : obsEq t₁ t₂) : obsEq t₂ t₁ := by
  obtain ⟨a, b, c, d, e, f, g, i⟩ := h
  exact ⟨a.symm, b.symm, c.symm, d.symm, e.symm, f.symm, g.symm, i.symm⟩

theorem obsEq_trans {t₁ t₂ t₃ : Term} (h : obsEq t₁ t₂) (h' : obsEq t₂ t₃) : obsEq t₁ t₃ := by
  obtain ⟨a, b, c, d, e, f, g, i⟩ := h
  obtain ⟨a', b', c', d', e', f', g', i'⟩ := h'
  exact ⟨a.trans a', b.trans b', c.trans c', d.trans d', e.trans e', f.trans f', g.trans g',
    i.trans i'⟩

theorem obsEq_withPol (t : Term) (p : WidePolicy) : obsEq (t.withPol p) t :=
  ⟨rfl, rfl, rfl, rfl, rfl, rfl, rfl, rfl⟩

theorem obsEq_iff (t₁ t₂ : Term) (p : WidePolicy) : obsEq t₁ t₂ ↔ t₁.withPol p = t₂.withPol p := by
  obtain ⟨p1, m1, a1, o1, f1, i1, s1, k1, l1⟩ := t₁
  obtain ⟨p2, m2, a2, o2, f2, i2, s2, k2, l2⟩ := t₂
  simp [obsEq, Term.withPol]

theorem eq_withPol_of_obsEq {t₁ t₂ : Term} (h : obsEq t₁ t₂) : t₁ = t₂.withPol t₁.pol := by
  exact (obsEq_iff t₁ t₂ t₁.pol).1 h

@[simp] theorem withPol_pol (t : Term) (p : WidePolicy) : (t.withPol p).pol = p := rfl
@[simp] theorem withPol_withPol (t : Term) (p q : WidePolicy) : (t.withPol p).withPol q = t.withPol q := rfl
@[simp] theorem withPol_self (t : Term) : t.withPol t.pol = t := rfl
@[simp] theorem withPol_scr (t : Term) (p : WidePolicy) : (t.withPol p).scr = t.scr := rfl
@[simp] theorem withPol_kbd (t : Term) (p : WidePolicy) : (t.withPol p).kbd = t.kbd := rfl
@[simp] theorem mapPol_mk (p : WidePolicy) (t : Term) (e : List Ev) : mapPol p (t, e) = (t.withPol p, e) := rfl

theorem withPol_setScr (t : Term) (p : WidePolicy) (s : Scr) :
    (t.withPol p).setScr s = (t.setScr s).withPol p := by
  obtain ⟨p1, m1, a1, o1, f1, i1, s1, k1, l1⟩ := t
  cases o1 <;> rfl

theorem withPol_setKbd (t : Term) (p : WidePolicy) (k : Kbd) :
    (t.withPol p).setKbd k = (t.setKbd k).withPol p := by
  obtain ⟨p1, m1, a1, o1, f1, i1, s1, k1, l1⟩ := t
  cases o1 <;> rfl

theorem withPol_setVFlag (t : Term) (p : WidePolicy) (i : Nat) (v : Bool) :
    (t.withPol p).setVFlag i v = mapPol p (t.setVFlag i v) := rfl

theorem withPol_setVInt (t : Term) (p : WidePolicy) (i : Nat) (v : Int) :
    (t.withPol p).setVInt i v = mapPol p (t.setVInt i v) := rfl

theorem withPol_setVStr (t : Term) (p : WidePolicy) (i : Nat) (v : Bytes) :
    (t.withPol p).setVStr i v = mapPol p (t.setVStr i v) := rfl

theorem withPol_switchScreen (t : Term) (p : WidePolicy) (v : Bool) :
    (t.withPol p).switchScreen v = mapPol p (t.switchScreen v) := by
  obtain ⟨p1, m1, a1, o1, f1, i1, s1, k1, l1⟩ := t
  cases o1 <;> cases v <;> rfl

theorem aside_withPol (p : WidePolicy) : Term.Aside (·.withPol p) where
  scr _ := rfl
  kbd _ := rfl
  setScr t := withPol_setScr t p
  setKbd t := withPol_setKbd t p
  setVFlag t := withPol_setVFlag t p
  setVInt t := withPol_setVInt t p
  setVStr t := withPol_setVStr t p

end Lemmas
open Lemmas

/-! ## 1. What observational equality means, cell by cell -/

/-- Two observationally equal terminals show the same text, width and attributes in every cell of
    the active buffer and of each of the two buffers, the same size, cursor, saved cursor, scroll
    region (margins), autowrap flag and current rendition, the same view state and the same
    keyboard flags. -/
theorem obsEq_observables {t₁ t₂ : Term} (h : obsEq t₁ t₂) :
    (∀ x y : Nat, (t₁.scr.row y)[x]? = (t₂.scr.row y)[x]?) ∧
    (∀ x y : Nat, (t₁.main.row y)[x]? = (t₂.main.row y)[x]?) ∧
    (∀ x y : Nat, (t₁.alt.row y)[x]? = (t₂.alt.row y)[x]?) ∧
    t₁.scr.w = t₂.scr.w ∧ t₁.scr.h = t₂.scr.h ∧
    t₁.scr.cx = t₂.scr.cx ∧ t₁.scr.cy = t₂.scr.cy ∧ t₁.scr.sx = t₂.scr.sx ∧ t₁.scr.sy = t₂.scr.sy ∧
    t₁.scr.top = t₂.scr.top ∧ t₁.scr.bot = t₂.scr.bot ∧
    t₁.scr.wrap = t₂.scr.wrap ∧ t₁.scr.sty = t₂.scr.sty ∧
    t₁.onAlt = t₂.onAlt ∧ t₁.vflags = t₂.vflags ∧ t₁.vints = t₂.vints ∧ t₁.vstrs = t₂.vstrs ∧
    t₁.kbd = t₂.kbd := by
  have e := eq_withPol_of_obsEq h
  obtain ⟨a, b, c, d, e', f, g, i⟩ := h
  have hs : t₁.scr = t₂.scr := by rw [e]; rfl
  have hk : t₁.kbd = t₂.kbd := by rw [e]; rfl
  rw [hs, a, b]
  exact ⟨fun _ _ => rfl, fun _ _ => rfl, fun _ _ => rfl, rfl, rfl, rfl, rfl, rfl, rfl, rfl, rfl,
    rfl, rfl, c, d, e', f, hk⟩

/-! ## 2. Everything but text is independent of the buffer kind -/

def isText : Tok → Bool
  | .text _ _ => true
  | _ => false

/-- C20, non-text tokens: for every token that is not printable text — C0 control, ESC, CSI (any
    prefix, final byte, parameters), OSC, DCS — the two buffer kinds produce the same state (up to
    the buffer kind itself) and exactly the same events, notifications and replies: `withPol`
    touches nothing a write reads (`Term.Aside`, `Proofs/Act`). -/
theorem apply_nontext (cw : Nat → Nat) (t : Term) (p : WidePolicy) (tok : Tok)
    (h : isText tok = false) :
    Term.apply cw (t.withPol p) tok =
      ((Term.apply cw t tok).1.withPol p, (Term.apply cw t tok).2) :=
  (aside_withPol p).apply cw t tok (fun _ _ ht => by subst ht; cases h)
    (fun v _ _ _ t => withPol_switchScreen t p v)

theorem apply_nontext_obsEq (cw : Nat → Nat) {t₁ t₂ : Term} (ht : obsEq t₁ t₂) (tok : Tok)
    (h : isText tok = false) :
    obsEq (Term.apply cw t₁ tok).1 (Term.apply cw t₂ tok).1 ∧
    (Term.apply cw t₁ tok).2 = (Term.apply cw t₂ tok).2 := by
  rw [eq_withPol_of_obsEq ht, apply_nontext cw t₂ _ tok h]
  exact ⟨obsEq_withPol _ _, rfl⟩

/-! ## 3. Text: the policy is consulted only for a write landing on a continuation cell -/

/-- the cell width `Scr.put` really uses: the nominal width (at least 1), or 1 for a character
    wider than the whole screen (`Scr.effW` of `Proofs/Put`: `effW_eq`) -/
def effW (s : Scr) (w0 : Nat) : Nat := if max w0 1 > s.w then 1 else max w0 1

/-- where the write really happens: `Scr.put` first brings the cursor to a column where the
    character fits — unchanged if it fits after the cursor, column 0 of the next row (with
    scrolling) at the right edge with autowrap on, column `w - width` with autowrap off -/
def landing (s : Scr) (w0 : Nat) : Scr :=
  if s.cx + effW s w0 > s.w then
    (if s.wrap then ({ s with cx := 0 } : Scr).lineDown else { s with cx := s.w - effW s w0 })
  else s

theorem effW_eq : effW = Scr.effW := rfl

/-- `landing` is the first of the three steps of `put_eq` -/
theorem landing_eq (s : Scr) (w0 : Nat) : landing s w0 = Scr.putPre s (Scr.effW s w0) := rfl

/-- the column actually written is the second (or a later) cell of a wide character -/
def landsOnCont (s : Scr) (w0 : Nat) : Bool :=
  contAt ((landing s w0).row (landing s w0).cy) (landing s w0).cx

/-- the hypotheses of `TM.C03.put_keep_eq_blank`: a well-formed screen, the cursor not on a
    continuation cell and, when the character is pulled back from the right edge (autowrap off),
    the column it is pulled back to not a continuation cell either -/
def TextClean (s : Scr) (w0 : Nat) : Prop :=
  s.inv = true ∧ contAt (s.row s.cy) s.cx = false ∧
  (s.cx + effW s w0 ≤ s.w ∨ s.wrap = true ∨ contAt (s.row s.cy) (s.w - effW s w0) = false)

instance (s : Scr) (w0 : Nat) : Decidable (TextClean s w0) := by unfold TextClean; infer_instance

/-- The policy is read only on a continuation cell: if the column actually written is none,
    `Scr.put` does not depend on the buffer kind (no well-formedness needed). -/
theorem put_policy_irrelevant (p q : WidePolicy) (s : Scr) (text : Bytes) (w0 : Nat)
    (h : landsOnCont s w0 = false) : Scr.put p s text w0 = Scr.put q s text w0 := by
  unfold landsOnCont at h
  rw [landing_eq] at h
  simp only [put_eq, Scr.putRow, Scr.putX, h, Bool.false_and]

/-- `landsOnCont` on a well-formed screen: with autowrap on the character goes to column 0 of the
    next row, never a continuation cell -/
theorem landsOnCont_eq (s : Scr) (w0 : Nat) (hinv : s.inv = true) :
    landsOnCont s w0 =
      if s.cx + effW s w0 ≤ s.w then contAt (s.row s.cy) s.cx
      else if s.wrap = true then false
      else contAt (s.row s.cy) (s.w - effW s w0) := by
  unfold landsOnCont
  rw [landing_eq, effW_eq]
  exact putPre_contAt s (Scr.effW s w0) fun r hr => (inv_rows hinv r hr).2

theorem textClean_landsOff {s : Scr} {w0 : Nat} (h : TextClean s w0) : landsOnCont s w0 = false := by
  obtain ⟨hinv, h1, h2⟩ := h
  rw [landsOnCont_eq s w0 hinv]
  split
  · exact h1
  · next hfit =>
    split
    · rfl
    · next hw =>
      rcases h2 with h2 | h2 | h2
      · exact absurd h2 hfit
      · exact absurd h2 hw
      · exact h2

theorem apply_text_off_cont (cw : Nat → Nat) (t : Term) (p q : WidePolicy) (stored : Bytes) (cp : Nat)
    (h : landsOnCont t.scr (cw cp) = false) :
    Term.apply cw (t.withPol p) (.text stored cp) =
      ((Term.apply cw (t.withPol q) (.text stored cp)).1.withPol p,
        (Term.apply cw (t.withPol q) (.text stored cp)).2) := by
  simp only [Term.apply, withPol_scr, withPol_pol, withPol_setScr, withPol_withPol]
  rw [put_policy_irrelevant p q _ _ _ h]

/-- C20, text tokens: on a well-formed active screen, if the write does not start on a
    continuation cell (the hypotheses of `TM.C03.put_keep_eq_blank`), the span-buffer terminal
    and the grid-buffer terminal end in observationally equal states and emit the same events. -/
theorem apply_text_clean (cw : Nat → Nat) (t : Term) (stored : Bytes) (cp : Nat)
    (hinv : t.scr.inv = true)
    (h1 : contAt (t.scr.row t.scr.cy) t.scr.cx = false)
    (h2 : t.scr.cx + effW t.scr (cw cp) ≤ t.scr.w ∨ t.scr.wrap = true ∨
      contAt (t.scr.row t.scr.cy) (t.scr.w - effW t.scr (cw cp)) = false) :
    obsEq (Term.apply cw (t.withPol .keep) (.text stored cp)).1
      (Term.apply cw (t.withPol .blank) (.text stored cp)).1 ∧
    (Term.apply cw (t.withPol .keep) (.text stored cp)).2 =
      (Term.apply cw (t.withPol .blank) (.text stored cp)).2 := by
  rw [apply_text_off_cont cw t .keep .blank stored cp (textClean_landsOff ⟨hinv, h1, h2⟩)]
  exact ⟨obsEq_withPol _ _, rfl⟩

/-! ## 4. Resize -/

/-- C20, resize: `Resize(w,h)` does not look at the buffer kind: same state, same events. -/
theorem resize_policy_independent (t : Term) (p : WidePolicy) (w h : Nat) :
    (t.withPol p).resize w h = ((t.resize w h).1.withPol p, (t.resize w h).2) := rfl

/-! ## 5. Whole runs -/

/-- what drives a terminal: a token of the input stream, or a `Resize` from the frontend -/
inductive Op
  | tok (k : Tok)
  | resize (w h : Nat)
deriving DecidableEq, Repr

def Op.step (cw : Nat → Nat) (t : Term) : Op → Term × List Ev
  | .tok k => t.apply cw k
  | .resize w h => t.resize w h

def runOps (cw : Nat → Nat) : Term → List Op → Term × List (List Ev)
  | t, [] => (t, [])
  | t, op :: ops =>
    let r := Op.step cw t op
    let r' := runOps cw r.1 ops
    (r'.1, r.2 :: r'.2)

/-- a clean step: non-text tokens and resizes are always clean; a printable character is clean
    at `t` when `TextClean` holds of the active screen. That `Scr.inv` holds in every reachable
    state is the subject of C02 / C03 (`TM.C02.reachable_wf`, `TM.C03.put_blank_inv`,
    `put_keep_inv`; every width function). -/
def CleanAt (cw : Nat → Nat) (t : Term) : Op → Prop
  | .tok (.text _ cp) => TextClean t.scr (cw cp)
  | _ => True

/-- a clean step, exact form: the column actually written is not a continuation cell; nothing is
    said about well-formedness -/
def OffContAt (cw : Nat → Nat) (t : Term) : Op → Prop
  | .tok (.text _ cp) => landsOnCont t.scr (cw cp) = false
  | _ => True

/-- `P` holds at every step of the run of `ops` from `t`, at the state in which it is taken -/
def AlongRun (P : Term → Op → Prop) (cw : Nat → Nat) : Term → List Op → Prop
  | _, [] => True
  | t, op :: ops => P t op ∧ AlongRun P cw (Op.step cw t op).1 ops

/-- the run never writes a character starting on a continuation cell (and the active screen is
    well formed whenever a character is written) -/
abbrev CleanRun (cw : Nat → Nat) (t : Term) (ops : List Op) : Prop := AlongRun (CleanAt cw) cw t ops

abbrev OffContRun (cw : Nat → Nat) (t : Term) (ops : List Op) : Prop := AlongRun (OffContAt cw) cw t ops

instance (cw : Nat → Nat) (t : Term) : (op : Op) → Decidable (CleanAt cw t op)
  | .tok (.text _ cp) => inferInstanceAs (Decidable (TextClean t.scr (cw cp)))
  | .tok (.ctl _) => isTrue trivial
  | .tok (.esc _ _) => isTrue trivial
  | .tok (.csi _ _ _ _) => isTrue trivial
  | .tok (.osc _ _ _) => isTrue trivial
  | .tok .dcs => isTrue trivial
  | .resize _ _ => isTrue trivial

instance (cw : Nat → Nat) (t : Term) : (op : Op) → Decidable (OffContAt cw t op)
  | .tok (.text _ cp) => inferInstanceAs (Decidable (landsOnCont t.scr (cw cp) = false))
  | .tok (.ctl _) => isTrue trivial
  | .tok (.esc _ _) => isTrue trivial
  | .tok (.csi _ _ _ _) => isTrue trivial
  | .tok (.osc _ _ _) => isTrue trivial
  | .tok .dcs => isTrue trivial
  | .resize _ _ => isTrue trivial

def AlongRun.dec (P : Term → Op → Prop) [∀ t op, Decidable (P t op)] (cw : Nat → Nat) :
    (t : Term) → (ops : List Op) → Decidable (AlongRun P cw t ops)
  | _, [] => isTrue trivial
  | t, op :: ops =>
    have := AlongRun.dec P cw (Op.step cw t op).1 ops
    inferInstanceAs (Decidable (P t op ∧ AlongRun P cw (Op.step cw t op).1 ops))

instance (P : Term → Op → Prop) [∀ t op, Decidable (P t op)] (cw : Nat → Nat) (t : Term)
    (ops : List Op) : Decidable (AlongRun P cw t ops) := AlongRun.dec P cw t ops

theorem AlongRun.mono {P Q : Term → Op → Prop} (hPQ : ∀ t op, P t op → Q t op) (cw : Nat → Nat)
    (t : Term) (ops : List Op) (h : AlongRun P cw t ops) : AlongRun Q cw t ops := by
  induction ops generalizing t with
  | nil => trivial
  | cons op ops ih => exact ⟨hPQ _ _ h.1, ih _ h.2⟩

namespace Lemmas

theorem cleanAt_offCont {cw : Nat → Nat} {t : Term} {op : Op} (h : CleanAt cw t op) :
    OffContAt cw t op := by
  cases op with
  | resize w h => trivial
  | tok k =>
    cases k with
    | text s cp => exact textClean_landsOff h
    | _ => trivial

theorem offContAt_withPol (cw : Nat → Nat) (t : Term) (p : WidePolicy) (op : Op)
    (h : OffContAt cw t op) : OffContAt cw (t.withPol p) op := by
  cases op with
  | resize w h => trivial
  | tok k => cases k <;> exact h

theorem cleanAt_withPol (cw : Nat → Nat) (t : Term) (p : WidePolicy) (op : Op)
    (h : CleanAt cw t op) : CleanAt cw (t.withPol p) op := by
  cases op with
  | resize w h => trivial
  | tok k => cases k <;> exact h

theorem step_withPol (cw : Nat → Nat) (t : Term) (p : WidePolicy) (op : Op)
    (h : OffContAt cw t op) :
    Op.step cw (t.withPol p) op = mapPol p (Op.step cw t op) := by
  cases op with
  | resize w h => rfl
  | tok k =>
    by_cases hk : isText k = false
    · exact apply_nontext cw t p k hk
    · cases k with
      | text s cp => exact apply_text_off_cont cw t p t.pol s cp h
      | _ => exact absurd rfl hk

/-- The run of `t.withPol p` is the run of `t` while no character lands on a continuation
    cell: the same events, the same states up to the policy, and a step condition that reads the
    active screen only (`hP`) holds along it as well -/
theorem run_withPol {P : Term → Op → Prop} (cw : Nat → Nat)
    (hP : ∀ t p op, P t op → P (t.withPol p) op) (hO : ∀ t op, P t op → OffContAt cw t op)
    (p : WidePolicy) : ∀ (ops : List Op) (t : Term), AlongRun P cw t ops →
    AlongRun P cw (t.withPol p) ops ∧
      runOps cw (t.withPol p) ops = ((runOps cw t ops).1.withPol p, (runOps cw t ops).2)
  | [], _, _ => ⟨trivial, rfl⟩
  | op :: ops, t, h => by
    have ih := run_withPol cw hP hO p ops _ h.2
    simp only [runOps, AlongRun, step_withPol cw t p op (hO t op h.1), mapPol]
    exact ⟨⟨hP t p op h.1, ih.1⟩, by rw [ih.2]⟩

end Lemmas

theorem step_obsEq (cw : Nat → Nat) {t₁ t₂ : Term} (ht : obsEq t₁ t₂) (op : Op)
    (h : OffContAt cw t₁ op) :
    obsEq (Op.step cw t₁ op).1 (Op.step cw t₂ op).1 ∧ (Op.step cw t₁ op).2 = (Op.step cw t₂ op).2 := by
  rw [eq_withPol_of_obsEq (obsEq_symm ht), step_withPol cw t₁ _ op h]
  exact ⟨obsEq_symm (obsEq_withPol _ _), rfl⟩

/-- never writing onto a continuation cell along a run does not depend on which of two
    observationally equal terminals is run -/
theorem offContRun_transfer (cw : Nat → Nat) {t₁ t₂ : Term} (ht : obsEq t₁ t₂) (ops : List Op)
    (h : OffContRun cw t₁ ops) : OffContRun cw t₂ ops :=
  eq_withPol_of_obsEq (obsEq_symm ht) ▸ (run_withPol cw (offContAt_withPol cw) (fun _ _ h => h) _ ops t₁ h).1

theorem offCont_run_obsEq (cw : Nat → Nat) {t₁ t₂ : Term} (ht : obsEq t₁ t₂) (ops : List Op)
    (h : OffContRun cw t₁ ops) :
    obsEq (runOps cw t₁ ops).1 (runOps cw t₂ ops).1 ∧ (runOps cw t₁ ops).2 = (runOps cw t₂ ops).2 := by
  rw [eq_withPol_of_obsEq (obsEq_symm ht), (run_withPol cw (offContAt_withPol cw) (fun _ _ h => h) _ ops t₁ h).2]
  exact ⟨obsEq_symm (obsEq_withPol _ _), rfl⟩

/-- a clean run from one of two observationally equal terminals is a clean run from the other -/
theorem cleanRun_transfer (cw : Nat → Nat) {t₁ t₂ : Term} (ht : obsEq t₁ t₂) (ops : List Op)
    (h : CleanRun cw t₁ ops) : CleanRun cw t₂ ops :=
  eq_withPol_of_obsEq (obsEq_symm ht) ▸ (run_withPol cw (cleanAt_withPol cw) (fun _ _ => cleanAt_offCont) _ ops t₁ h).1

/-- C20, main theorem (exact form): for every width function, every size and every list of
    operations (tokens and resizes) during which the span-buffer terminal never writes a
    character onto a continuation cell, the span-buffer terminal and the grid-buffer terminal
    started from their initial states end in observationally equal states and emit identical
    event lists at every step. -/
theorem offCont_run_equivalent (cw : Nat → Nat) (w h : Nat) (ops : List Op)
    (hc : OffContRun cw (Term.init .keep w h) ops) :
    obsEq (runOps cw (Term.init .keep w h) ops).1 (runOps cw (Term.init .blank w h) ops).1 ∧
    (runOps cw (Term.init .keep w h) ops).2 = (runOps cw (Term.init .blank w h) ops).2 :=
  offCont_run_obsEq cw (t₁ := Term.init .keep w h) (t₂ := Term.init .blank w h)
    ⟨rfl, rfl, rfl, rfl, rfl, rfl, rfl, rfl⟩ ops hc

/-- C20, main theorem, with the clean-step predicate of the property: along the run
    of the span-buffer terminal every printable character meets a well-formed screen and does
    not start on a continuation cell (`CleanAt`). -/
theorem clean_run_equivalent (cw : Nat → Nat) (w h : Nat) (ops : List Op)
    (hc : CleanRun cw (Term.init .keep w h) ops) :
    obsEq (runOps cw (Term.init .keep w h) ops).1 (runOps cw (Term.init .blank w h) ops).1 ∧
    (runOps cw (Term.init .keep w h) ops).2 = (runOps cw (Term.init .blank w h) ops).2 :=
  offCont_run_equivalent cw w h ops (AlongRun.mono (fun _ _ => cleanAt_offCont) cw _ ops hc)

theorem clean_run_same_display (cw : Nat → Nat) (w h : Nat) (ops : List Op)
    (hc : CleanRun cw (Term.init .keep w h) ops) (x y : Nat) :
    let k := (runOps cw (Term.init .keep w h) ops).1
    let b := (runOps cw (Term.init .blank w h) ops).1
    (k.scr.row y)[x]? = (b.scr.row y)[x]? ∧
    k.scr.cx = b.scr.cx ∧ k.scr.cy = b.scr.cy ∧ k.scr.top = b.scr.top ∧ k.scr.bot = b.scr.bot ∧
    k.scr.w = b.scr.w ∧ k.scr.h = b.scr.h ∧ k.scr.sty = b.scr.sty ∧ k.onAlt = b.onAlt := by
  intro k b
  obtain ⟨cell, -, -, hw, hh, hcx, hcy, -, -, htop, hbot, -, hsty, halt, -⟩ :=
    obsEq_observables (clean_run_equivalent cw w h ops hc).1
  exact ⟨cell x y, hcx, hcy, htop, hbot, hw, hh, hsty, halt⟩

/-! ### the well-formedness hypothesis discharged by an invariant -/

/-- the clean-step predicate without the well-formedness part: only "the write does not start on
    a continuation cell", in the explicit form of `TM.C03.put_keep_eq_blank` -/
def NoContAt (cw : Nat → Nat) (t : Term) : Op → Prop
  | .tok (.text _ cp) =>
    contAt (t.scr.row t.scr.cy) t.scr.cx = false ∧
    (t.scr.cx + effW t.scr (cw cp) ≤ t.scr.w ∨ t.scr.wrap = true ∨
      contAt (t.scr.row t.scr.cy) (t.scr.w - effW t.scr (cw cp)) = false)
  | _ => True

namespace Lemmas

/-- the invariant is carried on `t.withPol .blank`, the grid-buffer version of the running
    terminal (its policy is `.blank` by `rfl`, its steps are those of `t` by `step_withPol`) -/
theorem cleanRun_of_invariant (cw : Nat → Nat) (I : Term → Prop) (V : Op → Prop)
    (hI : ∀ t, I t → t.scr.inv = true)
    (hstep : ∀ t op, t.pol = .blank → I t → V op → I (Op.step cw t op).1) :
    ∀ (ops : List Op) (t : Term), I (t.withPol .blank) → (∀ op ∈ ops, V op) →
      AlongRun (NoContAt cw) cw t ops → CleanRun cw t ops
  | [], _, _, _, _ => trivial
  | op :: ops, t, h0, hv, hc => by
    have hclean : CleanAt cw t op := by
      cases op with
      | resize w h => trivial
      | tok k =>
        cases k with
        | text s cp => exact ⟨hI (t.withPol .blank) h0, hc.1.1, hc.1.2⟩
        | _ => trivial
    have h1 := hstep _ op rfl h0 (hv _ List.mem_cons_self)
    rw [step_withPol cw t _ op (cleanAt_offCont hclean)] at h1
    exact ⟨hclean, cleanRun_of_invariant cw I V hI hstep ops _ h1
      (fun o ho => hv o (List.mem_cons_of_mem _ ho)) hc.2⟩

end Lemmas

/-- C20 for runs, with the invariant supplied from outside: let `I` be any state invariant
    of grid-buffer terminals that implies `Scr.inv` of the active screen and is preserved by the
    operations satisfying `V` (for instance `TM.Term.inv` of `Props/C02.lean`, preserved by every
    token — `TM.C02.apply_inv` — and by every resize to a size `≥ 1×1`). Then for runs of
    valid operations the well-formedness part of `CleanAt` is automatic: it is enough that no
    character is written starting on a continuation cell. -/
theorem clean_run_equivalent_of_invariant (cw : Nat → Nat) (I : Term → Prop) (V : Op → Prop)
    (hI : ∀ t, I t → t.scr.inv = true)
    (hstep : ∀ t op, t.pol = .blank → I t → V op → I (Op.step cw t op).1)
    {t₁ t₂ : Term} (ht : obsEq t₁ t₂) (hp : t₂.pol = .blank) (h0 : I t₂) (ops : List Op)
    (hv : ∀ op ∈ ops, V op) (hc : AlongRun (NoContAt cw) cw t₁ ops) :
    CleanRun cw t₁ ops ∧
    obsEq (runOps cw t₁ ops).1 (runOps cw t₂ ops).1 ∧ (runOps cw t₁ ops).2 = (runOps cw t₂ ops).2 :=
  have h0' : I (t₁.withPol t₂.pol) := eq_withPol_of_obsEq (obsEq_symm ht) ▸ h0
  have h := cleanRun_of_invariant cw I V hI hstep ops t₁ (hp ▸ h0') hv hc
  ⟨h, offCont_run_obsEq cw ht ops (AlongRun.mono (fun _ _ => cleanAt_offCont) cw _ ops h)⟩

/-! ## 6. The read loop on bytes -/

/-- `P` holds for every token the read loop `runFuel` consumes from `bs`, at the state in which
    it is consumed -/
def AlongBytes (P : Term → Op → Prop) (cw : Nat → Nat) : Nat → Term → Bytes → Prop
  | 0, _, _ => True
  | fuel+1, t, bs =>
    match next bs with
    | .need => True
    | .tok tk n => P t (.tok tk) ∧ AlongBytes P cw fuel (t.apply cw tk).1 (bs.drop n)

/-- the input `bs`, read from state `t`, never writes a character starting on a continuation cell -/
def CleanInput (cw : Nat → Nat) (t : Term) (bs : Bytes) : Prop :=
  AlongBytes (CleanAt cw) cw (bs.length + 1) t bs

def AlongBytes.dec (P : Term → Op → Prop) [∀ t op, Decidable (P t op)] (cw : Nat → Nat) :
    (fuel : Nat) → (t : Term) → (bs : Bytes) → Decidable (AlongBytes P cw fuel t bs)
  | 0, _, _ => isTrue trivial
  | fuel+1, t, bs => by
    unfold AlongBytes
    exact match next bs with
    | .need => isTrue trivial
    | .tok tk n =>
      have := AlongBytes.dec P cw fuel (t.apply cw tk).1 (bs.drop n)
      inferInstanceAs (Decidable (P t (.tok tk) ∧ AlongBytes P cw fuel (t.apply cw tk).1 (bs.drop n)))

instance (cw : Nat → Nat) (t : Term) (bs : Bytes) : Decidable (CleanInput cw t bs) :=
  AlongBytes.dec _ cw _ t bs

namespace Lemmas

/-- the read loop is the run of the stream's tokens -/
theorem alongBytes_iff (P : Term → Op → Prop) (cw : Nat → Nat) (fuel : Nat) (t : Term) (bs : Bytes) :
    AlongBytes P cw fuel t bs ↔ AlongRun P cw t ((toksFuel' fuel bs).1.map .tok) := by
  induction fuel generalizing t bs with
  | zero => exact Iff.rfl
  | succ fuel ih =>
    unfold AlongBytes toksFuel'
    cases next bs with
    | need => exact Iff.rfl
    | tok tk n => exact and_congr_right fun _ => ih _ _

theorem runOps_toks (cw : Nat → Nat) (t : Term) (toks : List Tok) :
    (runOps cw t (toks.map .tok)).1 = Run.state (Term.apply cw) t toks ∧
    (runOps cw t (toks.map .tok)).2.flatten = Run.out (Term.apply cw) t toks := by
  induction toks generalizing t with
  | nil => exact ⟨rfl, rfl⟩
  | cons tk toks ih => exact ⟨(ih _).1, congrArg (_ ++ ·) (ih _).2⟩

end Lemmas

/-- C20 on byte streams: the read loop `run` (tokeniser and terminal) on the same bytes from
    two observationally equal terminals: if no character is written starting on a continuation
    cell, the final states are observationally equal, the events are identical and the same bytes
    stay unconsumed. -/
theorem run_equivalent (cw : Nat → Nat) {t₁ t₂ : Term} (ht : obsEq t₁ t₂) (bs : Bytes)
    (h : CleanInput cw t₁ bs) :
    obsEq (run cw t₁ bs).1 (run cw t₂ bs).1 ∧ (run cw t₁ bs).2.1 = (run cw t₂ bs).2.1 ∧
    (run cw t₁ bs).2.2 = (run cw t₂ bs).2.2 := by
  have := offCont_run_obsEq cw ht _ (AlongRun.mono (fun _ _ => cleanAt_offCont) cw _ _
    ((alongBytes_iff _ cw _ t₁ bs).1 h))
  simp only [run, runFuel_eq, ← (runOps_toks cw _ _).1, ← (runOps_toks cw _ _).2, this.2]
  exact ⟨this.1, trivial, trivial⟩

/-- the same for the arrival of one chunk at the reader (`Sys.feed`), which may complete a
    sequence whose beginning is still pending -/
theorem feed_equivalent (cw : Nat → Nat) (s₁ s₂ : Sys) (ht : obsEq s₁.t s₂.t)
    (hp : s₁.pending = s₂.pending) (chunk : Bytes)
    (h : CleanInput cw s₁.t (s₁.pending ++ chunk)) :
    obsEq (s₁.feed cw chunk).1.t (s₂.feed cw chunk).1.t ∧
    (s₁.feed cw chunk).1.pending = (s₂.feed cw chunk).1.pending ∧
    (s₁.feed cw chunk).2 = (s₂.feed cw chunk).2 := by
  have := run_equivalent cw ht (s₁.pending ++ chunk) h
  unfold Sys.feed
  rw [← hp]
  exact ⟨this.1, this.2.2, this.2.1⟩

/-! ## 7. The sanctioned difference, and nothing else -/

/-- Only a write onto a continuation cell can tell the buffer kinds apart: an operation that takes
    two observationally equal terminals to states that are not, or emits different events, is a
    printable character written onto a continuation cell. -/
theorem sanctioned_only (cw : Nat → Nat) {t₁ t₂ : Term} (ht : obsEq t₁ t₂) (op : Op)
    (hdiff : ¬ (obsEq (Op.step cw t₁ op).1 (Op.step cw t₂ op).1 ∧
      (Op.step cw t₁ op).2 = (Op.step cw t₂ op).2)) :
    ∃ stored cp, op = .tok (.text stored cp) ∧ landsOnCont t₁.scr (cw cp) = true := by
  have key : ¬ OffContAt cw t₁ op := fun h => hdiff (step_obsEq cw ht op h)
  cases op with
  | resize w h => exact absurd trivial key
  | tok k =>
    cases k with
    | text s cp =>
      refine ⟨s, cp, rfl, ?_⟩
      cases hl : landsOnCont t₁.scr (cw cp) with
      | true => rfl
      | false => exact absurd hl key
    | _ => exact absurd trivial key

/-- the same for one token on the span-buffer and the grid-buffer version of one state, with the
    written column spelled out on a well-formed screen: the character fits and the cursor is on
    a continuation cell, or it is pulled back from the right edge (autowrap off) onto one -/
theorem sanctioned_only_inv (cw : Nat → Nat) (t : Term) (tok : Tok) (hinv : t.scr.inv = true)
    (hdiff : ¬ (obsEq (Term.apply cw (t.withPol .keep) tok).1 (Term.apply cw (t.withPol .blank) tok).1 ∧
      (Term.apply cw (t.withPol .keep) tok).2 = (Term.apply cw (t.withPol .blank) tok).2)) :
    ∃ stored cp, tok = .text stored cp ∧
      ((t.scr.cx + effW t.scr (cw cp) ≤ t.scr.w ∧ contAt (t.scr.row t.scr.cy) t.scr.cx = true) ∨
       (t.scr.w < t.scr.cx + effW t.scr (cw cp) ∧ t.scr.wrap = false ∧
        contAt (t.scr.row t.scr.cy) (t.scr.w - effW t.scr (cw cp)) = true)) := by
  have ht : obsEq (t.withPol .keep) (t.withPol .blank) :=
    obsEq_trans (obsEq_withPol _ _) (obsEq_symm (obsEq_withPol _ _))
  obtain ⟨s, cp, hop, hl⟩ := sanctioned_only cw ht (.tok tok) hdiff
  refine ⟨s, cp, by injection hop, ?_⟩
  rw [withPol_scr, landsOnCont_eq _ _ hinv] at hl
  split at hl
  · next hfit => exact Or.inl ⟨hfit, hl⟩
  · next hfit =>
    split at hl
    · cases hl
    · next hw => exact Or.inr ⟨by omega, by simpa using hw, hl⟩

/-! ## Examples: the sanctioned difference is real; the hypotheses are satisfiable -/

section Examples

abbrev exD : Style := Style.default
abbrev exZi : Bytes := [0xE5, 0xAD, 0x97]
/-- a width function: East Asian wide from U+1100 on -/
def exCw (cp : Nat) : Nat := if cp ≥ 0x1100 then 2 else 1

/-- a 3×1 terminal whose row is `字`(2 cells) `a`, cursor on the second half of `字` -/
def exTerm : Term :=
  { Term.init .keep 3 1 with
    main := { Scr.init 3 1 with
      grid := [[⟨.ch exZi 2, exD⟩, ⟨.cont, exD⟩, ⟨.ch [0x61] 1, exD⟩]], cx := 1 } }

/-- The sanctioned difference: writing `x` with the cursor on the second half of a
    double-width character: the span buffer keeps the character and stores `x` after it, the grid
    buffer blanks the character and stores `x` at the cursor. -/
theorem sanctioned_difference :
    exTerm.scr.inv = true ∧ landsOnCont exTerm.scr (exCw 0x78) = true ∧
    (Term.apply exCw (exTerm.withPol .keep) (.text [0x78] 0x78)).1.scr.row 0 =
      [⟨.ch exZi 2, exD⟩, ⟨.cont, exD⟩, ⟨.ch [0x78] 1, exD⟩] ∧
    (Term.apply exCw (exTerm.withPol .blank) (.text [0x78] 0x78)).1.scr.row 0 =
      [blank exD, ⟨.ch [0x78] 1, exD⟩, ⟨.ch [0x61] 1, exD⟩] := by
  decide

/-- `字`, `CSI 2 G` (cursor to column 2, the second half), `x` -/
def exDirtyOps : List Op :=
  [.tok (.text exZi 0x5B57), .tok (.csi 0 [2] true 0x47), .tok (.text [0x78] 0x78)]

/-- the same from the initial states, driven by the same three operations; the first two steps
    are clean, the third is not -/
theorem sanctioned_difference_run :
    (runOps exCw (Term.init .keep 3 1) exDirtyOps).1.scr.row 0 =
      [⟨.ch exZi 2, exD⟩, ⟨.cont, exD⟩, ⟨.ch [0x78] 1, exD⟩] ∧
    (runOps exCw (Term.init .blank 3 1) exDirtyOps).1.scr.row 0 =
      [blank exD, ⟨.ch [0x78] 1, exD⟩, blank exD] ∧
    CleanRun exCw (Term.init .keep 3 1) (exDirtyOps.take 2) ∧
    ¬ CleanRun exCw (Term.init .keep 3 1) exDirtyOps := by
  decide

/-- a clean script on a 4×2 screen: `a`, `字`, autowrap on, `字` (wraps to the next row), `CUP`,
    `b`, `c` (on the first half of `字`: allowed, blanks it under both kinds), `CUP 2;1`, `EL`,
    `IND` (scrolls), `Resize(6,3)`, `字`, `SGR 1` -/
def exCleanOps : List Op :=
  [.tok (.text [0x61] 0x61), .tok (.text exZi 0x5B57), .tok (.csi 0x3f [7] true 0x68),
   .tok (.text exZi 0x5B57), .tok (.csi 0 [] true 0x48), .tok (.text [0x62] 0x62),
   .tok (.text [0x63] 0x63), .tok (.csi 0 [2, 1] true 0x48), .tok (.csi 0 [] true 0x4b),
   .tok (.esc [] 0x44), .resize 6 3, .tok (.text exZi 0x5B57), .tok (.csi 0 [1] true 0x6d)]

-- hypothesis of `clean_run_equivalent` / `clean_run_same_display`
example : CleanRun exCw (Term.init .keep 4 2) exCleanOps := by decide +kernel
-- and the script really leaves wide characters on the screen
example : (runOps exCw (Term.init .keep 4 2) (exCleanOps.take 4)).1.scr.grid =
    [[⟨.ch [0x61] 1, exD⟩, ⟨.ch exZi 2, exD⟩, ⟨.cont, exD⟩, blank exD],
     [⟨.ch exZi 2, exD⟩, ⟨.cont, exD⟩, blank exD, blank exD]] := by decide

-- hypothesis of `run_equivalent`: the bytes `a 字 ESC[?7h 字 ESC[H b ESC[K` and an incomplete `ESC[`
def exBytes : Bytes :=
  [0x61, 0xE5, 0xAD, 0x97, 0x1b, 0x5b, 0x3f, 0x37, 0x68, 0xE5, 0xAD, 0x97, 0x1b, 0x5b, 0x48, 0x62,
   0x1b, 0x5b, 0x4b, 0x1b, 0x5b]
example : CleanInput exCw (Term.init .keep 4 2) exBytes := by decide +kernel
set_option maxRecDepth 20000 in
example : (run exCw (Term.init .keep 4 2) exBytes).1.scr.grid =
    [[⟨.ch [0x62] 1, exD⟩, blank exD, blank exD, blank exD],
     [⟨.ch exZi 2, exD⟩, ⟨.cont, exD⟩, blank exD, blank exD]] ∧
    (run exCw (Term.init .keep 4 2) exBytes).2.2 = [0x1b, 0x5b] := by decide +kernel

-- hypotheses of `apply_text_clean` on a screen holding a wide character (cursor after it)
example : let t : Term := { exTerm with main := { exTerm.main with cx := 2 } }
    t.scr.inv = true ∧ contAt (t.scr.row t.scr.cy) t.scr.cx = false ∧
    t.scr.cx + effW t.scr (exCw 0x78) ≤ t.scr.w := by decide

-- `OffContAt` is weaker than `CleanAt`: cursor on the second half of `字` in the last column,
-- autowrap off, a wide character is pulled back onto the *first* half
example : let t : Term := { Term.init .keep 2 1 with
      main := { Scr.init 2 1 with grid := [[⟨.ch exZi 2, exD⟩, ⟨.cont, exD⟩]], cx := 1 } }
    t.scr.inv = true ∧ ¬ CleanAt exCw t (.tok (.text exZi 0x5B57)) ∧
    OffContAt exCw t (.tok (.text exZi 0x5B57)) := by decide

-- hypothesis of `sanctioned_only` is satisfiable: `sanctioned_difference` gives different rows
example : ¬ obsEq (Term.apply exCw (exTerm.withPol .keep) (.text [0x78] 0x78)).1
    (Term.apply exCw (exTerm.withPol .blank) (.text [0x78] 0x78)).1 := by
  intro h
  have := (obsEq_observables h).1 0 0
  revert this
  decide

end Examples

end TM.C20

#print axioms TM.C20.obsEq_observables
#print axioms TM.C20.apply_nontext
#print axioms TM.C20.apply_nontext_obsEq
#print axioms TM.C20.put_policy_irrelevant
#print axioms TM.C20.landsOnCont_eq
#print axioms TM.C20.textClean_landsOff
#print axioms TM.C20.apply_text_off_cont
#print axioms TM.C20.apply_text_clean
#print axioms TM.C20.resize_policy_independent
#print axioms TM.C20.step_obsEq
#print axioms TM.C20.offCont_run_obsEq
#print axioms TM.C20.offContRun_transfer
#print axioms TM.C20.cleanRun_transfer
#print axioms TM.C20.offCont_run_equivalent
#print axioms TM.C20.clean_run_equivalent
#print axioms TM.C20.clean_run_same_display
#print axioms TM.C20.clean_run_equivalent_of_invariant
#print axioms TM.C20.run_equivalent
#print axioms TM.C20.feed_equivalent
#print axioms TM.C20.sanctioned_only
#print axioms TM.C20.sanctioned_only_inv
#print axioms TM.C20.sanctioned_difference
#print axioms TM.C20.sanctioned_difference_run
