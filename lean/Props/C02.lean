import TM.Run
import Proofs.Dispatch
import Proofs.Refine
import Proofs.RowClosed
import Proofs.Term
import Proofs.Run
/-!
# C02 — the screen invariant

"After every processed input and every Resize, each row of the active and the inactive buffer
consists of styled runs of positive width that sum to exactly the screen width, and Line(y),
StyledLine(0,W,y) and ANSILine(y) describe the same text. The cursor position reported to the
frontend and in cursor-position reports lies inside the screen, and the scroll region is a
non-empty row range inside the screen."

Model-level reading: the geometric invariant `Scr.geo` (grid of `h` rows of `w` cells, cursor,
saved cursor and margins inside) holds for both buffers in every reachable state, together with
the well-formedness of every row (`rowWF`: every cell is the first cell of a character of width
`n ≥ 1` followed by exactly `n-1` continuation cells inside the row — "runs of positive width
that sum to the screen width").

What is proved, and where the boundary is:
* Both policies, EVERY width function (characters of any width: U+2E3A is 3 cells, U+2E3B 4 in
  the real table): the full invariant `Term.wf` (= `Term.inv`: `Scr.inv` on both buffers, equal
  sizes) is inductive for every token and every resize (`apply_wf`, `resize_wf`, `reachable_wf`,
  `run_wf`), and every reported cursor position is inside the screen
  (`cursor_reports_in_range`). `Row.putKeep` keeps the row length and `rowWF` for kept / written /
  cut characters of every width (`putKeep_rowWF`; example with a width-3 character:
  `keep_policy_width3_keeps_geo`).
* `blank` policy (grid buffer): even `Term.geo` alone is inductive (`apply_geo_blank`).
* `keep` policy (span buffer): `Term.geo` alone is NOT inductive
  (`geo_alone_not_inductive_under_keep`); the well-formedness of rows is needed.
* When the width function is bounded by 2 under `keep` (`WidthOK`), the stronger invariant
  `Term.wfNarrow` (`Term.inv` + "no stored character wider than 2") is preserved as well
  (`apply_wfNarrow`).
* The agreement of `Line`, `StyledLine` and `ANSILine` is the subject of `Props/C02Span*.lean`
  (span buffer) and `Props/C20Grid*.lean` (grid buffer), not of this file.
-/
namespace TM

/-- `Scr.inv` without the well-formedness of the rows: `Geo` (`Proofs/Scr`, sizes, cursor, saved
    cursor, margins) and `h` rows of `w` cells -/
def Scr.geo (s : Scr) : Prop :=
  1 ≤ s.w ∧ 1 ≤ s.h ∧ s.grid.length = s.h ∧ (∀ r ∈ s.grid, r.length = s.w) ∧
  s.cx < s.w ∧ s.cy < s.h ∧ s.sx < s.w ∧ s.sy < s.h ∧ s.top ≤ s.bot ∧ s.bot < s.h

def Term.geo (t : Term) : Prop :=
  t.main.geo ∧ t.alt.geo ∧ t.main.w = t.alt.w ∧ t.main.h = t.alt.h

instance (s : Scr) : Decidable s.geo := by unfold Scr.geo; infer_instance
instance (t : Term) : Decidable t.geo := by unfold Term.geo; infer_instance

/-- the full invariant `Scr.inv` (geometry and well-formed rows) on both buffers, same size -/
def Term.inv (t : Term) : Prop :=
  t.main.inv = true ∧ t.alt.inv = true ∧ t.main.w = t.alt.w ∧ t.main.h = t.alt.h

/-- the invariant of reachable states: `Term.inv`, for both policies and every width function -/
def Term.wf (t : Term) : Prop := t.inv

def Scr.narrow (s : Scr) : Prop :=
  ∀ r ∈ s.grid, ∀ t w st, (⟨.ch t w, st⟩ : Cell) ∈ r → w ≤ 2

/-- a stronger invariant: `Term.inv`, and under the `keep` policy (span buffer) no stored
    character is wider than 2 cells. Preserved when the width function is bounded by 2
    (`apply_wfNarrow`). -/
def Term.wfNarrow (t : Term) : Prop :=
  t.inv ∧ (t.pol = .keep → t.main.narrow ∧ t.alt.narrow)

/-- under the `keep` policy widths are at most 2. The invariant theorems do NOT assume this, and
    it is false for the width table of the real terminal: U+2E3A is 3 cells wide, U+2E3B 4. -/
def WidthOK (pol : WidePolicy) (cw : Nat → Nat) : Prop := pol = .keep → ∀ cp, cw cp ≤ 2

end TM

namespace TM.C02

namespace Lemmas

theorem contAt_congr {r r' : Row} {x : Nat} (h : r'[x]? = r[x]?) : contAt r' x = contAt r x :=
  TM.contAt_congr h

theorem widthAt_pos (r : Row) (x : Nat) : 1 ≤ widthAt r x := TM.widthAt_pos r x

theorem getElem?_fitRow_new (r : Row) (w : Nat) (st : Style) (x : Nat) (hx : x < w)
    (hxr : r.length ≤ x) : (fitRow r w st)[x]? = some (blank st) :=
  TM.getElem?_fitRow_new r w st x hx hxr

theorem fitRow_self {r : Row} {w : Nat} (st : Style) (h : r.length = w) : fitRow r w st = r :=
  TM.fitRow_self st h

theorem fitRow_blankRow (w0 w : Nat) (st : Style) : fitRow (blankRow w0 st) w st = blankRow w st :=
  TM.fitRow_blankRow w0 w st

theorem fixTail_length (r : Row) (st : Style) : (fixTail r st).length = r.length :=
  TM.fixTail_length r st

theorem cutRow_length {r : Row} {W : Nat} (st : Style) (h : W ≤ r.length) :
    (cutRow r W st).length = W :=
  TM.cutRow_length st h

def okRow (B : Nat → Prop) (r : Row) : Prop :=
  rowWF r = true ∧ ∀ t w st, (⟨.ch t w, st⟩ : Cell) ∈ r → B w

/-! ### what the dispatcher needs from an invariant on rows -/

/-- `P` is an invariant on rows that all row operations used under policy `pol` preserve, for
    blanks in a style satisfying `St` and new characters satisfying `Tx`. Under the span policy
    its rows are well formed (`wf`): the length of `Row.putKeep` and where the cursor ends after it
    depend on that. Every `RowClosed` predicate is one (`RowClosed.rowInv`); the interface exists
    beside `RowClosed` for the one instance that is not: under the grid policy no row operation
    needs a well-formed row to keep the lengths, so `fun _ => True` is an invariant
    (`rowInv_trivial`), and that is how `apply_geo_blank` gets the geometry alone. -/
structure RowInv (pol : WidePolicy) (St : Style → Prop) (Tx : Bytes → Nat → Prop) (P : Row → Prop) :
    Prop where
  rep : Tx replacementChar 1
  sgr : ∀ {st : Style}, St st → ∀ qs, St (applySGR st qs)
  blank : ∀ w {st}, St st → P (blankRow w st)
  erase : ∀ {r : Row}, P r → ∀ a b {st}, St st → P (r.erase a b st)
  dch : ∀ {r : Row}, P r → ∀ x n {st}, St st → P (r.dch x n st)
  put : ∀ {r : Row} {x w : Nat}, P r → ∀ {t : Bytes} {st : Style}, 1 ≤ w → x + w ≤ r.length →
    Tx t w → St st → P (r.put x t w st)
  wf : pol = .keep → ∀ {r : Row}, P r → rowWF r = true
  putKeep : pol = .keep → ∀ {r : Row} {x w : Nat}, P r → ∀ {t : Bytes} {st : Style},
    contAt r x = true → 1 ≤ w → Tx t w → St st → P (r.putKeep x t w st)
  fit : ∀ {r : Row}, P r → ∀ w {st}, St st → P (fitRow r w st)

theorem closed_ok (B : Nat → Prop) : RowClosed (fun _ => True) (fun _ w => B w) (okRow B) :=
  -- `rowWF` with a condition on every cell (`RowClosed.cells`): a first cell has a width in `B`.
  -- `cells` states it of a cell `c` with `c.g = .ch t w`, `okRow` of a cell written `⟨.ch t w, st⟩`:
  -- `of_iff` passes from the one to the other
  (closed_wf.cells (St' := fun _ => True) (Tx' := fun _ w => B w)
    (fun c => ∀ t w, c.g = .ch t w → B w) fun {t w st} hb _ =>
      ⟨trivial, trivial, fun _ _ e => by cases e; exact hb, fun _ _ e => nomatch e⟩).of_iff
    fun r => and_congr_right fun _ => ⟨fun h t w st hm => h _ hm t w rfl,
      fun h c hc t w e => h t w c.sty (by cases c; cases e; exact hc)⟩

theorem _root_.TM.RowClosed.rowInv {St : Style → Prop} {Tx : Bytes → Nat → Prop} {P : Row → Prop}
    (C : RowClosed St Tx P) (hsp : Tx [0x20] 1) (hrep : Tx replacementChar 1) (hsgr : ∀ {st : Style}, St st → ∀ qs, St (applySGR st qs))
    (pol : WidePolicy) : RowInv pol St Tx P where
  rep := hrep
  sgr := hsgr
  blank := fun w _ hst => C.blanks hsp w hst
  erase := fun h a b _ hst => C.erase hsp h a b hst
  dch := fun h x n _ hst => C.dch hsp h x n hst
  put := fun h _ _ hw hxw hBw hst => C.put hsp h hw hxw hBw hst
  wf := fun _ _ h => C.wf h
  putKeep := fun _ _ _ _ h _ _ hc hw hBw hst => C.putKeep hsp h hc hw hBw hst
  fit := fun h w _ hst => C.fitRow hsp h w hst

theorem rowInv_ok (pol : WidePolicy) (B : Nat → Prop) (hB1 : B 1) :
    RowInv pol (fun _ => True) (fun _ w => B w) (okRow B) :=
  (closed_ok B).rowInv hB1 hB1 (fun _ _ => trivial) pol

theorem rowInv_trivial : RowInv .blank (fun _ => True) (fun _ _ => True) (fun _ => True) where
  rep := trivial
  sgr := fun _ _ => trivial
  blank := fun _ _ _ => trivial
  erase := fun _ _ _ _ _ => trivial
  dch := fun _ _ _ _ _ => trivial
  put := fun _ _ _ _ _ _ _ => trivial
  wf := fun hp => by cases hp
  putKeep := fun hp => by cases hp
  fit := fun _ _ _ _ => trivial

/-! ### screens -/

def SOk (P : Row → Prop) (s : Scr) : Prop := s.geo ∧ ∀ r ∈ s.grid, P r

def Keeps (St : Style → Prop) (P : Row → Prop) (s0 s : Scr) : Prop :=
  SOk P s ∧ s.w = s0.w ∧ s.h = s0.h ∧ St s.sty

section Screens
variable {St : Style → Prop} {Tx : Bytes → Nat → Prop} {P : Row → Prop} {pol : WidePolicy}

theorem keeps_refl {s : Scr} (h : SOk P s) (hst : St s.sty) : Keeps St P s s := ⟨h, rfl, rfl, hst⟩

theorem Keeps.sty {s0 s : Scr} (hk : Keeps St P s0 s) : St s.sty := hk.2.2.2

theorem geo_iff (s : Scr) :
    s.geo ↔ Geo s ∧ s.grid.length = s.h ∧ ∀ r ∈ s.grid, r.length = s.w := by
  unfold Scr.geo
  constructor
  · rintro ⟨a, b, c, d, e1, e2, e3, e4, e5, e6⟩; exact ⟨⟨a, b, e1, e2, e3, e4, e5, e6⟩, c, d⟩
  · rintro ⟨g, c, d⟩
    exact ⟨g.w_pos, g.h_pos, c, d, g.cx_lt, g.cy_lt, g.sx_lt, g.sy_lt, g.top_le, g.bot_lt⟩

theorem SOk.geo {s : Scr} (h : SOk P s) : Geo s := ((geo_iff s).1 h.1).1
theorem SOk.glen {s : Scr} (h : SOk P s) : s.grid.length = s.h := ((geo_iff s).1 h.1).2.1
theorem SOk.rlen {s : Scr} (h : SOk P s) : ∀ r ∈ s.grid, r.length = s.w := ((geo_iff s).1 h.1).2.2

theorem Keeps.geo {s0 s : Scr} (hk : Keeps St P s0 s) : Geo s := hk.1.geo

theorem keeps_grid {s0 s : Scr} (hk : Keeps St P s0 s) {g : List Row} (hl : g.length = s.h)
    (hr : ∀ r ∈ g, r.length = s.w ∧ P r) : Keeps St P s0 { s with grid := g } :=
  ⟨⟨(geo_iff _).2 ⟨hk.geo.grid g, hl, fun r m => (hr r m).1⟩, fun r m => (hr r m).2⟩, hk.2⟩

/-- a step that leaves size, rows and style alone keeps everything if it keeps `Geo`
    (`Proofs/Refine` has the reasons, operation by operation) -/
theorem keeps_scalars {s0 s s' : Scr} (hk : Keeps St P s0 s) (hw : s'.w = s.w) (hh : s'.h = s.h)
    (hg : s'.grid = s.grid) (hsty : s'.sty = s.sty) (hgeo : Geo s') : Keeps St P s0 s' := by
  obtain ⟨⟨hs, o⟩, hw0, hh0, hst⟩ := hk
  obtain ⟨_, hl, hr⟩ := (geo_iff s).1 hs
  exact ⟨⟨(geo_iff s').2 ⟨hgeo, by rw [hg, hh]; exact hl, by rw [hg, hw]; exact hr⟩, hg ▸ o⟩,
    hw.trans hw0, hh.trans hh0, hsty ▸ hst⟩

theorem keeps_cx {s0 s : Scr} (hk : Keeps St P s0 s) {x : Nat} (hx : x < s.w) :
    Keeps St P s0 { s with cx := x } := keeps_scalars hk rfl rfl rfl rfl (hk.geo.cx hx)

theorem keeps_sty {s0 s : Scr} (hk : Keeps St P s0 s) {st : Style} (hst : St st) :
    Keeps St P s0 { s with sty := st } := ⟨hk.1, hk.2.1, hk.2.2.1, hst⟩

theorem keeps_wrap {s0 s : Scr} (hk : Keeps St P s0 s) (v : Bool) : Keeps St P s0 { s with wrap := v } :=
  keeps_scalars hk rfl rfl rfl rfl (hk.geo.wrap v)

theorem keeps_setCursor {s0 s : Scr} (hk : Keeps St P s0 s) (x y : Int) :
    Keeps St P s0 (s.setCursor x y) := keeps_scalars hk rfl rfl rfl rfl (hk.geo.setCursor x y)

theorem keeps_setMargins {s0 s : Scr} (hk : Keeps St P s0 s) (t b : Int) :
    Keeps St P s0 (s.setMargins t b) := by
  have hg := hk.geo.setMargins t b
  rw [setMargins_eq] at hg ⊢
  by_cases h : b < t
  · rwa [if_pos h]
  · rw [if_neg h] at hg ⊢
    exact keeps_scalars hk rfl rfl rfl rfl hg

theorem keeps_saveCursor {s0 s : Scr} (hk : Keeps St P s0 s) : Keeps St P s0 s.saveCursor :=
  keeps_scalars hk rfl rfl rfl rfl hk.geo.saveCursor

theorem keeps_restoreCursor {s0 s : Scr} (hk : Keeps St P s0 s) : Keeps St P s0 s.restoreCursor :=
  keeps_scalars hk rfl rfl rfl rfl hk.geo.restoreCursor

theorem row_mem {s : Scr} (h : SOk P s) {y : Nat} (hy : y < s.h) : s.row y ∈ s.grid :=
  TM.row_mem s y (h.glen ▸ hy)

theorem keeps_setRow {s0 s : Scr} (hk : Keeps St P s0 s) (y : Nat) {r : Row} (hl : r.length = s.w)
    (ho : P r) : Keeps St P s0 (s.setRow y r) := by
  unfold Scr.setRow
  apply keeps_grid hk (by simp; exact hk.1.glen)
  intro r' hm
  rcases List.mem_or_eq_of_mem_set hm with hm | rfl
  · exact ⟨hk.1.rlen r' hm, hk.1.2 r' hm⟩
  · exact ⟨hl, ho⟩

/-- a step that only moves rows and brings in blank rows of the current style: it keeps
    everything if it keeps `Geo` -/
theorem keeps_rows (I : RowInv pol St Tx P) {s0 s s' : Scr} (hk : Keeps St P s0 s) (f : s.Shift s')
    (hgeo : Geo s') : Keeps St P s0 s' := by
  have hl := f.len hk.1.glen
  have hrow : ∀ r ∈ s'.grid, r.length = s.w ∧ P r := fun r m =>
    (f.mem m).elim (fun m => ⟨hk.1.rlen r m, hk.1.2 r m⟩)
      fun e => e ▸ ⟨by simp [blankRow], I.blank _ hk.sty⟩
  exact ⟨⟨(geo_iff s').2 ⟨hgeo, hl.trans (hk.1.glen.trans f.h.symm), fun r m => f.w ▸ (hrow r m).1⟩,
    fun r m => (hrow r m).2⟩, f.w.trans hk.2.1, f.h.trans hk.2.2.1, f.sty ▸ hk.sty⟩

theorem keeps_scroll (I : RowInv pol St Tx P) {s0 s : Scr} (hk : Keeps St P s0 s) (y1 y2 : Nat) (d : Int) :
    Keeps St P s0 (s.scroll y1 y2 d) :=
  keeps_rows I hk (shift_scroll ..) (hk.geo.scroll ..)

theorem keeps_lineDown (I : RowInv pol St Tx P) {s0 s : Scr} (hk : Keeps St P s0 s) : Keeps St P s0 s.lineDown :=
  keeps_rows I hk (shift_lineDown s) hk.geo.lineDown

theorem keeps_lineUp (I : RowInv pol St Tx P) {s0 s : Scr} (hk : Keeps St P s0 s) : Keeps St P s0 s.lineUp :=
  keeps_rows I hk (shift_lineUp s) hk.geo.lineUp

theorem keeps_eraseRegion (I : RowInv pol St Tx P) {s0 s : Scr} (hk : Keeps St P s0 s) (x1 y1 x2 y2 : Nat) :
    Keeps St P s0 (s.eraseRegion x1 y1 x2 y2) := by
  unfold Scr.eraseRegion
  apply keeps_grid hk (by simp; exact hk.1.glen)
  intro r hm
  obtain ⟨i, hi, rfl⟩ := List.mem_mapIdx.1 hm
  have hmem : s.grid[i] ∈ s.grid := List.getElem_mem hi
  split
  · exact ⟨by rw [erase_length]; exact hk.1.rlen _ hmem, I.erase (hk.1.2 _ hmem) _ _ hk.sty⟩
  · exact ⟨hk.1.rlen _ hmem, hk.1.2 _ hmem⟩

theorem keeps_eraseRegionI (I : RowInv pol St Tx P) {s0 s : Scr} (hk : Keeps St P s0 s) (x1 y1 x2 y2 : Int) :
    Keeps St P s0 (s.eraseRegionI x1 y1 x2 y2) := by
  unfold Scr.eraseRegionI
  exact keeps_eraseRegion I hk _ _ _ _

theorem keeps_dch (I : RowInv pol St Tx P) {s0 s : Scr} (hk : Keeps St P s0 s) (n : Nat) : Keeps St P s0 (s.dch n) := by
  unfold Scr.dch
  have hm := row_mem hk.1 hk.1.geo.cy_lt
  exact keeps_setRow hk _ (by rw [dch_length]; exact hk.1.rlen _ hm) (I.dch (hk.1.2 _ hm) _ _ hk.sty)

/-! ### `Scr.put` -/

theorem keeps_wrapped (I : RowInv pol St Tx P) {s0 s s' : Scr} {k : Nat} (hk : Keeps St P s0 s)
    (h : s.Wrapped k s') (hx : s'.cx < s.w) : Keeps St P s0 s' :=
  keeps_rows I hk h.shift (hk.geo.wrapped h hx)

theorem keeps_put (I : RowInv pol St Tx P) {s0 s : Scr} (hk : Keeps St P s0 s)
    (text0 : Bytes) (w0 : Nat) (hBw : Tx text0 (max w0 1)) :
    Keeps St P s0 (Scr.put pol s text0 w0) := by
  rw [TM.put_eq]
  have hw1 : 1 ≤ Scr.effW s w0 := effW_pos s w0
  have hws : Scr.effW s w0 ≤ s.w := effW_le s w0 hk.1.geo.w_pos
  have hBw' : Tx (Scr.effText s text0 w0) (Scr.effW s w0) := by
    unfold Scr.effText Scr.effW; split; exact I.rep; exact hBw
  generalize Scr.effW s w0 = w at hw1 hws hBw'
  generalize Scr.effText s text0 w0 = text at hBw'
  obtain ⟨hx1, hfit⟩ := putPre_cx s hws
  have hk1 := keeps_wrapped I hk (s.putPre_wrapped w) (Nat.lt_of_le_of_lt hx1 hk.1.geo.cx_lt)
  rw [← (s.putPre_wrapped w).shift.w] at hfit
  generalize Scr.putPre s w = s1 at hk1 hfit
  have hm := row_mem hk1.1 hk1.1.geo.cy_lt
  have hrl := hk1.1.rlen _ hm
  have hro := hk1.1.2 _ hm
  unfold Scr.putRow Scr.putX
  by_cases hkeep : (contAt (s1.row s1.cy) s1.cx && pol == .keep) = true
  · simp only [hkeep, if_true]
    simp only [Bool.and_eq_true, beq_iff_eq] at hkeep
    have hwf := I.wf hkeep.2 hro
    obtain ⟨e1, e2, x0⟩ := C02Span.endOf_bounds hwf hkeep.1
    simp only [C02Span.endOf, hkeep.1, if_true] at e1 e2
    refine keeps_wrapped I (keeps_setRow hk1 _ ((putKeep_length _ _ _ _ _ hwf hkeep.1).trans hrl)
      (I.putKeep hkeep.2 hro hkeep.1 hw1 hBw' hk1.sty)) (Scr.putFinish_wrapped _ _)
      (putFinish_cx _ hk1.1.geo.w_pos ?_)
    simp only [Scr.setRow]
    -- the kept character starts left of the cursor and ends inside the row, so the cursor aims less
    -- than one row width beyond the right edge
    rw [hrl] at e2
    omega
  · simp only [hkeep, Bool.false_eq_true, if_false]
    refine keeps_wrapped I (keeps_setRow hk1 _ (by rw [put_length]; exact hrl)
      (I.put hro hw1 (by rw [hrl]; exact hfit) hBw' hk1.sty)) (Scr.putFinish_wrapped _ _)
      (putFinish_cx _ hk1.1.geo.w_pos ?_)
    simp only [Scr.setRow]
    have := hk1.1.geo.w_pos
    omega

/-! ### `Scr.resize`, `Scr.init` -/

theorem geo_resize (s : Scr) (w h : Nat) (hw : 1 ≤ w) (hh : 1 ≤ h) : (s.resize w h).geo := by
  refine (geo_iff _).2 ⟨TM.resize_geo hw hh, resize_grid_length s w h, fun r hr => ?_⟩
  rcases resize_mem hr with ⟨r0, _, rfl⟩ | rfl
  · exact fitRow_length ..
  · exact blankRow_length ..

theorem sok_resize (I : RowInv pol St Tx P) (s : Scr) (hrows : ∀ r ∈ s.grid, P r) (hst : St s.sty) (w h : Nat)
    (hw : 1 ≤ w) (hh : 1 ≤ h) : SOk P (s.resize w h) := by
  refine ⟨geo_resize s w h hw hh, fun r hr => ?_⟩
  rcases resize_mem hr with ⟨r0, hr0, rfl⟩ | rfl
  · exact I.fit (hrows r0 hr0) _ hst
  · exact I.blank _ hst

theorem sok_init {w h : Nat} (hb : P (blankRow w Style.default)) (hw : 1 ≤ w) (hh : 1 ≤ h) :
    SOk P (Scr.init w h) := by
  refine ⟨⟨hw, hh, by simp [Scr.init], ?_, hw, hh, hw, hh, Nat.zero_le _, ?_⟩, ?_⟩
  · intro r hr
    simp only [Scr.init, List.mem_replicate] at hr
    rw [hr.2]; simp [blankRow, Scr.init]
  · simp only [Scr.init]; omega
  · intro r hr
    simp only [Scr.init, List.mem_replicate] at hr
    rw [hr.2]; exact hb

end Screens

/-! ### terminals -/

def TOk (P : Row → Prop) (t : Term) : Prop :=
  SOk P t.main ∧ SOk P t.alt ∧ t.main.w = t.alt.w ∧ t.main.h = t.alt.h

/-- what one step of the terminal guarantees: the invariant, unchanged size and policy, and
    every reported cursor position inside the screen -/
def Good (P : Row → Prop) (t : Term) (r : Term × List Ev) : Prop :=
  TOk P r.1 ∧ r.1.main.w = t.main.w ∧ r.1.main.h = t.main.h ∧ r.1.pol = t.pol ∧
  ∀ x y, Ev.cursor x y ∈ r.2 → x < t.main.w ∧ y < t.main.h

def StOk (St : Style → Prop) (t : Term) : Prop := St t.main.sty ∧ St t.alt.sty

def GoodS (St : Style → Prop) (P : Row → Prop) (t : Term) (r : Term × List Ev) : Prop :=
  Good P t r ∧ StOk St r.1

def cursors (evs : List Ev) : List (Nat × Nat) :=
  evs.filterMap fun | .cursor x y => some (x, y) | _ => none

/-- a list of events that holds one `.cursor a b` (`hc` is `rfl` on a list written out) reports
    no other position -/
theorem cursor_of_mem {evs : List Ev} {a b x y : Nat} (hc : cursors evs = [(a, b)])
    (hm : Ev.cursor x y ∈ evs) : x = a ∧ y = b := by
  have : (x, y) ∈ cursors evs := List.mem_filterMap.2 ⟨_, hm, rfl⟩
  rw [hc, List.mem_singleton] at this
  exact Prod.mk.inj this

section Terms
variable {St : Style → Prop} {Tx : Bytes → Nat → Prop} {P : Row → Prop} {pol : WidePolicy}

theorem scr_ok {t : Term} (h : TOk P t) :
    SOk P t.scr ∧ t.scr.w = t.main.w ∧ t.scr.h = t.main.h :=
  Term.scr_both (Q := fun s => SOk P s ∧ s.w = t.main.w ∧ s.h = t.main.h) ⟨h.1, rfl, rfl⟩
    ⟨h.2.1, h.2.2.1.symm, h.2.2.2.symm⟩

theorem StOk.scr {t : Term} (hs : StOk St t) : St t.scr.sty :=
  Term.scr_both (Q := fun s => St s.sty) hs.1 hs.2

theorem good_same {t t' : Term} {evs : List Ev} (h : TOk P t) (hs : StOk St t) (hm : t'.main = t.main)
    (ha : t'.alt = t.alt) (hp : t'.pol = t.pol) (hev : ∀ x y, Ev.cursor x y ∉ evs) :
    GoodS St P t (t', evs) := by
  refine ⟨⟨?_, by rw [hm], by rw [hm], hp, fun x y hm' => absurd hm' (hev x y)⟩, ?_⟩
  · unfold TOk; rw [hm, ha]; exact h
  · unfold StOk; rw [hm, ha]; exact hs

theorem good_id {t : Term} {evs : List Ev} (h : TOk P t) (hs : StOk St t)
    (hev : ∀ x y, Ev.cursor x y ∉ evs) : GoodS St P t (t, evs) := good_same h hs rfl rfl rfl hev

theorem good_setScr {t : Term} {s' : Scr} {evs : List Ev} (h : TOk P t) (hs : StOk St t)
    (hk : Keeps St P t.scr s')
    (hev : ∀ x y, Ev.cursor x y ∈ evs → x < s'.w ∧ y < s'.h) : GoodS St P t (t.setScr s', evs) := by
  obtain ⟨_, hw, hh⟩ := scr_ok h
  obtain ⟨ok', w', h', st'⟩ := hk
  have hev' : ∀ x y, Ev.cursor x y ∈ evs → x < t.main.w ∧ y < t.main.h := by
    intro x y hm
    have := hev x y hm
    rw [w', h', hw, hh] at this; exact this
  unfold Term.setScr
  unfold Term.scr at w' h'
  split
  · next halt =>
    simp only [halt, if_true] at w' h'
    exact ⟨⟨⟨h.1, ok', h.2.2.1.trans w'.symm, h.2.2.2.trans h'.symm⟩, rfl, rfl, rfl, hev'⟩, hs.1, st'⟩
  · next halt =>
    simp only [halt] at w' h'
    exact ⟨⟨⟨ok', h.2.1, w'.trans h.2.2.1, h'.trans h.2.2.2⟩, w', h', rfl, hev'⟩, st', hs.2⟩

theorem good_setScr_quiet {t : Term} {s' : Scr} {evs : List Ev} (h : TOk P t) (hs : StOk St t)
    (hk : Keeps St P t.scr s') (hev : ∀ x y, Ev.cursor x y ∉ evs) : GoodS St P t (t.setScr s', evs) :=
  good_setScr h hs hk (fun x y hm => absurd hm (hev x y))

theorem good_withScr {t : Term} {s' : Scr} (h : TOk P t) (hs : StOk St t) (hk : Keeps St P t.scr s') :
    GoodS St P t (t.withScr s') := by
  unfold Term.withScr
  apply good_setScr h hs hk
  intro x y hm
  obtain ⟨rfl, rfl⟩ := cursor_of_mem rfl hm
  exact ⟨hk.1.geo.cx_lt, hk.1.geo.cy_lt⟩

theorem good_trans {t : Term} {r1 r2 : Term × List Ev} (h1 : GoodS St P t r1)
    (h2 : GoodS St P r1.1 r2) : GoodS St P t (r2.1, r1.2 ++ r2.2) := by
  obtain ⟨⟨a1, b1, c1, d1, e1⟩, _⟩ := h1
  obtain ⟨⟨a2, b2, c2, d2, e2⟩, s2⟩ := h2
  refine ⟨⟨a2, b2.trans b1, c2.trans c1, d2.trans d1, ?_⟩, s2⟩
  intro x y hm
  rcases List.mem_append.1 hm with hm | hm
  · exact e1 x y hm
  · have := e2 x y hm
    rw [b1, c1] at this; exact this

theorem good_setVFlag {t : Term} (h : TOk P t) (hs : StOk St t) (i : Nat) (v : Bool) :
    GoodS St P t (t.setVFlag i v) := good_same h hs rfl rfl rfl (by simp)

theorem good_setVInt {t : Term} (h : TOk P t) (hs : StOk St t) (i : Nat) (v : Int) :
    GoodS St P t (t.setVInt i v) := good_same h hs rfl rfl rfl (by simp)

theorem goodS_setVStr {t : Term} (h : TOk P t) (hs : StOk St t) (i : Nat) (v : Bytes) :
    GoodS St P t (t.setVStr i v) := good_same h hs rfl rfl rfl (by simp)

theorem good_setVStr {t : Term} (h : TOk P t) (i : Nat) (v : Bytes) : Good P t (t.setVStr i v) :=
  (goodS_setVStr (St := fun _ => True) h ⟨trivial, trivial⟩ i v).1

theorem good_setKbd {t : Term} (h : TOk P t) (hs : StOk St t) (k : Kbd) :
    GoodS St P t (t.setKbd k, []) :=
  good_same h hs (t.setKbd_main k) (t.setKbd_alt k) (t.setKbd_pol k) (by simp)

theorem good_switchScreen {t : Term} (h : TOk P t) (hs : StOk St t) (v : Bool) :
    GoodS St P t (t.switchScreen v) := by
  unfold Term.switchScreen
  split
  · exact good_id h hs (by simp)
  · simp only
    have h' : TOk P { t with onAlt := v } := h
    obtain ⟨hs', hw, hh⟩ := scr_ok h'
    refine ⟨⟨h, rfl, rfl, rfl, ?_⟩, hs⟩
    intro x y hm
    obtain ⟨rfl, rfl⟩ := cursor_of_mem rfl hm
    exact ⟨hw ▸ hs'.geo.cx_lt, hh ▸ hs'.geo.cy_lt⟩

theorem good_decMode {t : Term} (h : TOk P t) (hs : StOk St t) (p : Int) (v : Bool) :
    GoodS St P t (t.decMode p v) :=
  t.decMode_cases p v (flag := (good_setVFlag h hs · v)) (int := good_setVInt h hs)
    (wrap := fun _ => good_setScr_quiet h hs (keeps_wrap (keeps_refl (scr_ok h).1 hs.scr) _) (by simp))
    (switch := fun _ => good_switchScreen h hs v) (none := good_id h hs (by simp))

theorem good_decModes {t : Term} (h : TOk P t) (hs : StOk St t) (v : Bool) (ps : List Int) :
    GoodS St P t (t.decModes v ps) := by
  induction ps generalizing t with
  | nil => exact good_id h hs (by simp)
  | cons p ps ih =>
    have h1 := good_decMode h hs p v
    exact good_trans h1 (ih h1.1.1 h1.2)

theorem good_csiPlain (I : RowInv pol St Tx P) {t : Term} (h : TOk P t) (hs : StOk St t)
    (ps : List Int) (fin : UInt8) : GoodS St P t (t.csiPlain ps fin) := by
  have hk := keeps_refl (scr_ok h).1 hs.scr
  have quiet {s' evs} (hk' : Keeps St P t.scr s') (hev : ∀ x y, Ev.cursor x y ∉ evs) :=
    good_setScr_quiet h hs hk' hev
  have erase (x1 y1 x2 y2) := keeps_eraseRegionI I hk x1 y1 x2 y2
  refine t.csiPlain_cases ps fin (none := good_id h hs (by simp))
    (reply := fun _ _ => good_id h hs (by simp))
    (move := fun _ _ => good_withScr h hs (keeps_setCursor hk _ _))
    (restore := good_withScr h hs (keeps_restoreCursor hk))
    (save := quiet (keeps_saveCursor hk) (by simp))
    (sgr := fun _ => quiet (keeps_sty hk (I.sgr hs.scr _)) (by simp))
    (margins := fun _ _ => quiet (keeps_setMargins hk _ _) (by simp))
    (eraseRow := fun _ _ _ _ _ => quiet (erase ..) (by simp))
    (ed0 := fun _ => quiet (keeps_eraseRegionI I (erase ..) ..) (by simp))
    (ed1 := fun _ => quiet (keeps_eraseRegionI I (erase ..) ..) (by simp)) (ed2 := fun _ => ?_)
    (scroll := fun _ _ _ => quiet (keeps_scroll I hk _ _ _) (by simp))
    (dch := fun _ _ => quiet (keeps_dch I hk _) (by simp))
  -- ED 2 reports the home position
  have hk2 := keeps_setCursor (erase 0 0 t.scr.w t.scr.h) 0 0
  refine good_setScr h hs hk2 fun x y hm => ?_
  obtain ⟨rfl, rfl⟩ := cursor_of_mem rfl hm
  exact ⟨hk2.1.geo.w_pos, hk2.1.geo.h_pos⟩

theorem good_csi (I : RowInv pol St Tx P) {t : Term} (h : TOk P t) (hs : StOk St t) (pfx : UInt8)
    (ps : List Int) (fin : UInt8) : GoodS St P t (t.csi pfx ps fin) :=
  t.csi_cases pfx ps fin (plain := fun _ => good_csiPlain I h hs ps fin)
    (modes := fun _ _ v => good_decModes h hs v ps) (none := good_id h hs (by simp))
    (reply := fun _ _ => good_id h hs (by simp)) (int := good_setVInt h hs 2)
    (kbd := fun _ => good_setKbd h hs)

/-- every token keeps `TOk P` and the styles in `St`, for any row invariant `P` that the row
    operations keep when they write blanks in a style satisfying `St` and characters satisfying
    `Tx` (text and width): what a text token carries must satisfy `Tx` -/
theorem good_apply {t : Term} (I : RowInv t.pol St Tx P) (cw : Nat → Nat) (tok : Tok)
    (hcw : ∀ stored cp, tok = .text stored cp → Tx stored (max (cw cp) 1)) (h : TOk P t)
    (hs : StOk St t) : GoodS St P t (t.apply cw tok) := by
  have hso := (scr_ok h).1
  have hk := keeps_refl hso hs.scr
  refine t.apply_cases cw tok (text := fun stored cp e => ?_) (none := good_id h hs (by simp))
    (bell := good_id h hs (by simp))
    (cx := fun x hx => good_withScr h hs (keeps_cx hk (Nat.lt_of_le_of_lt hx hso.geo.cx_lt)))
    (move := fun _ _ => good_withScr h hs (keeps_setCursor hk _ _))
    (lf := fun _ => good_withScr h hs (keeps_lineDown I (keeps_cx hk hso.geo.w_pos)))
    (down := fun _ => good_withScr h hs (keeps_lineDown I hk))
    (up := fun _ => good_withScr h hs (keeps_lineUp I hk))
    (flag := good_setVFlag h hs) (str := goodS_setVStr h hs)
    (csi := fun _ _ _ _ => good_csi I h hs _ _ _)
  · have hk' := keeps_put I hk stored (cw cp) (hcw stored cp e)
    refine good_setScr h hs hk' fun x y hm => ?_
    obtain ⟨rfl, rfl⟩ := cursor_of_mem rfl hm
    exact ⟨hk'.1.geo.cx_lt, hk'.1.geo.cy_lt⟩

end Terms

/-! ### the invariant in terms of `Scr.inv` -/

/-- the width bound that goes with a policy -/
def Bof (pol : WidePolicy) : Nat → Prop := fun w => pol = .keep → w ≤ 2

theorem Bof_one (pol : WidePolicy) : Bof pol 1 := fun _ => by omega

theorem sok_iff (B : Nat → Prop) (s : Scr) :
    SOk (okRow B) s ↔ s.inv = true ∧ ∀ r ∈ s.grid, ∀ t w st, (⟨.ch t w, st⟩ : Cell) ∈ r → B w := by
  unfold SOk
  rw [geo_iff, inv_iff_geo]
  constructor
  · rintro ⟨⟨g, l, d⟩, o⟩
    exact ⟨⟨l, fun r m => ⟨d r m, (o r m).1⟩, g⟩, fun r m => (o r m).2⟩
  · rintro ⟨⟨l, d, g⟩, o⟩
    exact ⟨⟨g, l, fun r m => (d r m).1⟩, fun r m => ⟨(d r m).2, o r m⟩⟩

def Top : Nat → Prop := fun _ => True

theorem rowInv_top (pol : WidePolicy) : RowInv pol (fun _ => True) (fun _ w => Top w) (okRow Top) :=
  rowInv_ok pol _ trivial

theorem wf_iff (t : Term) : t.wf ↔ TOk (okRow Top) t := by
  unfold Term.wf Term.inv TOk
  rw [sok_iff, sok_iff]
  constructor
  · rintro ⟨a, b, c, d⟩
    exact ⟨⟨a, fun _ _ _ _ _ _ => trivial⟩, ⟨b, fun _ _ _ _ _ _ => trivial⟩, c, d⟩
  · rintro ⟨⟨a, _⟩, ⟨b, _⟩, c, d⟩
    exact ⟨a, b, c, d⟩

theorem wfNarrow_iff (t : Term) : t.wfNarrow ↔ TOk (okRow (Bof t.pol)) t := by
  unfold Term.wfNarrow Term.inv TOk
  rw [sok_iff, sok_iff]
  unfold Scr.narrow Bof
  constructor
  · rintro ⟨⟨a, b, c, d⟩, n⟩
    exact ⟨⟨a, fun r m t' w st hm hp => (n hp).1 r m t' w st hm⟩,
      ⟨b, fun r m t' w st hm hp => (n hp).2 r m t' w st hm⟩, c, d⟩
  · rintro ⟨⟨a, n1⟩, ⟨b, n2⟩, c, d⟩
    exact ⟨⟨a, b, c, d⟩, fun hp => ⟨fun r m t' w st hm => n1 r m t' w st hm hp,
      fun r m t' w st hm => n2 r m t' w st hm hp⟩⟩

theorem TOk.geo {P : Row → Prop} {t : Term} (h : TOk P t) : t.geo := ⟨h.1.1, h.2.1.1, h.2.2⟩

theorem good_apply_wf (cw : Nat → Nat) (t : Term) (h : t.wf) (tok : Tok) :
    Good (okRow Top) t (t.apply cw tok) :=
  (good_apply (rowInv_top t.pol) cw tok (fun _ _ _ => trivial) ((wf_iff t).1 h) ⟨trivial, trivial⟩).1

theorem good_apply_wfNarrow (cw : Nat → Nat) (t : Term) (hcw : WidthOK t.pol cw) (h : t.wfNarrow)
    (tok : Tok) : Good (okRow (Bof t.pol)) t (t.apply cw tok) := by
  refine (good_apply (rowInv_ok t.pol _ (Bof_one t.pol)) cw tok (fun _ cp _ hp => ?_) ((wfNarrow_iff t).1 h)
    ⟨trivial, trivial⟩).1
  have := hcw hp cp
  omega

end Lemmas
open Lemmas

/-! ## the initial state; `wf` gives `geo` and `inv` -/

theorem init_wf (pol : WidePolicy) (w h : Nat) (hw : 1 ≤ w) (hh : 1 ≤ h) : (Term.init pol w h).wf :=
  (wf_iff _).2 ⟨sok_init ((rowInv_top pol).blank w trivial) hw hh,
    sok_init ((rowInv_top pol).blank w trivial) hw hh, rfl, rfl⟩

theorem init_geo (pol : WidePolicy) (w h : Nat) (hw : 1 ≤ w) (hh : 1 ≤ h) : (Term.init pol w h).geo :=
  TOk.geo ((wf_iff _).1 (init_wf pol w h hw hh))

theorem wf_geo {t : Term} (h : t.wf) : t.geo := TOk.geo ((wf_iff t).1 h)

theorem wf_inv {t : Term} (h : t.wf) : t.main.inv = true ∧ t.alt.inv = true := ⟨h.1, h.2.1⟩

/-! ## every token -/

/-- Every token — text of any bytes and any width, every control, every CSI with arbitrary
    parameters, OSC, DCS, ESC — keeps the invariant of reachable states: `Scr.inv` on both
    buffers, equal sizes. Under BOTH policies the width function is arbitrary (characters of
    width 3, 4, … included). -/
theorem apply_wf (cw : Nat → Nat) (t : Term) (h : t.wf) (tok : Tok) :
    (t.apply cw tok).1.wf := by
  obtain ⟨a, _, _, d, _⟩ := good_apply_wf cw t h tok
  rw [wf_iff]; exact a

theorem apply_pol (cw : Nat → Nat) (t : Term) (h : t.wf) (tok : Tok) : (t.apply cw tok).1.pol = t.pol :=
  have ⟨_, _, _, hpol, _⟩ := good_apply_wf cw t h tok
  hpol

theorem apply_geo (cw : Nat → Nat) (t : Term) (h : t.wf) (tok : Tok) :
    (t.apply cw tok).1.geo := wf_geo (apply_wf cw t h tok)

/-- `apply_wf` with `Term.wf` spelled out -/
theorem apply_inv (cw : Nat → Nat) (t : Term) (h : t.inv) (tok : Tok) : (t.apply cw tok).1.inv :=
  apply_wf cw t h tok

/-- the stronger invariant is preserved when the width function is bounded by 2 under the
    `keep` policy: then no stored character is ever wider than 2 cells -/
theorem apply_wfNarrow (cw : Nat → Nat) (t : Term) (hcw : WidthOK t.pol cw) (h : t.wfNarrow)
    (tok : Tok) : (t.apply cw tok).1.wfNarrow := by
  obtain ⟨a, _, _, d, _⟩ := good_apply_wfNarrow cw t hcw h tok
  rw [wfNarrow_iff, d]; exact a

theorem wfNarrow_wf {t : Term} (h : t.wfNarrow) : t.wf := h.1

/-- grid buffer (`blank` policy): `Scr.inv` of both buffers is preserved by every token for
    EVERY width function (special case of `apply_inv`; the hypothesis on the policy is not
    needed) -/
theorem apply_inv_blank (cw : Nat → Nat) (t : Term) (_hp : t.pol = .blank) (h : t.inv) (tok : Tok) :
    (t.apply cw tok).1.inv :=
  apply_wf cw t h tok

/-- grid buffer (`blank` policy): the geometric invariant ALONE is preserved by every token, for
    EVERY width function and from EVERY state satisfying it (rows well formed or not); and the
    reported cursor positions are inside the screen. (Under `keep` this is false, see
    `geo_alone_not_inductive_under_keep`.) -/
theorem apply_geo_blank (cw : Nat → Nat) (t : Term) (hp : t.pol = .blank) (h : t.geo) (tok : Tok) :
    (t.apply cw tok).1.geo ∧ (t.apply cw tok).1.pol = .blank ∧
    ∀ x y, Ev.cursor x y ∈ (t.apply cw tok).2 →
      x < (t.apply cw tok).1.scr.w ∧ y < (t.apply cw tok).1.scr.h := by
  have I : RowInv t.pol (fun _ => True) (fun _ _ => True) (fun _ => True) := by
    rw [hp]; exact rowInv_trivial
  obtain ⟨⟨a, b, c, d, e⟩, _⟩ := good_apply I cw tok (fun _ _ _ => trivial)
    ⟨⟨h.1, fun _ _ => trivial⟩, ⟨h.2.1, fun _ _ => trivial⟩, h.2.2⟩ ⟨trivial, trivial⟩
  refine ⟨TOk.geo a, d.trans hp, ?_⟩
  obtain ⟨_, e1, e2⟩ := scr_ok a
  rw [e1, e2, b, c]
  exact e

theorem apply_size (cw : Nat → Nat) (t : Term) (h : t.wf) (tok : Tok) :
    let t' := (t.apply cw tok).1
    t'.main.w = t.main.w ∧ t'.main.h = t.main.h ∧ t'.alt.w = t.alt.w ∧ t'.alt.h = t.alt.h ∧
      t'.scr.w = t.scr.w ∧ t'.scr.h = t.scr.h ∧ t'.pol = t.pol := by
  obtain ⟨a, b, c, d, _⟩ := good_apply_wf cw t h tok
  have h0 := (wf_iff t).1 h
  obtain ⟨_, e1, e2⟩ := scr_ok a
  obtain ⟨_, f1, f2⟩ := scr_ok h0
  refine ⟨b, c, ?_, ?_, ?_, ?_, d⟩
  · rw [← a.2.2.1, b, h0.2.2.1]
  · rw [← a.2.2.2, c, h0.2.2.2]
  · rw [e1, b, f1]
  · rw [e2, c, f2]

/-! ## resize -/

theorem resize_geo (t : Term) (w h : Nat) (hw : 1 ≤ w) (hh : 1 ≤ h) : (t.resize w h).1.geo :=
  ⟨geo_resize t.main w h hw hh, geo_resize t.alt w h hw hh, rfl, rfl⟩

theorem resize_wf (t : Term) (w h : Nat) (hw : 1 ≤ w) (hh : 1 ≤ h) (ht : t.wf) :
    (t.resize w h).1.wf := by
  have h0 := (wf_iff t).1 ht
  rw [wf_iff]
  exact ⟨sok_resize (rowInv_top t.pol) t.main h0.1.2 trivial w h hw hh,
    sok_resize (rowInv_top t.pol) t.alt h0.2.1.2 trivial w h hw hh, rfl, rfl⟩

/-! ## every reachable state -/

/-- what can happen to a terminal: a token arrives, or the frontend resizes -/
inductive Op
  | tok (k : Tok)
  | resize (w h : Nat)

/-- `Resize` is only ever called with positive sizes -/
def Op.valid : Op → Prop
  | .tok _ => True
  | .resize w h => 1 ≤ w ∧ 1 ≤ h

def Op.step (cw : Nat → Nat) (t : Term) : Op → Term
  | .tok k => (t.apply cw k).1
  | .resize w h => (t.resize w h).1

def runOps (cw : Nat → Nat) (t : Term) (ops : List Op) : Term := ops.foldl (Op.step cw) t

theorem step_wf (cw : Nat → Nat) (t : Term) (h : t.wf) (op : Op)
    (hv : op.valid) : (op.step cw t).wf ∧ (op.step cw t).pol = t.pol := by
  cases op with
  | tok k => exact ⟨apply_wf cw t h k, apply_pol cw t h k⟩
  | resize w h' => exact ⟨resize_wf t w h' hv.1 hv.2 h, rfl⟩

theorem runOps_wf (cw : Nat → Nat) (t : Term) (h : t.wf) (ops : List Op)
    (hv : ∀ op ∈ ops, op.valid) : (runOps cw t ops).wf ∧ (runOps cw t ops).pol = t.pol :=
  foldl_inv (I := fun t' => t'.wf ∧ t'.pol = t.pol)
    (fun t' op h' hv => ⟨(step_wf cw t' h'.1 op hv).1, (step_wf cw t' h'.1 op hv).2.trans h'.2⟩) ⟨h, rfl⟩ hv

/-- Every state reachable from the initial state by tokens and resizes (to positive sizes), in
    any order, satisfies the invariant (`Scr.inv` on both buffers). -/
theorem reachable_wf (cw : Nat → Nat) (pol : WidePolicy) (w h : Nat)
    (hw : 1 ≤ w) (hh : 1 ≤ h) (ops : List Op) (hv : ∀ op ∈ ops, op.valid) :
    (runOps cw (Term.init pol w h) ops).wf :=
  (runOps_wf cw _ (init_wf pol w h hw hh) ops hv).1

/-- the geometric invariant holds after every prefix of the operations -/
theorem reachable_geo (cw : Nat → Nat) (pol : WidePolicy) (w h : Nat)
    (hw : 1 ≤ w) (hh : 1 ≤ h) (ops : List Op) (hv : ∀ op ∈ ops, op.valid) (n : Nat) :
    (runOps cw (Term.init pol w h) (ops.take n)).geo :=
  wf_geo (reachable_wf cw pol w h hw hh _ (fun o ho => hv o (List.mem_of_mem_take ho)))

theorem runFuel_wf (cw : Nat → Nat) (fuel : Nat) (t : Term) (h : t.wf)
    (bs : Bytes) (evs : List Ev) :
    (runFuel cw fuel t bs evs).1.wf ∧ (runFuel cw fuel t bs evs).1.pol = t.pol :=
  runFuel_inv cw (P := fun _ => True) (I := fun t' => t'.wf ∧ t'.pol = t.pol) (fun _ _ _ _ => trivial)
    (fun t' tk h' _ => ⟨apply_wf cw t' h'.1 tk, (apply_pol cw t' h'.1 tk).trans h'.2⟩) ⟨h, rfl⟩ fuel bs evs

/-- the read loop: after processing any byte string the invariant holds -/
theorem run_wf (cw : Nat → Nat) (t : Term) (h : t.wf) (bs : Bytes) :
    (run cw t bs).1.wf := (runFuel_wf cw _ t h bs []).1

theorem run_geo (cw : Nat → Nat) (t : Term) (h : t.wf) (bs : Bytes) :
    (run cw t bs).1.geo := wf_geo (run_wf cw t h bs)

theorem run_pol (cw : Nat → Nat) (t : Term) (h : t.wf) (bs : Bytes) :
    (run cw t bs).1.pol = t.pol := (runFuel_wf cw _ t h bs []).2

/-- grid buffer: the read loop keeps the geometric invariant alone, for every width function -/
theorem run_geo_blank (cw : Nat → Nat) (t : Term) (hp : t.pol = .blank) (h : t.geo) (bs : Bytes) :
    (run cw t bs).1.geo := (run_inv cw (P := fun _ => True) (I := fun t' => t'.pol = .blank ∧ t'.geo)
    (fun _ _ _ _ => trivial) (fun t' tk h' _ => have ⟨a, b, _⟩ := apply_geo_blank cw t' h'.1 h'.2 tk; ⟨b, a⟩)
    ⟨hp, h⟩ bs).2

/-! ## reported cursor positions -/

/-- every cursor position reported to the frontend while processing a token lies inside the
    (new) active screen -/
theorem cursor_reports_in_range (cw : Nat → Nat) (t : Term) (h : t.wf)
    (tok : Tok) (x y : Nat) (hm : Ev.cursor x y ∈ (t.apply cw tok).2) :
    x < (t.apply cw tok).1.scr.w ∧ y < (t.apply cw tok).1.scr.h := by
  obtain ⟨a, b, c, _, e⟩ := good_apply_wf cw t h tok
  obtain ⟨_, e1, e2⟩ := scr_ok a
  rw [e1, e2, b, c]
  exact e x y hm

/-- the cursor position reported by `Resize` lies inside the new screen -/
theorem resize_cursor_report_in_range (t : Term) (w h : Nat) (hw : 1 ≤ w) (hh : 1 ≤ h)
    (x y : Nat) (hm : Ev.cursor x y ∈ (t.resize w h).2) : x < w ∧ y < h := by
  obtain ⟨⟨_, _, _, _, mx, my, _⟩, ⟨_, _, _, _, ax, ay, _⟩, _⟩ := resize_geo t w h hw hh
  obtain ⟨rfl, rfl⟩ := cursor_of_mem rfl hm
  simp only [Term.scr]
  split
  · exact ⟨ax, ay⟩
  · exact ⟨mx, my⟩

/-- the cursor-position report (`CSI 6 n`) answers `ESC [ r ; c R` with `1 ≤ r ≤ h`, `1 ≤ c ≤ w` -/
theorem cpr_in_range (cw : Nat → Nat) (t : Term) (h : t.wf) (ps : List Int) (hp : p0 ps 0 = 6) :
    ∃ r c, (t.apply cw (.csi 0 ps true 0x6e)).2 =
        [.reply ([0x1b, 0x5b] ++ itoa r ++ [0x3b] ++ itoa c ++ [0x52])] ∧
      1 ≤ r ∧ r ≤ t.scr.h ∧ 1 ≤ c ∧ c ≤ t.scr.w := by
  obtain ⟨hs, _, _⟩ := scr_ok ((wf_iff t).1 h)
  refine ⟨t.scr.cy + 1, t.scr.cx + 1, ?_, by omega, hs.geo.cy_lt, by omega, hs.geo.cx_lt⟩
  simp [Term.apply, Term.csi, Term.csiPlain, hp, csiReplyCPR]

/-! ## rows are runs of whole characters (the wide-character part) -/

/-- In every state satisfying the invariant each row of each buffer has exactly `w` cells and is
    partitioned into characters: every column `x` is covered by the character whose first
    cell is at `headOf row x`, which has a width `cw ≥ 1` and lies inside the row. -/
theorem wf_row_runs {t : Term} (h : t.wf) (b : Term → Scr) (hb : b = Term.main ∨ b = Term.alt)
    (x y : Nat) (hy : y < (b t).h) (hx : x < (b t).w) :
    ((b t).row y).length = (b t).w ∧
    ∃ tx cw st, ((b t).row y)[headOf ((b t).row y) x]? = some ⟨.ch tx cw, st⟩ ∧ 1 ≤ cw ∧
      headOf ((b t).row y) x ≤ x ∧ x < headOf ((b t).row y) x + cw ∧
      headOf ((b t).row y) x + cw ≤ (b t).w ∧
      (∀ k, headOf ((b t).row y) x < k → k < headOf ((b t).row y) x + cw →
        contAt ((b t).row y) k = true) := by
  have h0 := (wf_iff t).1 h
  have hs : SOk (okRow Top) (b t) := by rcases hb with rfl | rfl; exact h0.1; exact h0.2.1
  have hm := Lemmas.row_mem hs hy
  have hl := hs.rlen _ hm
  refine ⟨hl, ?_⟩
  obtain ⟨tx, cw, st, a1, a2, a3, a4, _, _⟩ := wf_head (hs.2 _ hm).1 (x := x) (by omega)
  refine ⟨tx, cw, st, a1, a2, headOf_le _ _, a3, by rw [← hl]; exact a4, ?_⟩
  exact (wf_ch (hs.2 _ hm).1 a1).2.2.1

theorem put_rowWF (r : Row) (x : Nat) (t : Bytes) (w : Nat) (st : Style) (h : rowWF r = true)
    (hw : 1 ≤ w) (hxw : x + w ≤ r.length) :
    rowWF (r.put x t w st) = true ∧ (r.put x t w st).length = r.length :=
  ⟨closed_wf.put trivial h hw hxw trivial trivial, put_length ..⟩

theorem erase_rowWF (r : Row) (a b : Nat) (st : Style) (h : rowWF r = true) :
    rowWF (r.erase a b st) = true ∧ (r.erase a b st).length = r.length :=
  ⟨closed_wf.erase trivial h a b trivial, erase_length ..⟩

theorem dch_rowWF (r : Row) (x n : Nat) (st : Style) (h : rowWF r = true) :
    rowWF (r.dch x n st) = true ∧ (r.dch x n st).length = r.length :=
  ⟨closed_wf.dch trivial h x n trivial, dch_length ..⟩

theorem fitRow_rowWF (r : Row) (w : Nat) (st : Style) (h : rowWF r = true) :
    rowWF (fitRow r w st) = true ∧ (fitRow r w st).length = w :=
  ⟨closed_wf.fitRow trivial h w trivial, fitRow_length ..⟩

theorem blankStraddlers_rowWF (r : Row) (a b : Nat) (st : Style) (h : rowWF r = true) :
    rowWF (blankStraddlers r a b st) = true ∧ contAt (blankStraddlers r a b st) a = false ∧
      contAt (blankStraddlers r a b st) b = false :=
  ⟨rowWF_blankStraddlers h a b st, contAt_blankStraddlers_at h a b st (.inl rfl),
    contAt_blankStraddlers_at h a b st (.inr rfl)⟩

/-- `Row.putKeep` (span-buffer write on a continuation cell) keeps rows well formed and of the
    same length, whatever the widths of the kept character, of the written one, and of the
    characters the insertion pushes across the right edge -/
theorem putKeep_rowWF (r : Row) (x : Nat) (t : Bytes) (w : Nat) (st : Style) (h : rowWF r = true)
    (hc : contAt r x = true) (hw : 1 ≤ w) (hxw : x + w ≤ r.length) :
    rowWF (r.putKeep x t w st) = true ∧ (r.putKeep x t w st).length = r.length :=
  ⟨closed_wf.putKeep trivial h hc hw trivial trivial, putKeep_length r x t w st h hc⟩

/-! ### the screen operations keep `Scr.inv` -/

/-- **"A wide character is never left half-visible", whole screen, both policies.** `Scr.put`
    preserves the screen invariant for every nominal width and whatever the widths of the stored
    characters: every row keeps the screen width and stays well formed (`rowWF`), the cursor stays
    inside the screen. -/
theorem put_inv (pol : WidePolicy) (s : Scr) (text : Bytes) (w0 : Nat) (h : s.inv = true) :
    (Scr.put pol s text w0).inv = true :=
  ((sok_iff _ _).1 (keeps_put (rowInv_top pol)
    (keeps_refl ((sok_iff _ s).2 ⟨h, fun _ _ _ _ _ _ => trivial⟩) trivial) text w0 trivial).1).1

theorem scr_ops_inv (s : Scr) (h : s.inv = true) :
    (∀ y1 y2 d, (s.scroll y1 y2 d).inv = true) ∧ s.lineDown.inv = true ∧ s.lineUp.inv = true ∧
    (∀ x1 y1 x2 y2, (s.eraseRegionI x1 y1 x2 y2).inv = true) ∧ (∀ n, (s.dch n).inv = true) ∧
    (∀ a b, (s.setMargins a b).inv = true) ∧ (∀ x y, (s.setCursor x y).inv = true) ∧
    s.saveCursor.inv = true ∧ s.restoreCursor.inv = true ∧
    (∀ text w0, (s.put .blank text w0).inv = true) ∧
    (∀ w' h', 1 ≤ w' → 1 ≤ h' → (s.resize w' h').inv = true) := by
  have hs : SOk (okRow Top) s := (sok_iff _ s).2 ⟨h, fun _ _ _ _ _ _ => trivial⟩
  have I := rowInv_top .blank
  have hk : Keeps (fun _ => True) _ s s := keeps_refl hs trivial
  have e : ∀ {s' : Scr}, Keeps (fun _ => True) (okRow Top) s s' → s'.inv = true :=
    fun hk' => ((sok_iff _ _).1 hk'.1).1
  refine ⟨fun _ _ _ => e (keeps_scroll I hk _ _ _), e (keeps_lineDown I hk),
    e (keeps_lineUp I hk), fun _ _ _ _ => e (keeps_eraseRegionI I hk _ _ _ _),
    fun _ => e (keeps_dch I hk _), fun _ _ => e (keeps_setMargins hk _ _),
    fun _ _ => e (keeps_setCursor hk _ _), e (keeps_saveCursor hk), e (keeps_restoreCursor hk),
    fun _ _ => put_inv .blank s _ _ h,
    fun w' h' hw hh => ((sok_iff _ _).1 (sok_resize I s hs.2 trivial w' h' hw hh)).1⟩

/-! ## characters wider than 2 cells under the `keep` policy; why `geo` alone is not enough -/

/-- a width function with one triple-width character -/
def cw3 (cp : Nat) : Nat := if cp = 0x57 then 3 else 1

/-- `WWW  CUP(1,3) x  CUP(1,1) DCH 4  CUP(1,6) W  CUP(1,5) ECH 1  CUP(1,8) x` -/
def width3Input : Bytes :=
  [87, 87, 87, 27, 91, 49, 59, 51, 72, 120, 27, 91, 49, 59, 49, 72, 27, 91, 52, 80, 27, 91, 49, 59,
   54, 72, 87, 27, 91, 49, 59, 53, 72, 27, 91, 49, 88, 27, 91, 49, 59, 56, 72, 120]

/-- With a character of width 3 the span-buffer policy (`keep`) of the model keeps the geometric
    invariant and `Scr.inv`: after this input on a 9 × 1 terminal the only row has 9 cells under
    both policies. -/
theorem keep_policy_width3_keeps_geo :
    (run cw3 (Term.init .keep 9 1) width3Input).1.main.grid.map List.length = [9] ∧
    (run cw3 (Term.init .blank 9 1) width3Input).1.main.grid.map List.length = [9] ∧
    (run cw3 (Term.init .keep 9 1) width3Input).1.geo ∧
    (run cw3 (Term.init .keep 9 1) width3Input).1.main.inv = true := by
  refine ⟨by decide, by decide, by decide, by decide⟩

/-- a state that satisfies the geometric invariant but has an ill-formed row (two continuation
    cells after a character of width 1), cursor on the last cell -/
def illFormed : Term :=
  { pol := .keep,
    main := { w := 3, h := 1,
              grid := [[⟨.ch [0x61] 1, Style.default⟩, ⟨.cont, Style.default⟩, ⟨.cont, Style.default⟩]],
              cx := 2, cy := 0, sx := 0, sy := 0, top := 0, bot := 0, wrap := false,
              sty := Style.default },
    alt := Scr.init 3 1 }

/-- The geometric invariant ALONE is not preserved under the `keep` policy, even with all widths
    equal to 1: `Row.putKeep` relies on the row being well formed. This is why `apply_geo` takes
    the full invariant `Term.wf` (which every reachable state satisfies) as hypothesis and not
    just `Term.geo`. -/
theorem geo_alone_not_inductive_under_keep :
    illFormed.geo ∧ ¬ (illFormed.apply (fun _ => 1) (.text [0x78] 0x78)).1.geo := by decide

/-! ## Non-vacuity -/

section Examples

/-- a realistic width function: CJK and emoji ranges are double width -/
def cw2 (cp : Nat) : Nat := if cp ≥ 0x1100 then 2 else 1

example : WidthOK .keep cw2 := by intro _ cp; unfold cw2; split <;> omega
example : WidthOK .blank cw3 := by intro h; cases h
example : (Term.init .keep 80 24).wf := init_wf _ _ _ (by omega) (by omega)
example : ¬ WidthOK .keep cw3 := fun h => by have := h rfl 0x57; simp [cw3] at this
-- the invariant along a run with a width-3 character under the span policy (`WidthOK` fails)
example : (run cw3 (Term.init .keep 9 1) width3Input).1.wf :=
  run_wf cw3 _ (init_wf _ _ _ (by omega) (by omega)) _

/-- `a中b`, CUP(1,3), `x` (written on the second cell of the wide character), DCH 1, LF,
    `中中` (wraps / clamps at the right edge), EL 1 -/
def exInput : Bytes :=
  [0x61, 0xe4, 0xb8, 0xad, 0x62, 0x1b, 0x5b, 0x31, 0x3b, 0x33, 0x48, 0x78,
   0x1b, 0x5b, 0x31, 0x50, 0x0a, 0xe4, 0xb8, 0xad, 0xe4, 0xb8, 0xad, 0x1b, 0x5b, 0x31, 0x4b]

-- a non-trivial reachable state (with double-width characters in the grid) satisfies `wf`,
-- under both policies, and really contains a continuation cell
example : (run cw2 (Term.init .keep 4 2) exInput).1.wf :=
  run_wf cw2 _ (init_wf _ _ _ (by omega) (by omega)) _
example : (run cw2 (Term.init .keep 4 2) exInput).1.main.inv = true := by decide +kernel
example : contAt ((run cw2 (Term.init .blank 4 2) [0x61, 0xe4, 0xb8, 0xad]).1.main.row 0) 2 = true := by
  decide
example : (run cw2 (Term.init .blank 4 2) [0x61, 0xe4, 0xb8, 0xad]).1.main.inv = true := by decide
-- operations
example : Op.valid (.resize 3 1) := ⟨by omega, by omega⟩
example : (runOps cw2 (Term.init .keep 4 2) [.tok (.text [0xe4, 0xb8, 0xad] 0x4e2d), .resize 1 1,
    .tok (.ctl 10), .resize 7 3]).geo :=
  reachable_geo cw2 .keep 4 2 (by omega) (by omega)
    [.tok (.text [0xe4, 0xb8, 0xad] 0x4e2d), .resize 1 1, .tok (.ctl 10), .resize 7 3]
    (by intro op hop; simp at hop; rcases hop with rfl | rfl | rfl | rfl <;> simp [Op.valid]) 4
-- a cursor report is really emitted (the range statement is not vacuous)
example : Ev.cursor 1 0 ∈ ((Term.init .blank 4 2).apply cw2 (.text [0x61] 0x61)).2 := by decide
-- a CPR is really emitted
example : ((Term.init .blank 4 2).apply cw2 (.csi 0 [6] true 0x6e)).2 =
    [.reply [0x1b, 0x5b, 0x31, 0x3b, 0x31, 0x52]] := by decide

end Examples

end TM.C02

#print axioms TM.C02.init_wf
#print axioms TM.C02.init_geo
#print axioms TM.C02.wf_geo
#print axioms TM.C02.apply_wf
#print axioms TM.C02.apply_geo
#print axioms TM.C02.apply_inv
#print axioms TM.C02.apply_wfNarrow
#print axioms TM.C02.apply_inv_blank
#print axioms TM.C02.apply_geo_blank
#print axioms TM.C02.apply_size
#print axioms TM.C02.resize_geo
#print axioms TM.C02.resize_wf
#print axioms TM.C02.reachable_wf
#print axioms TM.C02.reachable_geo
#print axioms TM.C02.run_wf
#print axioms TM.C02.run_geo
#print axioms TM.C02.run_geo_blank
#print axioms TM.C02.cursor_reports_in_range
#print axioms TM.C02.resize_cursor_report_in_range
#print axioms TM.C02.cpr_in_range
#print axioms TM.C02.wf_row_runs
#print axioms TM.C02.put_rowWF
#print axioms TM.C02.erase_rowWF
#print axioms TM.C02.dch_rowWF
#print axioms TM.C02.fitRow_rowWF
#print axioms TM.C02.blankStraddlers_rowWF
#print axioms TM.C02.putKeep_rowWF
#print axioms TM.C02.scr_ops_inv
#print axioms TM.C02.keep_policy_width3_keeps_geo
#print axioms TM.C02.geo_alone_not_inductive_under_keep
