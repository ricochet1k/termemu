import Proofs.Term
import Proofs.Fold
/-!
# C19 — Kitty keyboard-flag set / push / pop / query follow the protocol's stack rules

Model: `TM.Kbd` (`keyboard_mode.go`) and the `CSI = / > / < / ? … u` rows of `TM.Term.csi`.
All statements are for every flag value, every stack content and every operation sequence.
-/
namespace TM.C19

/-! ## the operations one by one -/

theorem update_assign (k : Kbd) (f : Int) : (k.update f 1).flags = f.toNat ∧ (k.update f 1).stack = k.stack := by
  simp [Kbd.update]

theorem update_or (k : Kbd) (f : Int) : (k.update f 2).flags = k.flags ||| f.toNat ∧ (k.update f 2).stack = k.stack := by
  simp [Kbd.update]

/-- mode 3 clears exactly the given bits (stated bit by bit: `flags &^ f`) -/
theorem update_clear (k : Kbd) (f : Int) (i : Nat) :
    (k.update f 3).flags.testBit i = (k.flags.testBit i && !(f.toNat.testBit i)) ∧ (k.update f 3).stack = k.stack := by
  simp [Kbd.update, Nat.testBit_xor, Nat.testBit_and]
  cases k.flags.testBit i <;> cases f.toNat.testBit i <;> rfl

/-- an omitted or non-positive mode means "assign" (the code's `if mode <= 0 { mode = 1 }`) -/
theorem update_default_mode (k : Kbd) (f m : Int) (h : m ≤ 0) : k.update f m = k.update f 1 := by
  simp [Kbd.update, h]

theorem update_other_mode (k : Kbd) (f m : Int) (h : 3 < m) : k.update f m = k := by
  have h1 : ¬ m ≤ 0 := by omega
  have h2 : ¬ m = 1 := by omega
  have h3 : ¬ m = 2 := by omega
  have h4 : ¬ m = 3 := by omega
  simp [Kbd.update, h1, h2, h3, h4]

theorem update_stack (k : Kbd) (f m : Int) : (k.update f m).stack = k.stack := by
  unfold Kbd.update
  generalize (if m ≤ 0 then 1 else m) = m'
  simp only []
  split
  · rfl
  · split
    · rfl
    · split <;> rfl

theorem push_installs (k : Kbd) (f : Int) : (k.push f).flags = f.toNat := by
  simp [Kbd.push]

theorem push_saves (k : Kbd) (f : Int) : (k.push f).stack.getLast? = some k.flags := by
  simp [Kbd.push]

theorem push_below_limit (k : Kbd) (f : Int) (h : k.stack.length < keyboardStackMax) :
    (k.push f).stack = k.stack ++ [k.flags] := by
  have : ¬ k.stack.length ≥ keyboardStackMax := by omega
  simp [Kbd.push, this]

theorem push_evicts_oldest (k : Kbd) (f : Int) (h : k.stack.length ≥ keyboardStackMax) :
    (k.push f).stack = k.stack.tail ++ [k.flags] := by
  simp [Kbd.push, h]

theorem stack_limit : keyboardStackMax = 32 := rfl

theorem push_bounded (k : Kbd) (f : Int) (h : k.stack.length ≤ keyboardStackMax) :
    (k.push f).stack.length ≤ keyboardStackMax := by
  unfold Kbd.push
  simp only
  split
  · simp only [List.length_append, List.length_tail, List.length_cons, List.length_nil]
    unfold keyboardStackMax at *; omega
  · simp only [List.length_append, List.length_cons, List.length_nil]
    unfold keyboardStackMax at *; omega

theorem pop_one (k : Kbd) (st : List Nat) (f : Nat) (h : k.stack = st ++ [f]) :
    k.pop 1 = { flags := f, stack := st } := by
  simp [Kbd.pop, Kbd.popN, h]

/-- "`CSI < n u` pops n entries": an explicit count of 0 pops nothing (an omitted count is 1:
    `pop_dispatch` with an empty parameter list) -/
theorem pop_default (k : Kbd) (n : Int) (h : n ≤ 0) : k.pop n = k := by
  have : n.toNat = 0 := by omega
  simp [Kbd.pop, Kbd.popN, this]

/-! ## the stack as one history list

`hist k` is what the protocol document calls the stack: the saved flag sets, oldest first,
followed by the flags in force. The three operations are then the obvious list operations, and
`hist` is injective, so what a pop of several entries leaves is read off `hist_popN`. -/

def hist (k : Kbd) : List Nat := k.stack ++ [k.flags]

theorem hist_length (k : Kbd) : (hist k).length = k.stack.length + 1 := by simp [hist]

theorem hist_update (k : Kbd) (f m : Int) :
    hist (k.update f m) = (hist k).dropLast ++ [(k.update f m).flags] := by
  simp [hist, update_stack]

theorem hist_push (k : Kbd) (f : Int) :
    hist (k.push f) =
      (if k.stack.length ≥ keyboardStackMax then (hist k).tail else hist k) ++ [f.toNat] := by
  unfold hist Kbd.push
  simp only
  split
  · rename_i h
    have : k.stack ≠ [] := by
      intro h0; rw [h0] at h; simp [keyboardStackMax] at h
    cases hs : k.stack with
    | nil => exact absurd hs this
    | cons a l => simp
  · rfl

theorem hist_inj {k k' : Kbd} (h : hist k = hist k') : k = k' := by
  obtain ⟨f, st⟩ := k
  obtain ⟨f', st'⟩ := k'
  obtain ⟨hs, hf⟩ := List.append_inj' h rfl
  cases hs; cases hf; rfl

theorem popN_succ (n : Nat) (k : Kbd) :
    Kbd.popN (n + 1) k =
      match k.stack.getLast? with
      | none => { k with flags := 0 }
      | some f => Kbd.popN n { flags := f, stack := k.stack.dropLast } := by
  rw [Kbd.popN]
  cases k.stack.getLast? <;> rfl

theorem hist_popN (n : Nat) (k : Kbd) :
    hist (Kbd.popN n k) =
      if n < (hist k).length then (hist k).take ((hist k).length - n) else [0] := by
  induction n generalizing k with
  | zero => rw [if_pos (by rw [hist_length]; omega)]; exact List.take_length.symm
  | succ n ih =>
    obtain ⟨f, st⟩ := k
    rcases List.eq_nil_or_concat st with rfl | ⟨st', f', rfl⟩
    · rw [if_neg (by rw [hist_length]; exact Nat.not_lt.2 (Nat.le_add_left ..))]; rfl
    · -- one entry is popped; what is left is the history without its last element
      rw [popN_succ, List.concat_eq_append]
      simp only [List.getLast?_concat, List.dropLast_concat]
      rw [ih]
      show (if n < (st' ++ [f']).length then _ else _) =
        if n + 1 < (st' ++ [f'] ++ [f]).length then
          (st' ++ [f'] ++ [f]).take ((st' ++ [f'] ++ [f]).length - (n + 1)) else [0]
      rw [List.length_append (bs := [f]), List.length_singleton, Nat.add_sub_add_right,
        List.take_append_of_le_length (Nat.sub_le ..)]
      simp only [Nat.add_lt_add_iff_right]
      rfl

theorem popN_beyond (n : Nat) (k : Kbd) (h : k.stack.length < n) :
    (Kbd.popN n k).flags = 0 ∧ (Kbd.popN n k).stack = [] := by
  have e : Kbd.popN n k = ⟨0, []⟩ :=
    hist_inj (by rw [hist_popN, if_neg (by rw [hist_length]; omega)]; rfl)
  rw [e]; exact ⟨rfl, rfl⟩

theorem pop_empty (k : Kbd) (n : Int) (hn : 0 < n) (h : k.stack = []) :
    (k.pop n).flags = 0 ∧ (k.pop n).stack = [] :=
  popN_beyond n.toNat k (by rw [h]; show 0 < n.toNat; omega)

/-- popping `n+1 ≤ depth` entries restores the flags saved `n+1` pushes ago and keeps the older ones -/
theorem popN_restores (n : Nat) (k : Kbd) (hn : n < k.stack.length) :
    Kbd.popN (n + 1) k =
      { flags := k.stack[k.stack.length - 1 - n]'(by omega), stack := k.stack.take (k.stack.length - 1 - n) } := by
  apply hist_inj
  rw [hist_popN, hist_length, if_pos (by omega),
    show k.stack.length + 1 - (n + 1) = (k.stack.length - 1 - n) + 1 by omega]
  exact (List.take_append_of_le_length (by omega)).trans (List.take_succ_eq_append_getElem (by omega))

theorem hist_pop (k : Kbd) (n : Int) :
    hist (k.pop n) =
      if n.toNat < (hist k).length then (hist k).take ((hist k).length - n.toNat) else [0] :=
  hist_popN n.toNat k

/-! ## at most 32 entries -/

theorem popN_bounded (n : Nat) (k : Kbd) : (Kbd.popN n k).stack.length ≤ k.stack.length := by
  have h := congrArg List.length (hist_popN n k)
  rw [hist_length, apply_ite List.length, List.length_take, hist_length, List.length_singleton] at h
  split at h <;> omega

inductive Op
  | update (f m : Int)
  | push (f : Int)
  | pop (n : Int)

def step (k : Kbd) : Op → Kbd
  | .update f m => k.update f m
  | .push f => k.push f
  | .pop n => k.pop n

theorem step_bounded (k : Kbd) (op : Op) (h : k.stack.length ≤ keyboardStackMax) :
    (step k op).stack.length ≤ keyboardStackMax := by
  cases op with
  | update f m => simpa [step, update_stack] using h
  | push f => exact push_bounded k f h
  | pop n => exact Nat.le_trans (popN_bounded _ k) h

/-- after any sequence of set/or/clear/push/pop operations at most 32 entries are stored -/
theorem reachable_bounded (ops : List Op) : (ops.foldl step {}).stack.length ≤ keyboardStackMax :=
  foldl_inv (P := fun _ => True) (fun k op h _ => step_bounded k op h) (Nat.zero_le _) fun _ _ => trivial

/-! ## push then pop -/

theorem push_pop (k : Kbd) (f : Int) (h : k.stack.length < keyboardStackMax) :
    (k.push f).pop 1 = k := by
  rw [pop_one (k.push f) k.stack k.flags (push_below_limit k f h)]

/-- at the limit the push loses the oldest saved set for good -/
theorem push_pop_at_limit (k : Kbd) (f : Int) (h : k.stack.length ≥ keyboardStackMax) :
    (k.push f).pop 1 = { flags := k.flags, stack := k.stack.tail } := by
  rw [pop_one (k.push f) k.stack.tail k.flags (push_evicts_oldest k f h)]

theorem popN_add (a b : Nat) (k : Kbd) : Kbd.popN (a + b) k = Kbd.popN b (Kbd.popN a k) := by
  apply hist_inj
  rw [hist_popN, hist_popN b, hist_popN a]
  by_cases ha : a < (hist k).length
  · rw [if_pos ha, List.length_take, Nat.min_eq_left (Nat.sub_le ..), List.take_take]
    by_cases hb : a + b < (hist k).length
    · rw [if_pos hb, if_pos (by omega), Nat.sub_sub, Nat.min_eq_left (by omega)]
    · rw [if_neg hb, if_neg (by omega)]
  · -- the first pop has reset the state, and popping the reset state gives it back
    rw [if_neg ha, if_neg (by omega)]
    have e : Kbd.popN b ⟨0, []⟩ = ⟨0, []⟩ := by cases b <;> rfl
    exact (congrArg hist e).symm.trans (hist_popN b ⟨0, []⟩)

/-- m pushes that stay below the limit followed by `CSI < m u` restore the state exactly -/
theorem pushes_pop (k : Kbd) (fs : List Int) (h : k.stack.length + fs.length ≤ keyboardStackMax) :
    Kbd.popN fs.length (fs.foldl Kbd.push k) = k := by
  induction fs generalizing k with
  | nil => simp [Kbd.popN]
  | cons a l ih =>
    simp only [List.length_cons] at h
    have hlen : (k.push a).stack.length = k.stack.length + 1 := by
      rw [push_below_limit k a (by omega), List.length_append]; rfl
    rw [List.foldl_cons, List.length_cons, popN_add, ih (k.push a) (by omega)]
    exact push_pop k a (by omega)

/-! ## dispatch; each screen has its own state -/

/-- `CSI ? u` reports the flags of the active screen, whatever the parameters, and changes nothing -/
theorem query_reports_current (t : Term) (ps : List Int) :
    t.csi 0x3f ps 0x75 = (t, [.reply ([0x1b, 0x5b, 0x3f] ++ itoa t.kbd.flags ++ [0x75])]) := rfl

theorem kbd_ops_leave_other_screen (t : Term) (k : Kbd) :
    (t.onAlt = false → (t.setKbd k).kalt = t.kalt ∧ (t.setKbd k).kmain = k) ∧
    (t.onAlt = true → (t.setKbd k).kmain = t.kmain ∧ (t.setKbd k).kalt = k) := by
  exact ⟨fun h => ⟨Term.setKbd_kalt_of_main h k, Term.setKbd_kmain_of_main h k⟩,
    fun h => ⟨Term.setKbd_kmain_of_alt h k, Term.setKbd_kalt_of_alt h k⟩⟩

theorem push_dispatch (t : Term) (ps : List Int) :
    t.csi 0x3e ps 0x75 = (t.setKbd (t.kbd.push (pAt ps 0 0)), []) := rfl

theorem pop_dispatch (t : Term) (ps : List Int) :
    t.csi 0x3c ps 0x75 = (t.setKbd (t.kbd.pop (pAt ps 0 1)), []) := rfl

theorem set_dispatch (t : Term) (ps : List Int) :
    t.csi 0x3d ps 0x75 = (t.setKbd (t.kbd.update (pAt ps 0 0) (pAt ps 1 1)), []) := rfl

/-! ## non-vacuity: concrete instances -/
set_option maxRecDepth 8000 in

example : ((({} : Kbd).push 5).push 3).pop 1 = { flags := 5, stack := [0] } := by decide
set_option maxRecDepth 8000 in
example : ((List.range 40).foldl (fun k i => k.push (i : Int)) ({} : Kbd)).stack.length = 32 := by decide +kernel
set_option maxRecDepth 8000 in
example : ((List.range 40).foldl (fun k i => k.push (i : Int)) ({} : Kbd)).stack.head? = some 7 := by decide +kernel
example : (({ flags := 13, stack := [] } : Kbd).update 5 3).flags = 8 := by decide
example : hist (({ flags := 1, stack := [4, 2] } : Kbd).push 7) = [4, 2, 1, 7] := by decide
example : hist (({ flags := 1, stack := [4, 2] } : Kbd).pop 2) = [4] := by decide
example : hist (({ flags := 1, stack := [4, 2] } : Kbd).pop 3) = [0] := by decide
example : Kbd.popN 3 ([5, 6, 7].foldl Kbd.push ({ flags := 1, stack := [4, 2] } : Kbd)) = { flags := 1, stack := [4, 2] } := by decide

end TM.C19

#print axioms TM.C19.update_assign
#print axioms TM.C19.update_or
#print axioms TM.C19.update_clear
#print axioms TM.C19.update_default_mode
#print axioms TM.C19.update_other_mode
#print axioms TM.C19.push_installs
#print axioms TM.C19.push_saves
#print axioms TM.C19.push_below_limit
#print axioms TM.C19.push_evicts_oldest
#print axioms TM.C19.stack_limit
#print axioms TM.C19.push_bounded
#print axioms TM.C19.pop_one
#print axioms TM.C19.pop_empty
#print axioms TM.C19.popN_restores
#print axioms TM.C19.popN_beyond
#print axioms TM.C19.pop_default
#print axioms TM.C19.reachable_bounded
#print axioms TM.C19.query_reports_current
#print axioms TM.C19.kbd_ops_leave_other_screen
#print axioms TM.C19.push_dispatch
#print axioms TM.C19.pop_dispatch
#print axioms TM.C19.set_dispatch
#print axioms TM.C19.hist_update
#print axioms TM.C19.hist_push
#print axioms TM.C19.hist_popN
#print axioms TM.C19.hist_pop
#print axioms TM.C19.push_pop
#print axioms TM.C19.push_pop_at_limit
#print axioms TM.C19.popN_add
#print axioms TM.C19.pushes_pop
