import Proofs.Parser
import Proofs.Run
import Proofs.Events
import Proofs.Decimal
/-!
# C09 — every well-formed ESC / CSI / OSC / DCS sequence is removed from the stream in its entirety

Model: the tokeniser `TM.next` (`TM/Parser.lean`) and the token dispatch `TM.Term.apply`
(`TM/Term.lean`), the read loop `TM.run` (`TM/Run.lean`).

First the grammar of well-formed control sequences, written *independently of the parser*: byte
ranges of ECMA-48 and the UTF-8 framing rule for string payloads. The byte classes coincide with the
parser's (`paramRange_eq`, … `contCount_eq`); the independence is in how sequences are built from
them (`CsiWF`, `EscWF`, `Payload`, `StrTerm`). Then, for EVERY continuation `rest` of the stream:

* framing: the tokeniser yields exactly one token that spans exactly the sequence (and the
  token's prefix / clean flag / final / number / payload are those the grammar says);
* a token outside the finite table `recognised` changes no state and emits nothing, and the
  table cannot be shrunk;
* the token of a well-formed sequence is never a text (nor a C0) token, and no control token
  ever reports drawn text;
* OSC 0/2/6/7 deliver exactly their payload bytes as view strings 0/0/1/2;
* in the read loop `run` an unrecognised well-formed sequence in front of any `post` (and after
  any ASCII text `pre`) leaves no residue.
-/
namespace TM.C09

/-! ## The grammar (independent of the parser) -/

/-- CSI parameter byte `0`–`?` -/
def isParamB (b : UInt8) : Bool := 0x30 ≤ b && b ≤ 0x3f
/-- intermediate byte ` `–`/` -/
def isInterB (b : UInt8) : Bool := 0x20 ≤ b && b ≤ 0x2f
/-- CSI final byte `@`–`~` -/
def isCsiFinal (b : UInt8) : Bool := 0x40 ≤ b && b ≤ 0x7e
/-- ESC final byte `0`–`~` -/
def isEscFinal (b : UInt8) : Bool := 0x30 ≤ b && b ≤ 0x7e
def isDigitB (b : UInt8) : Bool := 0x30 ≤ b && b ≤ 0x39

/-! ### CSI -/

/-- `ESC [ P… I… F` -/
def csiBytes (ps is : Bytes) (f : UInt8) : Bytes := 0x1b :: 0x5b :: (ps ++ is ++ [f])

structure CsiWF (ps is : Bytes) (f : UInt8) : Prop where
  params : ∀ b ∈ ps, isParamB b = true
  inter : ∀ b ∈ is, isInterB b = true
  final : isCsiFinal f = true

def IsCsiSeq (s : Bytes) : Prop := ∃ ps is f, CsiWF ps is f ∧ s = csiBytes ps is f

/-- the private prefix `<` `=` `>` `?` when it is the first parameter byte, else `0` -/
def csiPrefix : Bytes → UInt8
  | [] => 0
  | b :: _ => if 0x3c ≤ b && b ≤ 0x3f then b else 0

/-- the parameter bytes after the private prefix -/
def csiArgs : Bytes → Bytes
  | [] => []
  | b :: r => if 0x3c ≤ b && b ≤ 0x3f then r else b :: r

/-- a CSI is *plain* when it has no intermediates and its arguments are digits and `;` only
    (no `:` sub-parameters, no late `<=>?`) -/
def csiPlainForm (ps is : Bytes) : Bool :=
  is.isEmpty && (csiArgs ps).all (fun b => isDigitB b || b == 0x3b)

/-! ### ESC -/

/-- `ESC I… F` -/
def escBytes (is : Bytes) (f : UInt8) : Bytes := 0x1b :: (is ++ [f])

structure EscWF (is : Bytes) (f : UInt8) : Prop where
  inter : ∀ b ∈ is, isInterB b = true
  final : isEscFinal f = true
  /-- `ESC [`, `ESC ]`, `ESC P` introduce CSI / OSC / DCS -/
  notIntro : is = [] → f ≠ 0x5b ∧ f ≠ 0x5d ∧ f ≠ 0x50

def IsEscSeq (s : Bytes) : Prop := ∃ is f, EscWF is f ∧ s = escBytes is f

/-! ### string payloads (OSC, DCS) -/

/-- number of continuation bytes a UTF-8 lead byte announces (0 for every other byte) -/
def contCount (b : UInt8) : Nat :=
  if 0xC2 ≤ b && b ≤ 0xDF then 1 else if 0xE0 ≤ b && b ≤ 0xEF then 2 else if 0xF0 ≤ b && b ≤ 0xF4 then 3 else 0

/-- UTF-8 continuation byte -/
def isContB (b : UInt8) : Bool := 0x80 ≤ b && b ≤ 0xBF

/-- The payload language: a concatenation of
    * single bytes that are not ESC, not the C1 string terminator 0x9c, not a UTF-8 lead byte
      (and not BEL when `noBel`, i.e. in an OSC) — this covers all of ASCII except ESC (BEL),
      and also stray bytes 0x80–0xC1 (≠ 0x9c) and 0xF5–0xFF;
    * multi-byte characters: a lead byte 0xC2–0xF4 followed by exactly the number of
      continuation bytes (0x80–0xBF, *including 0x9c*) it announces;
    * truncated multi-byte characters: a lead byte followed by fewer continuation bytes
      (again including 0x9c) than announced, provided more payload follows (its next byte is
      then not a continuation byte).
    Every well-formed UTF-8 text without ESC (BEL) is in this language, and so is every byte
    string without ESC (BEL) and without 0x9c that does not end in a truncated character. -/
inductive Payload (noBel : Bool) : Bytes → Prop
  | nil : Payload noBel []
  | plain (b : UInt8) (p : Bytes) : b ≠ 0x1b → b ≠ 0x9c → (noBel = true → b ≠ 7) → contCount b = 0 →
      Payload noBel p → Payload noBel (b :: p)
  | multi (l : UInt8) (cs p : Bytes) : 0 < contCount l → cs.length = contCount l →
      (∀ c ∈ cs, isContB c = true) → Payload noBel p → Payload noBel (l :: (cs ++ p))
  | trunc (l : UInt8) (cs : Bytes) (b : UInt8) (p : Bytes) : 0 < contCount l → cs.length < contCount l →
      (∀ c ∈ cs, isContB c = true) → isContB b = false → Payload noBel (b :: p) →
      Payload noBel (l :: (cs ++ b :: p))

/-- string terminators: BEL (OSC only), `ESC \`, and the 8-bit ST 0x9c -/
inductive StrTerm (bel : Bool) : Bytes → Prop
  | bel : bel = true → StrTerm bel [7]
  | st : StrTerm bel [0x1b, 0x5c]
  | st8 : StrTerm bel [0x9c]

def decVal (ds : Bytes) : Nat := ds.foldl (fun a d => a * 10 + (d.toNat - 48)) 0

/-- the number of an OSC with digit string `ds`: its decimal value (leading zeros allowed); a value
    that does not fit Go's `strconv.Atoi` (≥ 10^18 in the model) is replaced by a sentinel for
    which no handler exists -/
def oscNumber (ds : Bytes) : Nat := if decVal ds < 10 ^ 18 then decVal ds else 0xffffffffffff

/-- `ESC ] payload terminator` -/
def oscBytes (body term : Bytes) : Bytes := 0x1b :: 0x5d :: (body ++ term)
def IsOscSeq (s : Bytes) : Prop := ∃ body term, Payload true body ∧ StrTerm true term ∧ s = oscBytes body term

/-- `ESC P payload ST` -/
def dcsBytes (body term : Bytes) : Bytes := 0x1b :: 0x50 :: (body ++ term)
def IsDcsSeq (s : Bytes) : Prop := ∃ body term, Payload false body ∧ StrTerm false term ∧ s = dcsBytes body term

def WellFormed (s : Bytes) : Prop := IsEscSeq s ∨ IsCsiSeq s ∨ IsOscSeq s ∨ IsDcsSeq s

namespace Lemmas

/-! ### byte classes

The grammar's classes are the parser's (four by `rfl`, `paramByte_eq` and `contCount_eq` by cases);
every class is an interval of byte values, so the relations between them are linear arithmetic on
`toNat`. -/

theorem paramRange_eq (b : UInt8) : isCsiParamRange b = isParamB b := rfl
theorem inter_eq (b : UInt8) : isIntermediate b = isInterB b := rfl
theorem isDigit_eq (b : UInt8) : isDigit b = isDigitB b := rfl
theorem isCont_eq (b : UInt8) : isCont b = isContB b := rfl

theorem paramByte_eq (b : UInt8) : isParamByte b = (isDigitB b || b == 0x3b) := by
  rw [Bool.eq_iff_iff]; byte_nat [isParamByte, isDigit, isDigitB]; omega

theorem csiFinal_not_param (b : UInt8) : isCsiFinal b = true → isParamB b = false := by
  byte_nat [isCsiFinal, isParamB]; omega

theorem csiFinal_not_inter (b : UInt8) : isCsiFinal b = true → isInterB b = false := by
  byte_nat [isCsiFinal, isInterB]; omega

theorem escFinal_not_inter (b : UInt8) : isEscFinal b = true → isInterB b = false := by
  byte_nat [isEscFinal, isInterB]; omega

theorem inter_not_intro (b : UInt8) : isInterB b = true → b ≠ 0x5b ∧ b ≠ 0x5d ∧ b ≠ 0x50 := by
  byte_nat [isInterB]; omega

theorem inter_not_pfx (b : UInt8) : isInterB b = true → (0x3c ≤ b && b ≤ 0x3f) = false := by
  byte_nat [isInterB]; omega

theorem csiFinal_not_pfx (b : UInt8) : isCsiFinal b = true → (0x3c ≤ b && b ≤ 0x3f) = false := by
  byte_nat [isCsiFinal]; omega

theorem contCount_eq (b : UInt8) : leadLen b - 1 = contCount b := by
  simp only [leadLen_eq, contCount, Bool.and_eq_true, decide_eq_true_eq, UInt8.le_iff_toNat_le,
    UInt8.toNat_ofNat, Nat.reducePow, Nat.reduceMod]
  -- the six intervals of `leadLen`; in each, the interval of `contCount` the byte is in
  by_cases h1 : b.toNat < 128
  · rw [if_pos h1, if_neg (by omega), if_neg (by omega), if_neg (by omega)]
  rw [if_neg h1]
  by_cases h2 : b.toNat < 194
  · rw [if_pos h2, if_neg (by omega), if_neg (by omega), if_neg (by omega)]
  rw [if_neg h2]
  by_cases h3 : b.toNat < 224
  · rw [if_pos h3, if_pos (by omega)]
  rw [if_neg h3]
  by_cases h4 : b.toNat < 240
  · rw [if_pos h4, if_neg (by omega), if_pos (by omega)]
  rw [if_neg h4]
  by_cases h5 : b.toNat < 245
  · rw [if_pos h5, if_neg (by omega), if_neg (by omega), if_pos (by omega)]
  · rw [if_neg h5, if_neg (by omega), if_neg (by omega), if_neg (by omega)]

theorem cont_not_terminator (b : UInt8) : isContB b = true → b ≠ 7 ∧ b ≠ 0x5c ∧ b ≠ 0x1b := by
  byte_nat [isContB]; omega

theorem noncont_ne_st8 (b : UInt8) : isContB b = false → b ≠ 0x9c := by byte_nat [isContB]; omega

theorem contCount_pos (b : UInt8) : 0 < contCount b ↔ 0xC2 ≤ b.toNat ∧ b.toNat ≤ 0xF4 := by
  obtain ⟨l1, l2, l3, l4⟩ := leadLen_iff b
  have := leadLen_cases b
  rw [← contCount_eq]
  omega

theorem lead_not_terminator (b : UInt8) : 0 < contCount b → b ≠ 7 ∧ b ≠ 0x9c ∧ b ≠ 0x5c ∧ b ≠ 0x1b ∧ isContB b = false := by
  rw [contCount_pos]; byte_nat [isContB]; omega

theorem digit_not_special (b : UInt8) : isDigitB b = true → contCount b = 0 ∧ b ≠ 0x3b ∧ b ≠ 7 ∧ b ≠ 0x9c ∧ b ≠ 0x1b := by
  rw [show contCount b = 0 ↔ ¬ 0 < contCount b by omega, contCount_pos]; byte_nat [isDigitB]; omega

theorem digitB_val (b : UInt8) : isDigitB b = true → b.toNat - 48 ≤ 9 ∧ (b ≠ 0x30 → 1 ≤ b.toNat - 48) := by
  byte_nat [isDigitB]; omega

/-! ### CSI -/

/-- CSI framing after the private prefix, with the parameters the token carries -/
theorem csiBody_wf (pre : UInt8) (xs is : Bytes) (f : UInt8) (rest : Bytes) (n1 : Nat)
    (hx : ∀ b ∈ xs, isParamB b = true) (hi : ∀ b ∈ is, isInterB b = true) (hf : isCsiFinal f = true) :
    ∃ xs1 xs2, xs = xs1 ++ xs2 ∧ (∀ b ∈ xs1, isParamByte b = true) ∧ xs.all isParamByte = xs2.isEmpty ∧
      csiBody pre (xs ++ is ++ f :: rest) n1 =
        .tok (.csi pre (xs1.foldl PState.feed {}).finish (is.isEmpty && xs.all isParamByte) f)
          (n1 + xs.length + is.length + 1) := by
  obtain ⟨xs1, xs2, rfl, h1, h2, h3⟩ := split_class isParamByte xs
  have hF : CsiForm xs1 xs2 is f :=
    ⟨h1, fun b hb => hx b (by simp [hb]), h2, hi, csiFinal_not_inter f hf, fun _ => csiFinal_not_param f hf⟩
  refine ⟨xs1, xs2, rfl, h1, h3, ?_⟩
  rw [List.append_assoc, List.append_assoc, csiBody_run pre hF rest n1, h3, Bool.and_comm, List.length_append]
  congr 1; omega

/-! ### string payloads -/

theorem strPayload_step (bel : Bool) (b : UInt8) (rest acc : Bytes) (need n : Nat)
    (h7 : bel = true → b ≠ 7) (h9c : b = 0x9c → need ≠ 0) (h5c : b = 0x5c → acc.head? ≠ some 0x1b) :
    strPayload bel (b :: rest) acc need n =
      strPayload bel rest (b :: acc) (if isCont b ∧ need > 0 then need - 1 else leadLen b - 1) (n + 1) := by
  have c1 : ¬ (b = 7 ∧ bel = true) := fun ⟨a, c⟩ => h7 c a
  have c2 : ¬ (b = 0x9c ∧ need = 0) := fun ⟨a, c⟩ => h9c a c
  have c3 : ¬ (b = 0x5c ∧ acc.head? = some 0x1b) := fun ⟨a, c⟩ => h5c a c
  rw [strPayload]
  simp only [c1, c2, c3, if_false]

theorem strPayload_conts (bel : Bool) (cs : Bytes) : ∀ (acc : Bytes) (need n : Nat) (tl : Bytes),
    (∀ c ∈ cs, isContB c = true) → cs.length ≤ need →
    strPayload bel (cs ++ tl) acc need n = strPayload bel tl (cs.reverse ++ acc) (need - cs.length) (n + cs.length) := by
  induction cs with
  | nil => intro acc need n tl _ _; simp
  | cons c cs ih =>
    intro acc need n tl hc hlen
    have hcc : isContB c = true := hc c (by simp)
    obtain ⟨f1, f2, _⟩ := cont_not_terminator c hcc
    have hneed : need > 0 := by simp at hlen; omega
    rw [List.cons_append, strPayload_step bel c _ acc need n (fun _ => f1) (fun _ => by omega)
      (fun h => absurd h f2)]
    have : (isCont c = true ∧ need > 0) := ⟨by rw [isCont_eq]; exact hcc, hneed⟩
    rw [if_pos this, ih (c :: acc) (need - 1) (n + 1) tl (fun x hx => hc x (by simp [hx]))
      (by simp at hlen; omega)]
    simp only [List.reverse_cons, List.append_assoc, List.singleton_append, List.length_cons]
    congr 1 <;> omega

theorem head_rev_append (cs : Bytes) (l : UInt8) (acc : Bytes) (x : UInt8)
    (h : (cs.reverse ++ l :: acc).head? = some x) : x ∈ cs ∨ x = l := by
  cases hr : cs.reverse with
  | nil => rw [hr] at h; simp at h; exact Or.inr h.symm
  | cons y ys =>
    rw [hr] at h; simp at h
    have : y ∈ cs.reverse := by rw [hr]; simp
    exact Or.inl (by rw [← h]; simpa using this)

theorem strPayload_need_irrel (bel : Bool) (b : UInt8) (r acc : Bytes) (k n : Nat) (hb : isContB b = false) :
    strPayload bel (b :: r) acc k n = strPayload bel (b :: r) acc 0 n := by
  have h9 := noncont_ne_st8 b hb
  have hc : isCont b = false := by rw [isCont_eq]; exact hb
  simp only [strPayload, h9, hc, false_and, Bool.false_eq_true, if_false]

/-- a lead byte and continuation bytes, no more than it announces: read on, the last byte not ESC -/
theorem strPayload_lead (bel : Bool) (l : UInt8) (cs tl acc : Bytes) (n : Nat) (hl : 0 < contCount l)
    (hcs : ∀ c ∈ cs, isContB c = true) (hlen : cs.length ≤ contCount l) (hacc : acc.head? ≠ some 0x1b) :
    strPayload bel (l :: (cs ++ tl)) acc 0 n =
      strPayload bel tl (cs.reverse ++ l :: acc) (contCount l - cs.length) (n + 1 + cs.length) ∧
    (cs.reverse ++ l :: acc).head? ≠ some 0x1b := by
  obtain ⟨f7, f9c, f5c, f1b, fc⟩ := lead_not_terminator l hl
  refine ⟨?_, fun h => ?_⟩
  · rw [strPayload_step bel l _ acc 0 n (fun _ => f7) (fun h => absurd h f9c) (fun _ => hacc),
      if_neg (fun h => absurd h.2 (by omega)), contCount_eq,
      strPayload_conts bel cs (l :: acc) (contCount l) (n + 1) tl hcs hlen]
  · rcases head_rev_append cs l acc _ h with h | h
    · exact (cont_not_terminator _ (hcs _ h)).2.2 rfl
    · exact f1b h.symm

/-- a payload of the grammar is consumed whole, the UTF-8 counter is back to 0 after it, and
    the last byte read is not ESC -/
theorem strPayload_payload (bel : Bool) (p : Bytes) (hp : Payload bel p) :
    ∀ (acc : Bytes) (n : Nat) (tl : Bytes), acc.head? ≠ some 0x1b →
      strPayload bel (p ++ tl) acc 0 n = strPayload bel tl (p.reverse ++ acc) 0 (n + p.length) ∧
      (p.reverse ++ acc).head? ≠ some 0x1b := by
  induction hp with
  | nil => intro acc n tl h; simpa using h
  | plain b p h1b h9c h7 hcc _ ih =>
    intro acc n tl hacc
    rw [List.cons_append, strPayload_step bel b _ acc 0 n h7 (fun h => absurd h h9c) (fun _ => hacc)]
    have : ¬ (isCont b = true ∧ 0 > 0) := fun h => absurd h.2 (by omega)
    rw [if_neg this, contCount_eq, hcc]
    obtain ⟨e, hh⟩ := ih (b :: acc) (n + 1) tl (by simp [h1b])
    rw [e]
    simp only [List.reverse_cons, List.append_assoc, List.singleton_append, List.length_cons]
    refine ⟨by congr 1; omega, ?_⟩
    simpa using hh
  | multi l cs p hl hlen hcs _ ih =>
    intro acc n tl hacc
    obtain ⟨e0, hacc'⟩ := strPayload_lead bel l cs (p ++ tl) acc n hl hcs (by omega) hacc
    obtain ⟨e, hh⟩ := ih (cs.reverse ++ l :: acc) (n + 1 + cs.length) tl hacc'
    rw [List.cons_append, List.append_assoc, e0, ← hlen, Nat.sub_self, e]
    simp only [List.reverse_cons, List.reverse_append, List.append_assoc, List.singleton_append,
      List.length_cons, List.length_append]
    refine ⟨by congr 1; omega, ?_⟩
    simpa using hh
  | trunc l cs b p hl hlen hcs hb _ ih =>
    intro acc n tl hacc
    obtain ⟨e0, hacc'⟩ := strPayload_lead bel l cs (b :: p ++ tl) acc n hl hcs (by omega) hacc
    obtain ⟨e, hh⟩ := ih (cs.reverse ++ l :: acc) (n + 1 + cs.length) tl hacc'
    rw [List.cons_append] at e
    rw [List.cons_append, List.append_assoc, e0, List.cons_append, strPayload_need_irrel bel b _ _ _ _ hb, e]
    simp only [List.reverse_cons, List.reverse_append, List.append_assoc,
      List.length_cons, List.length_append, List.cons_append, List.nil_append]
    refine ⟨by congr 1; omega, ?_⟩
    simpa using hh

theorem strPayload_term (bel : Bool) (term : Bytes) (ht : StrTerm bel term) (acc : Bytes) (n : Nat) (rest : Bytes) :
    strPayload bel (term ++ rest) acc 0 n = some (acc, n + term.length) := by
  cases ht with
  | bel h => simp [strPayload, h]
  | st =>
    have : leadLen 0x1b - 1 = 0 := by decide
    simp [strPayload, isCont, this]
  | st8 => simp [strPayload]

theorem strPayload_run (bel : Bool) (p term : Bytes) (hp : Payload bel p) (ht : StrTerm bel term)
    (acc : Bytes) (n : Nat) (rest : Bytes) (hacc : acc.head? ≠ some 0x1b) :
    strPayload bel (p ++ term ++ rest) acc 0 n = some (p.reverse ++ acc, n + p.length + term.length) := by
  rw [List.append_assoc, (strPayload_payload bel p hp acc n _ hacc).1, strPayload_term bel term ht]

/-! ### OSC -/

theorem payload_cons_inv (bel : Bool) (b : UInt8) (q : Bytes) (h : Payload bel (b :: q)) (hc : contCount b = 0) :
    Payload bel q ∧ b ≠ 0x1b ∧ b ≠ 0x9c ∧ (bel = true → b ≠ 7) := by
  cases h with
  | plain _ _ h1 h2 h3 _ hq => exact ⟨hq, h1, h2, h3⟩
  | multi _ cs p hl => omega
  | trunc _ cs c p hl => omega

theorem payload_head (bel : Bool) (b : UInt8) (q : Bytes) (h : Payload bel (b :: q)) :
    b ≠ 0x1b ∧ b ≠ 0x9c ∧ (bel = true → b ≠ 7) := by
  cases h with
  | plain _ _ h1 h2 h3 _ hq => exact ⟨h1, h2, h3⟩
  | multi _ cs p hl =>
    obtain ⟨f7, f9c, _, f1b, _⟩ := lead_not_terminator b hl
    exact ⟨f1b, f9c, fun _ => f7⟩
  | trunc _ cs c p hl =>
    obtain ⟨f7, f9c, _, f1b, _⟩ := lead_not_terminator b hl
    exact ⟨f1b, f9c, fun _ => f7⟩

theorem payload_drop_digits (bel : Bool) (ds : Bytes) : ∀ (more : Bytes), (∀ d ∈ ds, isDigitB d = true) →
    Payload bel (ds ++ more) → Payload bel more := by
  induction ds with
  | nil => intro more _ h; simpa using h
  | cons d ds ih =>
    intro more hd h
    have := payload_cons_inv bel d (ds ++ more) h (digit_not_special d (hd d (by simp))).1
    exact ih more (fun x hx => hd x (by simp [hx])) this.1

/-! The OSC number: the decimal value against the parser's `dropWhile` / length test. `decVal` (the
grammar's), `TM.atoiBytes` (the parser's) and `decValFrom 0` (below) are one `foldl`, by `rfl`. -/

/-- the number the parser attaches to the digit string `ds` (Go: `strconv.Atoi`) -/
def parserOscNumber (ds : Bytes) : Nat :=
  let ds' := ds.dropWhile (· = 0x30)
  if ds'.length > 18 then 0xffffffffffff else atoiBytes ds'

def decValFrom (a : Nat) (ds : Bytes) : Nat := ds.foldl (fun a d => a * 10 + (d.toNat - 48)) a

theorem decValFrom_bounds (ds : Bytes) : ∀ a, (∀ d ∈ ds, isDigitB d = true) →
    a * 10 ^ ds.length ≤ decValFrom a ds ∧ decValFrom a ds < (a + 1) * 10 ^ ds.length := by
  induction ds with
  | nil => intro a _; simp [decValFrom]
  | cons d ds ih =>
    intro a hd
    have hv := (digitB_val d (hd d (by simp))).1
    obtain ⟨l, u⟩ := ih (a * 10 + (d.toNat - 48)) (fun x hx => hd x (by simp [hx]))
    have e : decValFrom a (d :: ds) = decValFrom (a * 10 + (d.toNat - 48)) ds := rfl
    rw [e, List.length_cons, Nat.pow_succ]
    constructor
    · calc a * (10 ^ ds.length * 10) = (a * 10) * 10 ^ ds.length := by
            rw [Nat.mul_comm (10 ^ ds.length) 10, Nat.mul_assoc]
        _ ≤ (a * 10 + (d.toNat - 48)) * 10 ^ ds.length := Nat.mul_le_mul_right _ (by omega)
        _ ≤ _ := l
    · calc decValFrom (a * 10 + (d.toNat - 48)) ds < (a * 10 + (d.toNat - 48) + 1) * 10 ^ ds.length := u
        _ ≤ ((a + 1) * 10) * 10 ^ ds.length := Nat.mul_le_mul_right _ (by omega)
        _ = (a + 1) * (10 ^ ds.length * 10) := by
            rw [Nat.mul_comm (10 ^ ds.length) 10, Nat.mul_assoc]

theorem decValFrom_dropZeros (ds : Bytes) : decValFrom 0 (ds.dropWhile (· = 0x30)) = decValFrom 0 ds := by
  induction ds with
  | nil => rfl
  | cons d ds ih =>
    rw [List.dropWhile_cons]
    by_cases h : d = 0x30
    · simp only [h, decide_true, if_true]
      rw [ih]; rfl
    · simp [h]

theorem dropZeros_head (ds : Bytes) : ∀ d r, ds.dropWhile (· = 0x30) = d :: r → d ≠ 0x30 := by
  induction ds with
  | nil => intro d r h; simp at h
  | cons x xs ih =>
    intro d r h
    rw [List.dropWhile_cons] at h
    by_cases hx : x = 0x30
    · simp only [hx, decide_true, if_true] at h; exact ih d r h
    · simp [hx] at h; rw [← h.1]; exact hx

theorem parserOscNumber_eq (ds : Bytes) (hd : ∀ d ∈ ds, isDigitB d = true) :
    parserOscNumber ds = oscNumber ds := by
  have hF : decVal ds = decValFrom 0 (ds.dropWhile (· = 0x30)) := (decValFrom_dropZeros ds).symm
  have hsub : ∀ d ∈ ds.dropWhile (· = 0x30), isDigitB d = true :=
    fun d h => hd d ((List.dropWhile_sublist _).subset h)
  unfold parserOscNumber oscNumber
  simp only []
  rw [hF]
  have hat : ∀ xs, atoiBytes xs = decValFrom 0 xs := fun _ => rfl
  rw [hat]
  cases hs : ds.dropWhile (· = 0x30) with
  | nil => simp [decValFrom]
  | cons d r =>
    -- the first digit is ≥ 1, so `len` digits have a value in `[10^(len-1), 10^len)`:
    -- `len > 18` iff the value is ≥ `10^18`
    rw [hs] at hsub
    have hne := dropZeros_head ds d r hs
    obtain ⟨v9, v1⟩ := digitB_val d (hsub d (by simp))
    have v1 := v1 hne
    obtain ⟨l, u⟩ := decValFrom_bounds r (0 * 10 + (d.toNat - 48)) (fun x hx => hsub x (by simp [hx]))
    have e : decValFrom 0 (d :: r) = decValFrom (0 * 10 + (d.toNat - 48)) r := rfl
    rw [e]
    by_cases hlen : (d :: r).length > 18
    · have h18 : 18 ≤ r.length := by simp at hlen; omega
      have : 10 ^ 18 ≤ 10 ^ r.length := Nat.pow_le_pow_right (by omega) h18
      have : 10 ^ r.length ≤ (0 * 10 + (d.toNat - 48)) * 10 ^ r.length := Nat.le_mul_of_pos_left _ (by omega)
      have : ¬ decValFrom (0 * 10 + (d.toNat - 48)) r < 10 ^ 18 := by omega
      rw [if_pos hlen, if_neg this]
    · have h17 : r.length + 1 ≤ 18 := by simp at hlen; omega
      have h1 : (0 * 10 + (d.toNat - 48) + 1) * 10 ^ r.length ≤ 10 * 10 ^ r.length := Nat.mul_le_mul_right _ (by omega)
      have h2 : 10 * 10 ^ r.length = 10 ^ (r.length + 1) := by rw [Nat.pow_succ, Nat.mul_comm]
      have h3 : 10 ^ (r.length + 1) ≤ 10 ^ 18 := Nat.pow_le_pow_right (by omega) h17
      have : decValFrom (0 * 10 + (d.toNat - 48)) r < 10 ^ 18 := by omega
      rw [if_neg hlen, if_pos this]

theorem parseOSC_digits (ds : Bytes) (b : UInt8) (r : Bytes) (n0 : Nat)
    (hd : ∀ d ∈ ds, isDigitB d = true) (hb : isDigitB b = false) :
    parseOSC (ds ++ b :: r) n0 =
      if b = 0x3b then
        match strPayload true r [] 0 (n0 + ds.length + 1) with
        | none => .need
        | some (acc, n2) => .tok (.osc (oscNumber ds) acc.reverse true) n2
      else if b = 7 ∨ b = 0x9c then .tok (.osc (oscNumber ds) [] true) (n0 + ds.length + 1)
      else
        match strPayload true r [b] (leadLen b - 1) (n0 + ds.length + 1) with
        | none => .need
        | some (_, n2) => .tok (.osc (oscNumber ds) [] false) n2 := by
  rw [← parserOscNumber_eq ds hd]
  unfold parseOSC
  rw [oscDigits_run ds [] n0 b r hd hb]
  simp only [List.reverse_nil, List.nil_append]
  rfl

end Lemmas
open Lemmas

/-! ## Framing -/

/-- CSI framing, with the token's prefix, clean flag and final byte determined by the grammar:
    the token spans exactly the sequence, whatever follows. -/
theorem csi_framing (ps is : Bytes) (f : UInt8) (h : CsiWF ps is f) (rest : Bytes) :
    ∃ params, next (csiBytes ps is f ++ rest) =
      .tok (.csi (csiPrefix ps) params (csiPlainForm ps is) f) (csiBytes ps is f).length := by
  have hplain : ∀ xs : Bytes, xs.all (fun b => isDigitB b || b == 0x3b) = xs.all isParamByte := fun xs => by
    congr 1; funext b; rw [paramByte_eq]
  have hbytes : csiBytes ps is f ++ rest = 0x1b :: 0x5b :: (ps ++ is ++ f :: rest) := by simp [csiBytes]
  have hlen : (csiBytes ps is f).length = 2 + ps.length + is.length + 1 := by simp [csiBytes]; omega
  rw [hbytes, next_esc, parseEsc_csi, hlen]
  -- the first byte after `ESC [`: a private prefix, or the start of the body
  by_cases hb : ∃ b ps', ps = b :: ps' ∧ (0x3c ≤ b && b ≤ 0x3f) = true
  · obtain ⟨b, ps', rfl, hb⟩ := hb
    obtain ⟨xs1, _, _, _, _, e⟩ := csiBody_wf b ps' is f rest 3 (fun x hx => h.params x (by simp [hx])) h.inter h.final
    refine ⟨(xs1.foldl PState.feed {}).finish, ?_⟩
    rw [List.cons_append, List.cons_append, parseCSI_cons, if_pos hb, e]
    simp [csiPrefix, csiPlainForm, csiArgs, hb, hplain]; omega
  · obtain ⟨xs1, _, _, _, _, e⟩ := csiBody_wf 0 ps is f rest 2 h.params h.inter h.final
    obtain ⟨c, r, hcr, hc⟩ : ∃ c r, ps ++ is ++ f :: rest = c :: r ∧ (0x3c ≤ c && c ≤ 0x3f) = false := by
      match ps, is, hb, h with
      | b :: ps', _, hb, _ => exact ⟨b, _, rfl, by
          cases hc : (0x3c ≤ b && b ≤ 0x3f) with
          | false => rfl
          | true => exact absurd ⟨b, ps', rfl, hc⟩ hb⟩
      | [], i :: is', _, h => exact ⟨i, _, rfl, inter_not_pfx i (h.inter i (by simp))⟩
      | [], [], _, h => exact ⟨f, rest, rfl, csiFinal_not_pfx f h.final⟩
    refine ⟨(xs1.foldl PState.feed {}).finish, ?_⟩
    rw [hcr, parseCSI_cons, hc, ← hcr]
    simp only [Bool.false_eq_true, if_false, e]
    have : csiPrefix ps = 0 ∧ csiArgs ps = ps := by
      cases ps with
      | nil => exact ⟨rfl, rfl⟩
      | cons b ps' => cases hcr; simp [csiPrefix, csiArgs, hc]
    simp [csiPlainForm, this, hplain]

/-- ESC framing: the token carries exactly the intermediates and the final byte, and spans
    exactly the sequence. -/
theorem esc_framing (is : Bytes) (f : UInt8) (h : EscWF is f) (rest : Bytes) :
    next (escBytes is f ++ rest) = .tok (.esc is f) (escBytes is f).length := by
  have hbytes : escBytes is f ++ rest = 0x1b :: (is ++ f :: rest) := by simp [escBytes]
  have hlen : (escBytes is f).length = is.length + 2 := by simp [escBytes]
  obtain ⟨c, r, hcr, hc⟩ : ∃ c r, is ++ f :: rest = c :: r ∧ (c ≠ 0x5b ∧ c ≠ 0x5d ∧ c ≠ 0x50) := by
    cases is with
    | nil => exact ⟨f, rest, rfl, h.notIntro rfl⟩
    | cons i is' => exact ⟨i, is' ++ f :: rest, rfl, inter_not_intro i (h.inter i (by simp))⟩
  rw [hbytes, next_esc, hlen, hcr, parseEsc_other c r hc.1 hc.2.1 hc.2.2, ← hcr,
    escInter_run is [] 1 f rest h.inter (escFinal_not_inter f h.final)]
  simp; omega

/-- DCS framing: the whole string up to and including its terminator is one `dcs` token. -/
theorem dcs_framing (body term : Bytes) (hp : Payload false body) (ht : StrTerm false term) (rest : Bytes) :
    next (dcsBytes body term ++ rest) = .tok .dcs (dcsBytes body term).length := by
  have hbytes : dcsBytes body term ++ rest = 0x1b :: 0x50 :: (body ++ term ++ rest) := by simp [dcsBytes]
  have hlen : (dcsBytes body term).length = 2 + body.length + term.length := by simp [dcsBytes]; omega
  rw [hbytes, next_esc, parseEsc_dcs, hlen]
  unfold parseDCS
  rw [strPayload_run false body term hp ht [] 2 rest (by simp)]

/-- OSC with a number and `;`: the token carries the number, exactly the payload bytes, and
    spans exactly the sequence. -/
theorem osc_num_framing (ds p term : Bytes) (hd : ∀ d ∈ ds, isDigitB d = true) (hp : Payload true p)
    (ht : StrTerm true term) (rest : Bytes) :
    next (oscBytes (ds ++ 0x3b :: p) term ++ rest) =
      .tok (.osc (oscNumber ds) p true) (oscBytes (ds ++ 0x3b :: p) term).length := by
  have hbytes : oscBytes (ds ++ 0x3b :: p) term ++ rest = 0x1b :: 0x5d :: (ds ++ 0x3b :: (p ++ term ++ rest)) := by
    simp [oscBytes]
  have hlen : (oscBytes (ds ++ 0x3b :: p) term).length = 2 + ds.length + 1 + p.length + term.length := by
    simp [oscBytes]; omega
  rw [hbytes, next_esc, parseEsc_osc, parseOSC_digits ds 0x3b _ 2 hd (by decide), if_pos rfl,
    strPayload_run true p term hp ht [] _ rest (by simp), hlen]
  simp

/-- OSC whose number is followed by something other than `;` or a terminator (`ESC ] 1 3 3 x … BEL`,
    `ESC ] t e x t BEL`): still consumed up to and including its terminator, and marked ill-formed. -/
theorem osc_malformed_framing (ds : Bytes) (b : UInt8) (m term : Bytes) (hd : ∀ d ∈ ds, isDigitB d = true)
    (hb : isDigitB b = false) (hsep : b ≠ 0x3b) (hp : Payload true (b :: m)) (ht : StrTerm true term) (rest : Bytes) :
    next (oscBytes (ds ++ b :: m) term ++ rest) =
      .tok (.osc (oscNumber ds) [] false) (oscBytes (ds ++ b :: m) term).length := by
  have hbytes : oscBytes (ds ++ b :: m) term ++ rest = 0x1b :: 0x5d :: (ds ++ b :: (m ++ term ++ rest)) := by
    simp [oscBytes]
  have hlen : (oscBytes (ds ++ b :: m) term).length = 2 + ds.length + (b :: m).length + term.length := by
    simp [oscBytes]; omega
  obtain ⟨h1b, h9c, h7⟩ := payload_head true b m hp
  rw [hbytes, next_esc, parseEsc_osc, hlen, parseOSC_digits ds b _ 2 hd hb]
  have hnt : ¬ (b = 7 ∨ b = 0x9c) := fun h => h.elim (h7 rfl) h9c
  rw [if_neg hsep, if_neg hnt]
  -- the malformed branch is `strPayload` one step into the payload `b :: m`
  have hstep := strPayload_step true b (m ++ term ++ rest) [] 0 (2 + ds.length) h7
    (fun h => absurd h h9c) (fun _ => by simp)
  have : ¬ (isCont b = true ∧ 0 > 0) := fun h => absurd h.2 (by omega)
  rw [if_neg this] at hstep
  rw [← hstep, ← List.cons_append, ← List.cons_append,
    strPayload_run true (b :: m) term hp ht [] _ rest (by simp)]

/-- OSC framing in general (any payload of the language after `ESC ]`, any terminator): one
    `osc` token spanning exactly the sequence. Moreover the token is marked well-formed only
    for the shapes `digits ; payload` (then it carries exactly that payload) and bare `digits`
    (ended by BEL / 0x9c; empty payload). -/
theorem osc_framing (body term : Bytes) (hp : Payload true body) (ht : StrTerm true term) (rest : Bytes) :
    ∃ num pl wf, next (oscBytes body term ++ rest) = .tok (.osc num pl wf) (oscBytes body term).length ∧
      (wf = true →
        (∃ ds p, body = ds ++ 0x3b :: p ∧ (∀ d ∈ ds, isDigitB d = true) ∧ num = oscNumber ds ∧ pl = p) ∨
        ((∀ d ∈ body, isDigitB d = true) ∧ num = oscNumber body ∧ pl = [])) := by
  obtain ⟨ds, more, e, hd, hmore, _⟩ := split_class isDigitB body
  have hpm : Payload true more := payload_drop_digits true ds more hd (e ▸ hp)
  have hlen : (oscBytes body term).length = 2 + ds.length + more.length + term.length := by
    simp [oscBytes, e]; omega
  cases more with
  | nil =>
    have hbytes : oscBytes body term ++ rest = 0x1b :: 0x5d :: (ds ++ (term ++ rest)) := by
      simp [oscBytes, e]
    have hbody : body = ds := by simp [e]
    rw [hbytes, next_esc, parseEsc_osc, hlen]
    cases ht with
    | bel _ =>
      refine ⟨oscNumber ds, [], true, ?_, fun _ => Or.inr ⟨hbody ▸ hd, by rw [hbody], rfl⟩⟩
      rw [List.singleton_append, parseOSC_digits ds 7 rest 2 hd (by decide)]
      simp
    | st8 =>
      refine ⟨oscNumber ds, [], true, ?_, fun _ => Or.inr ⟨hbody ▸ hd, by rw [hbody], rfl⟩⟩
      rw [List.singleton_append, parseOSC_digits ds 0x9c rest 2 hd (by decide)]
      simp
    | st =>
      refine ⟨oscNumber ds, [], false, ?_, fun h => by simp at h⟩
      rw [List.cons_append, parseOSC_digits ds 0x1b _ 2 hd (by decide)]
      have : leadLen 0x1b - 1 = 0 := by decide
      simp [strPayload, this]
  | cons b m =>
    subst e
    by_cases hsep : b = 0x3b
    · subst hsep
      have hpm' : Payload true m := (payload_cons_inv true _ m hpm (by decide)).1
      exact ⟨oscNumber ds, m, true, osc_num_framing ds m term hd hpm' ht rest,
        fun _ => Or.inl ⟨ds, m, rfl, hd, rfl, rfl⟩⟩
    · exact ⟨oscNumber ds, [], false,
        osc_malformed_framing ds b m term hd (hmore b rfl) hsep hpm ht rest, fun h => by simp at h⟩

/-- tokens of the control-sequence classes (not text, not a C0 control) -/
def isControlTok : Tok → Bool
  | .esc _ _ | .csi _ _ _ _ | .osc _ _ _ | .dcs => true
  | .text _ _ | .ctl _ => false

/-- Framing in the property's own form: a well-formed ESC / CSI / OSC / DCS sequence followed
    by anything yields exactly one token; that token spans exactly the sequence (nothing of it
    is left in the stream, nothing after it is taken) and is of a control-sequence class. -/
theorem framing (s : Bytes) (h : WellFormed s) (rest : Bytes) :
    ∃ tok, next (s ++ rest) = .tok tok s.length ∧ isControlTok tok = true := by
  rcases h with ⟨is, f, hw, rfl⟩ | ⟨ps, is, f, hw, rfl⟩ | ⟨body, term, hp, ht, rfl⟩ | ⟨body, term, hp, ht, rfl⟩
  · exact ⟨_, esc_framing is f hw rest, rfl⟩
  · obtain ⟨params, hn⟩ := csi_framing ps is f hw rest
    exact ⟨_, hn, rfl⟩
  · obtain ⟨num, pl, wf, hn, _⟩ := osc_framing body term hp ht rest
    exact ⟨_, hn, rfl⟩
  · exact ⟨_, dcs_framing body term hp ht rest, rfl⟩

/-! ## Unrecognised tokens change nothing -/

/-- final bytes of unprefixed CSI sequences that `Term.csiPlain` gives an effect to:
    `A B C D G d f H c m s u K J L M S T P X r n` -/
def plainFinals : List UInt8 :=
  [0x41, 0x42, 0x43, 0x44, 0x47, 0x64, 0x66, 0x48, 0x63, 0x6d, 0x73, 0x75, 0x4b, 0x4a, 0x4c, 0x4d,
   0x53, 0x54, 0x50, 0x58, 0x72, 0x6e]

/-- the (prefix, final) pairs `Term.csi` gives an effect to -/
def recognisedCsi (pfx fin : UInt8) : Bool :=
  (pfx == 0 && plainFinals.contains fin) ||
  (pfx == 0x3f && (fin == 0x75 || fin == 0x68 || fin == 0x6c)) ||     -- ? u h l
  (pfx == 0x3e && (fin == 0x63 || fin == 0x6d || fin == 0x75)) ||     -- > c m u
  (pfx == 0x3c && fin == 0x75) ||                                     -- < u
  (pfx == 0x3d && fin == 0x75)                                        -- = u

/-- the finite table of tokens `Term.apply` gives an effect to -/
def recognised : Tok → Bool
  | .text _ _ => true
  | .ctl b => [7, 8, 127, 9, 10, 12, 13].contains b
  | .esc inter fin => inter.isEmpty && [0x44, 0x4d, 0x3d, 0x3e].contains fin   -- ESC D M = >
  | .csi pfx _ clean fin => clean && recognisedCsi pfx fin
  | .osc num _ wf => wf && [0, 2, 6, 7].contains num
  | .dcs => false

theorem unknown_noop (cw : Nat → Nat) (t : Term) (tok : Tok) (h : recognised tok = false) :
    Term.apply cw t tok = (t, []) := by
  cases tok with
  | text s cp => simp [recognised] at h
  | ctl b =>
    simp [recognised] at h
    simp [Term.apply, h]
  | esc inter fin =>
    simp [recognised] at h
    by_cases hi : inter = []
    · simp [hi] at h
      simp [Term.apply, hi, h]
    · simp [Term.apply, hi]
  | csi pfx ps clean fin =>
    cases clean with
    | false => simp [Term.apply]
    | true =>
      -- `h` becomes, for each of the five prefixes, "the final byte is none of those recognised
      -- under it" (for no prefix: `fin ≠ f` for every `f ∈ plainFinals`); under its prefix `simp`
      -- refutes with these every `if` of the cascade. `Term.csiPlain_cases` is of no use here: its
      -- hypotheses do not all carry the final byte.
      simp [recognised, recognisedCsi, plainFinals] at h
      simp only [Term.apply, if_true]
      obtain ⟨⟨⟨⟨h0, h1⟩, h2⟩, h3⟩, h4⟩ := h
      unfold Term.csi
      by_cases p0 : pfx = 0
      · have := h0 p0
        simp [p0, Term.csiPlain, this]
      · rw [if_neg p0]
        by_cases p1 : pfx = 0x3f
        · have := h1 p1; simp [p1, this]
        · rw [if_neg p1]
          by_cases p2 : pfx = 0x3e
          · have := h2 p2; simp [p2, this]
          · rw [if_neg p2]
            by_cases p3 : pfx = 0x3c
            · have := h3 p3; simp [p3, this]
            · rw [if_neg p3]
              by_cases p4 : pfx = 0x3d
              · have := h4 p4; simp [p4, this]
              · rw [if_neg p4]
  | osc num payload wf =>
    cases wf with
    | false => simp [Term.apply]
    | true =>
      simp [recognised] at h
      simp [Term.apply, h]
  | dcs => simp [Term.apply]

/-! ### the table `recognised` is tight: everything in it does have an effect -/

def recognisedPairs : List (UInt8 × UInt8) :=
  plainFinals.map (fun f => (0, f)) ++
  [(0x3f, 0x75), (0x3f, 0x68), (0x3f, 0x6c), (0x3e, 0x63), (0x3e, 0x6d), (0x3e, 0x75), (0x3c, 0x75), (0x3d, 0x75)]

theorem recognisedCsi_mem (pfx fin : UInt8) (h : recognisedCsi pfx fin = true) : (pfx, fin) ∈ recognisedPairs := by
  simp only [recognisedCsi, Bool.or_eq_true, Bool.and_eq_true, beq_iff_eq, List.contains_iff_mem] at h
  rcases h with (((⟨rfl, h⟩ | ⟨rfl, h⟩) | ⟨rfl, h⟩) | ⟨rfl, rfl⟩) | ⟨rfl, rfl⟩
  · exact List.mem_append_left _ (List.mem_map.2 ⟨fin, h, rfl⟩)
  all_goals apply List.mem_append_right
  · rcases h with (rfl | rfl) | rfl <;> decide
  · rcases h with (rfl | rfl) | rfl <;> decide
  · decide
  · decide

/-- parameters with which the pair has an effect on `tightState` -/
def tightParams (pfx fin : UInt8) : List Int :=
  if pfx = 0 then (if fin = 0x6e then [5] else if fin = 0x72 then [2] else [])
  else if pfx = 0x3f then [1]
  else if pfx = 0x3e ∧ fin = 0x6d then [4, 1]
  else []

/-- a 4×4 terminal with the cursor at (1,1), keyboard flags 1 and one stack entry -/
def tightState : Term :=
  { Term.init .keep 4 4 with main := { Scr.init 4 4 with cx := 1, cy := 1 }, kmain := { flags := 1, stack := [2] } }

/-- observable difference: an event, or a changed screen / keyboard component -/
def effectful (r : Term × List Ev) (t : Term) : Bool :=
  !r.2.isEmpty || r.1.main != t.main || r.1.kmain != t.kmain

theorem effectful_ne (r : Term × List Ev) (t : Term) (h : effectful r t = true) : r ≠ (t, []) := by
  intro e; subst e; simp [effectful] at h

theorem recognisedPairs_effectful : recognisedPairs.all (fun pr =>
    effectful (Term.apply id tightState (.csi pr.1 (tightParams pr.1 pr.2) true pr.2)) tightState) = true := by
  decide

/-- every (prefix, final) pair of the table has, for suitable parameters and a suitable state, an
    observable effect: the table cannot be shrunk, `unknown_noop` covers all that can be covered -/
theorem recognisedCsi_tight (pfx fin : UInt8) (h : recognisedCsi pfx fin = true) :
    ∃ (ps : List Int) (t : Term), Term.apply id t (.csi pfx ps true fin) ≠ (t, []) := by
  have := List.all_eq_true.1 recognisedPairs_effectful (pfx, fin) (recognisedCsi_mem pfx fin h)
  exact ⟨tightParams pfx fin, tightState, effectful_ne _ _ this⟩

/-- the recognised ESC finals, OSC numbers and C0 controls emit an event in every state -/
theorem recognised_other_tight (cw : Nat → Nat) (t : Term) (tok : Tok) (h : recognised tok = true)
    (hc : ∀ pfx ps clean fin, tok ≠ .csi pfx ps clean fin) (ht : ∀ st cp, tok ≠ .text st cp) :
    (Term.apply cw t tok).2 ≠ [] := by
  cases tok with
  | text st cp => exact absurd rfl (ht st cp)
  | csi pfx ps clean fin => exact absurd rfl (hc pfx ps clean fin)
  | dcs => simp [recognised] at h
  | ctl b =>
    simp [recognised] at h
    rcases h with rfl | rfl | rfl | rfl | rfl | rfl | rfl <;> simp [Term.apply, Term.withScr]
  | esc inter fin =>
    simp [recognised] at h
    obtain ⟨rfl, h⟩ := h
    rcases h with rfl | rfl | rfl | rfl <;> simp [Term.apply, Term.withScr, Term.setVFlag]
  | osc num p wf =>
    simp [recognised] at h
    obtain ⟨rfl, h⟩ := h
    rcases h with rfl | rfl | rfl | rfl <;> simp [Term.apply, Term.setVStr]

/-! ## Nothing of a sequence is drawn -/

/-- the event by which the screen reports drawn text (`RegionChanged(…, CRText)`, reason 0) -/
def isTextEv : Ev → Bool
  | .region _ _ _ _ 0 => true
  | _ => false

theorem control_no_text_event (cw : Nat → Nat) (t : Term) (tok : Tok) (h : isControlTok tok = true) :
    ∀ e ∈ (Term.apply cw t tok).2, isTextEv e = false := by
  intro e he
  have := List.all_eq_true.1 (t.apply_control cw tok (by rintro st cp rfl; cases h)) e he
  cases e with
  | region x1 y1 x2 y2 r => cases r with
    | zero => cases this
    | succ => rfl
  | _ => rfl

/-- a well-formed sequence never makes the screen report drawn text (`CRText`), whatever it is -/
theorem no_text_event (s : Bytes) (h : WellFormed s) (rest : Bytes) :
    ∃ tok, next (s ++ rest) = .tok tok s.length ∧
      ∀ cw t, ∀ e ∈ (Term.apply cw t tok).2, isTextEv e = false := by
  obtain ⟨tok, hn, hc⟩ := framing s h rest
  exact ⟨tok, hn, fun cw t => control_no_text_event cw t tok hc⟩

/-- The token of a well-formed sequence is neither a text token nor a C0 control, so none of its
    bytes reaches `Scr.put`. If the token is not in the `recognised` table, both screens (their
    grids included) are exactly as before and nothing is emitted. -/
theorem no_draw (s : Bytes) (h : WellFormed s) (rest : Bytes) :
    ∃ tok, next (s ++ rest) = .tok tok s.length ∧
      (∀ st cp, tok ≠ .text st cp) ∧ (∀ b, tok ≠ .ctl b) ∧
      (recognised tok = false → ∀ cw t,
        (Term.apply cw t tok).1.main.grid = t.main.grid ∧ (Term.apply cw t tok).1.alt.grid = t.alt.grid ∧
        (Term.apply cw t tok).1.main = t.main ∧ (Term.apply cw t tok).1.alt = t.alt ∧
        (Term.apply cw t tok).2 = []) := by
  obtain ⟨tok, hn, hc⟩ := framing s h rest
  refine ⟨tok, hn, ?_, ?_, ?_⟩
  · intro st cp e; rw [e] at hc; simp [isControlTok] at hc
  · intro b e; rw [e] at hc; simp [isControlTok] at hc
  · intro hr cw t
    rw [unknown_noop cw t tok hr]
    simp

/-! ## OSC 0 / 2 / 6 / 7 deliver exactly their payload -/

/-- which view string an OSC number sets: 0 and 2 the title, 6 the file, 7 the directory slot
    (view strings 0, 1, 2 of the model) -/
def oscTarget : Nat → Option Nat
  | 0 => some 0
  | 2 => some 0
  | 6 => some 1
  | 7 => some 2
  | _ => none

theorem oscTarget_lt (num i : Nat) (hi : oscTarget num = some i) : num < 8 ∧ i < 3 := by
  unfold oscTarget at hi
  split at hi <;> simp at hi <;> omega

theorem osc_apply (num i : Nat) (hi : oscTarget num = some i) (p : Bytes) (cw : Nat → Nat) (t : Term) :
    Term.apply cw t (.osc num p true) = ({ t with vstrs := t.vstrs.set i p }, [Ev.vstr i p]) := by
  unfold oscTarget at hi
  split at hi <;> simp at hi <;> subst hi <;> simp [Term.apply, Term.setVStr]

/-- `ESC ] ds ; p (BEL | ESC \\ | 0x9c)` for every digit string `ds` whose decimal value is
    `num ∈ {0,2,6,7}` (leading zeros allowed) and every payload `p` of the language: the token
    carries exactly `p`, spans exactly the sequence, and its effect is to set view string `i`
    to exactly `p` and to emit exactly `vstr i p`. -/
theorem osc_payload (ds : Bytes) (hd : ∀ d ∈ ds, isDigitB d = true) (num i : Nat) (hnum : decVal ds = num)
    (hi : oscTarget num = some i) (p term : Bytes) (hp : Payload true p)
    (ht : StrTerm true term) (rest : Bytes) (cw : Nat → Nat) (t : Term) :
    next (oscBytes (ds ++ 0x3b :: p) term ++ rest) =
        .tok (.osc num p true) (oscBytes (ds ++ 0x3b :: p) term).length ∧
      Term.apply cw t (.osc num p true) = ({ t with vstrs := t.vstrs.set i p }, [Ev.vstr i p]) := by
  have hlt := (oscTarget_lt num i hi).1
  have hn : oscNumber ds = num := by
    have : decVal ds < 10 ^ 18 := by rw [hnum]; omega
    rw [oscNumber, if_pos this, hnum]
  exact ⟨hn ▸ osc_num_framing ds p term hd hp ht rest, osc_apply num i hi p cw t⟩

/-- the same with the number written by `strconv.Itoa` (`0`, `2`, `6`, `7`) -/
theorem osc_payload_itoa (num i : Nat) (hi : oscTarget num = some i) (p term : Bytes) (hp : Payload true p)
    (ht : StrTerm true term) (rest : Bytes) (cw : Nat → Nat) (t : Term) :
    next (oscBytes (itoa num ++ 0x3b :: p) term ++ rest) =
        .tok (.osc num p true) (oscBytes (itoa num ++ 0x3b :: p) term).length ∧
      Term.apply cw t (.osc num p true) = ({ t with vstrs := t.vstrs.set i p }, [Ev.vstr i p]) :=
  osc_payload (itoa num) (itoa_digits num) num i (itoa_val num) hi p term hp ht rest cw t

/-- pointwise reading of `osc_payload`: afterwards view string `i` is `p`, the others are untouched,
    and so are both buffers, which one is active, the view flags and ints, both keyboard states -/
theorem osc_payload_pointwise (num i : Nat) (hi : oscTarget num = some i) (p : Bytes) (cw : Nat → Nat) (t : Term)
    (hlen : t.vstrs.length = 3) :
    let t' := (Term.apply cw t (.osc num p true)).1
    t'.vstrs[i]? = some p ∧ (∀ j, j ≠ i → t'.vstrs[j]? = t.vstrs[j]?) ∧
      t'.main = t.main ∧ t'.alt = t.alt ∧ t'.onAlt = t.onAlt ∧ t'.vflags = t.vflags ∧ t'.vints = t.vints ∧
      t'.kmain = t.kmain ∧ t'.kalt = t.kalt := by
  have hi3 : i < 3 := (oscTarget_lt num i hi).2
  have happ := osc_apply num i hi p cw t
  simp only [happ]
  refine ⟨by simp [hlen, hi3], ?_, trivial, trivial, trivial, trivial, trivial, trivial, trivial⟩
  intro j hj
  simp [Ne.symm hj]

/-! ## No residue in the read loop -/

theorem run_skip (cw : Nat → Nat) (t : Term) (s post : Bytes) (tok : Tok)
    (h : next (s ++ post) = .tok tok s.length) (hr : recognised tok = false) :
    run cw t (s ++ post) = run cw t post := by
  rw [run_step cw t _ tok _ h, unknown_noop cw t tok hr]
  simp

/-- The property's own form: a well-formed sequence in front of any `post` is one control token;
    if it is not a recognised one, reading `seq ++ post` is the same as reading `post`: same terminal
    state, same events, same unconsumed bytes. (Holds from every state `t`, i.e. after any text.) -/
theorem run_unrecognised (s : Bytes) (h : WellFormed s) (cw : Nat → Nat) (t : Term) (post : Bytes) :
    ∃ tok, next (s ++ post) = .tok tok s.length ∧ isControlTok tok = true ∧
      (recognised tok = false → run cw t (s ++ post) = run cw t post) := by
  obtain ⟨tok, hn, hc⟩ := framing s h post
  exact ⟨tok, hn, hc, run_skip cw t s post tok hn⟩

/-- CSI with intermediates, with `:` sub-parameters / late private bytes, or with a
    (prefix, final) pair outside the table: no residue. -/
theorem run_csi_unrecognised (ps is : Bytes) (f : UInt8) (h : CsiWF ps is f)
    (hu : csiPlainForm ps is = false ∨ recognisedCsi (csiPrefix ps) f = false)
    (cw : Nat → Nat) (t : Term) (post : Bytes) :
    run cw t (csiBytes ps is f ++ post) = run cw t post := by
  obtain ⟨params, hn⟩ := csi_framing ps is f h post
  apply run_skip cw t _ post _ hn
  rcases hu with hu | hu <;> simp [recognised, hu]

/-- ESC with intermediates (`ESC # 8`, `ESC ( B`, …) or with a final other than `D M = >`: no residue. -/
theorem run_esc_unrecognised (is : Bytes) (f : UInt8) (h : EscWF is f)
    (hu : is ≠ [] ∨ f ∉ [0x44, 0x4d, 0x3d, 0x3e])
    (cw : Nat → Nat) (t : Term) (post : Bytes) :
    run cw t (escBytes is f ++ post) = run cw t post := by
  apply run_skip cw t _ post _ (esc_framing is f h post)
  rcases hu with hu | hu
  · simp [recognised, hu]
  · simp only [recognised, Bool.and_eq_false_iff]
    right
    simpa using hu

/-- every DCS string: no residue. -/
theorem run_dcs (body term : Bytes) (hp : Payload false body) (ht : StrTerm false term)
    (cw : Nat → Nat) (t : Term) (post : Bytes) :
    run cw t (dcsBytes body term ++ post) = run cw t post :=
  run_skip cw t _ post _ (dcs_framing body term hp ht post) rfl

/-- OSC `digits ; payload` with a number other than 0, 2, 6, 7: no residue. -/
theorem run_osc_unknown_number (ds p term : Bytes) (hd : ∀ d ∈ ds, isDigitB d = true) (hp : Payload true p)
    (ht : StrTerm true term) (hu : decVal ds ∉ [0, 2, 6, 7])
    (cw : Nat → Nat) (t : Term) (post : Bytes) :
    run cw t (oscBytes (ds ++ 0x3b :: p) term ++ post) = run cw t post := by
  apply run_skip cw t _ post _ (osc_num_framing ds p term hd hp ht post)
  simp only [recognised, Bool.true_and]
  unfold oscNumber
  split
  · simpa using hu
  · decide

/-- OSC whose number is not followed by `;` or a terminator: no residue. -/
theorem run_osc_malformed (ds : Bytes) (b : UInt8) (m term : Bytes) (hd : ∀ d ∈ ds, isDigitB d = true)
    (hb : isDigitB b = false) (hsep : b ≠ 0x3b) (hp : Payload true (b :: m)) (ht : StrTerm true term)
    (cw : Nat → Nat) (t : Term) (post : Bytes) :
    run cw t (oscBytes (ds ++ b :: m) term ++ post) = run cw t post :=
  run_skip cw t _ post _ (osc_malformed_framing ds b m term hd hb hsep hp ht post) rfl

/-- OSC 0/2/6/7 in the read loop: exactly one `vstr i p` event in front of what `post` produces
    from the state with view string `i` set to `p`; nothing of the sequence is left. -/
theorem run_osc_payload (ds : Bytes) (hd : ∀ d ∈ ds, isDigitB d = true) (num i : Nat) (hnum : decVal ds = num)
    (hi : oscTarget num = some i) (p term : Bytes) (hp : Payload true p)
    (ht : StrTerm true term) (cw : Nat → Nat) (t : Term) (post : Bytes) :
    run cw t (oscBytes (ds ++ 0x3b :: p) term ++ post) =
      ((run cw { t with vstrs := t.vstrs.set i p } post).1,
       Ev.vstr i p :: (run cw { t with vstrs := t.vstrs.set i p } post).2.1,
       (run cw { t with vstrs := t.vstrs.set i p } post).2.2) := by
  obtain ⟨hn, ha⟩ := osc_payload ds hd num i hnum hi p term hp ht post cw t
  rw [run_step cw t _ _ _ hn, ha]
  simp

def isAsciiPrintable (b : UInt8) : Bool := 0x20 ≤ b && b ≤ 0x7e

theorem isAsciiPrintable_iff (b : UInt8) : isAsciiPrintable b = true ↔ 32 ≤ b.toNat ∧ b.toNat ≤ 126 := by
  simp [isAsciiPrintable, UInt8.le_iff_toNat_le]

/-- a sequence whose token is unrecognised, embedded between ASCII text `pre` and anything `post`:
    reading `pre ++ s ++ post` is the same as reading `pre ++ post` -/
theorem run_embedded (cw : Nat → Nat) (pre : Bytes) (hpre : ∀ b ∈ pre, isAsciiPrintable b = true) :
    ∀ (t : Term) (s post : Bytes) (tok : Tok),
    next (s ++ post) = .tok tok s.length → recognised tok = false →
    run cw t (pre ++ s ++ post) = run cw t (pre ++ post) := by
  induction pre with
  | nil => intro t s post tok h hr; simpa using run_skip cw t s post tok h hr
  | cons b pre ih =>
    intro t s post tok h hr
    have hb := (isAsciiPrintable_iff b).1 (hpre b (by simp))
    rw [List.cons_append, List.cons_append, List.cons_append,
      run_step cw t _ _ _ (next_ascii b hb _), run_step cw t _ _ _ (next_ascii b hb _)]
    simp only [List.drop_succ_cons, List.drop_zero]
    rw [ih (fun x hx => hpre x (by simp [hx])) _ s post tok h hr]

/-- The property's own form, with text on both sides: a well-formed control sequence embedded
    between printable text `pre` and an arbitrary continuation `post` is one control token; unless it
    is a recognised one the result (terminal state, events, unconsumed bytes) is exactly that of
    `pre ++ post`. -/
theorem embedded_no_residue (pre s post : Bytes) (hpre : ∀ b ∈ pre, isAsciiPrintable b = true)
    (h : WellFormed s) (cw : Nat → Nat) (t : Term) :
    ∃ tok, next (s ++ post) = .tok tok s.length ∧ isControlTok tok = true ∧
      (recognised tok = false → run cw t (pre ++ s ++ post) = run cw t (pre ++ post)) := by
  obtain ⟨tok, hn, hc⟩ := framing s h post
  exact ⟨tok, hn, hc, run_embedded cw pre hpre t s post tok hn⟩

/-! ## Non-vacuity: concrete members of the grammar, and the theorems applied to them -/

section Examples

/-- `ESC [ 1 SP q` (DECSCUSR: a CSI with an intermediate) -/
example : CsiWF [0x31] [0x20] 0x71 := ⟨by decide, by decide, by decide⟩
example : csiBytes [0x31] [0x20] 0x71 = [0x1b, 0x5b, 0x31, 0x20, 0x71] := rfl
example : csiPlainForm [0x31] [0x20] = false := by decide
example (cw : Nat → Nat) (t : Term) (post : Bytes) :
    run cw t ([0x1b, 0x5b, 0x31, 0x20, 0x71] ++ post) = run cw t post :=
  run_csi_unrecognised [0x31] [0x20] 0x71 ⟨by decide, by decide, by decide⟩ (Or.inl (by decide)) cw t post
example : next ([0x1b, 0x5b, 0x31, 0x20, 0x71] ++ [0x41, 0x42]) = .tok (.csi 0 [1] false 0x71) 5 := by decide

/-- `ESC [ 4 : 3 m` (colon sub-parameters) -/
example : CsiWF [0x34, 0x3a, 0x33] [] 0x6d := ⟨by decide, by decide, by decide⟩
example : csiPlainForm [0x34, 0x3a, 0x33] [] = false := by decide
example (cw : Nat → Nat) (t : Term) (post : Bytes) :
    run cw t ([0x1b, 0x5b, 0x34, 0x3a, 0x33, 0x6d] ++ post) = run cw t post :=
  run_csi_unrecognised [0x34, 0x3a, 0x33] [] 0x6d ⟨by decide, by decide, by decide⟩ (Or.inl (by decide)) cw t post

/-- `ESC [ ? 1 ; 2 $ y` private prefix, two parameters, intermediate; `ESC [ > 0 q` unknown pair -/
example : CsiWF [0x3f, 0x31, 0x3b, 0x32] [0x24] 0x79 := ⟨by decide, by decide, by decide⟩
example : csiPrefix [0x3e, 0x30] = 0x3e ∧ csiPlainForm [0x3e, 0x30] [] = true ∧ recognisedCsi 0x3e 0x71 = false := by decide
example (cw : Nat → Nat) (t : Term) (post : Bytes) :
    run cw t ([0x1b, 0x5b, 0x3e, 0x30, 0x71] ++ post) = run cw t post :=
  run_csi_unrecognised [0x3e, 0x30] [] 0x71 ⟨by decide, by decide, by decide⟩ (Or.inr (by decide)) cw t post

/-- a recognised one for contrast: `ESC [ 2 J` is plain and in the table -/
example : csiPlainForm [0x32] [] = true ∧ recognisedCsi (csiPrefix [0x32]) 0x4a = true := by decide

/-- `ESC # 8` (DECALN) and `ESC ( B` -/
example : EscWF [0x23] 0x38 := ⟨by decide, by decide, by simp⟩
example : EscWF [0x28] 0x42 := ⟨by decide, by decide, by simp⟩
example : EscWF [] 0x63 := ⟨by decide, by decide, by decide⟩
example (cw : Nat → Nat) (t : Term) (post : Bytes) :
    run cw t ([0x1b, 0x23, 0x38] ++ post) = run cw t post :=
  run_esc_unrecognised [0x23] 0x38 ⟨by decide, by decide, by simp⟩ (Or.inl (by simp)) cw t post
example : next ([0x1b, 0x23, 0x38] ++ [0x41]) = .tok (.esc [0x23] 0x38) 3 := by decide

theorem payload_title : Payload true [0x74, 0x69, 0x74, 0x6c, 0x65] := by
  repeat (first | exact Payload.nil | apply Payload.plain _ _ (by decide) (by decide) (by decide) (by decide))

/-- `ESC ] 0 ; title BEL` -/
example (cw : Nat → Nat) (t : Term) (rest : Bytes) :
    next ([0x1b, 0x5d, 0x30, 0x3b, 0x74, 0x69, 0x74, 0x6c, 0x65, 0x07] ++ rest) =
      .tok (.osc 0 [0x74, 0x69, 0x74, 0x6c, 0x65] true) 10 ∧
    (Term.apply cw t (.osc 0 [0x74, 0x69, 0x74, 0x6c, 0x65] true)).2 = [Ev.vstr 0 [0x74, 0x69, 0x74, 0x6c, 0x65]] := by
  have := osc_payload_itoa 0 0 rfl _ [7] payload_title (.bel rfl) rest cw t
  exact ⟨this.1, by rw [this.2]⟩

/-- a payload containing `E2 9C 9C` (U+271C): both 0x9c bytes are continuation bytes -/
theorem payload_9c : Payload true [0x61, 0xE2, 0x9C, 0x9C, 0x62] :=
  .plain 0x61 _ (by decide) (by decide) (by decide) (by decide)
    (.multi 0xE2 [0x9C, 0x9C] [0x62] (by decide) (by decide) (by decide)
      (.plain 0x62 _ (by decide) (by decide) (by decide) (by decide) .nil))

/-- `ESC ] 2 ; a ✜ b ESC \`: delivered whole -/
example (rest : Bytes) :
    next ([0x1b, 0x5d, 0x32, 0x3b, 0x61, 0xE2, 0x9C, 0x9C, 0x62, 0x1b, 0x5c] ++ rest) =
      .tok (.osc 2 [0x61, 0xE2, 0x9C, 0x9C, 0x62] true) 11 :=
  (osc_payload_itoa 2 0 rfl _ [0x1b, 0x5c] payload_9c .st rest id (Term.init .keep 1 1)).1

/-- a truncated character inside a payload: `a E2 9C b` (the 0x9c is still a continuation byte) -/
theorem payload_trunc : Payload true [0x61, 0xE2, 0x9C, 0x62] :=
  .plain 0x61 _ (by decide) (by decide) (by decide) (by decide)
    (.trunc 0xE2 [0x9C] 0x62 [] (by decide) (by decide) (by decide) (by decide)
      (.plain 0x62 _ (by decide) (by decide) (by decide) (by decide) .nil))
example (rest : Bytes) :
    next ([0x1b, 0x5d, 0x37, 0x3b, 0x61, 0xE2, 0x9C, 0x62, 0x07] ++ rest) =
      .tok (.osc 7 [0x61, 0xE2, 0x9C, 0x62] true) 9 :=
  (osc_payload_itoa 7 2 rfl _ [7] payload_trunc (.bel rfl) rest id (Term.init .keep 1 1)).1

/-- but a payload *ending* in a truncated character swallows an 8-bit ST: the language rightly
    excludes it -/
example : next [0x1b, 0x5d, 0x30, 0x3b, 0xE2, 0x9c] = .need := by decide

/-- the restrictions of the payload language are necessary: a stand-alone 0x9c ends the string
    early (the rest is then drawn as text), and so does BEL -/
example : next [0x1b, 0x5d, 0x30, 0x3b, 0x61, 0x9c, 0x62, 0x07] = .tok (.osc 0 [0x61] true) 6 := by decide
example : next [0x1b, 0x50, 0x61, 0x9c, 0x62, 0x1b, 0x5c] = .tok .dcs 4 := by decide

/-- a DCS payload may contain BEL -/
example : Payload false [0x31, 0x07, 0x71] := by
  repeat (first | exact Payload.nil | apply Payload.plain _ _ (by decide) (by decide) (by decide) (by decide))
example : next ([0x1b, 0x50, 0x31, 0x07, 0x71, 0x1b, 0x5c] ++ [0x41]) = .tok .dcs 7 := by decide

/-- the sequences above are `WellFormed` -/
example : WellFormed [0x1b, 0x5b, 0x31, 0x20, 0x71] :=
  .inr (.inl ⟨[0x31], [0x20], 0x71, ⟨by decide, by decide, by decide⟩, rfl⟩)
example : WellFormed [0x1b, 0x23, 0x38] :=
  .inl ⟨[0x23], 0x38, ⟨by decide, by decide, by simp⟩, rfl⟩
example : WellFormed [0x1b, 0x5d, 0x74, 0x69, 0x74, 0x6c, 0x65, 0x9c] :=
  .inr (.inr (.inl ⟨_, [0x9c], payload_title, .st8, rfl⟩))

/-- text, `ESC [ 1 SP q`, text: same as the text alone -/
example (cw : Nat → Nat) (t : Term) :
    run cw t ([0x61, 0x62] ++ [0x1b, 0x5b, 0x31, 0x20, 0x71] ++ [0x63, 0x64]) = run cw t ([0x61, 0x62] ++ [0x63, 0x64]) :=
  run_embedded cw [0x61, 0x62] (by decide) t _ _ (.csi 0 [1] false 0x71) (by decide) rfl

/-- leading zeros: `ESC ] 0 0 2 ; title BEL` sets the title; `ESC ] 1 3 3 ; title BEL` is skipped -/
example (rest : Bytes) :
    next (oscBytes ([0x30, 0x30, 0x32] ++ 0x3b :: [0x74, 0x69, 0x74, 0x6c, 0x65]) [7] ++ rest) =
      .tok (.osc 2 [0x74, 0x69, 0x74, 0x6c, 0x65] true) 12 :=
  (osc_payload [0x30, 0x30, 0x32] (by decide) 2 0 (by decide) rfl _ [7] payload_title (.bel rfl) rest id
    (Term.init .keep 1 1)).1
example (cw : Nat → Nat) (t : Term) (post : Bytes) :
    run cw t (oscBytes ([0x31, 0x33, 0x33] ++ 0x3b :: [0x74, 0x69, 0x74, 0x6c, 0x65]) [7] ++ post) = run cw t post :=
  run_osc_unknown_number [0x31, 0x33, 0x33] _ [7] (by decide) payload_title (.bel rfl) (by decide) cw t post

/-- `ESC ] t i t l e ST`: no number, no `;` — skipped whole -/
example (cw : Nat → Nat) (t : Term) (post : Bytes) :
    run cw t ([0x1b, 0x5d, 0x74, 0x69, 0x74, 0x6c, 0x65, 0x1b, 0x5c] ++ post) = run cw t post :=
  run_osc_malformed [] 0x74 [0x69, 0x74, 0x6c, 0x65] [0x1b, 0x5c] (by decide) (by decide) (by decide)
    payload_title .st cw t post

/-- twenty parameters: `ESC [ 1;1;1;1;1;1;1;1;1;1;1;1;1;1;1;1;1;1;1;1 z` -/
example : CsiWF ((List.replicate 19 [0x31, 0x3b]).flatten ++ [0x31]) [] 0x7a := ⟨by decide, by decide, by decide⟩

end Examples

#print axioms TM.C09.csi_framing
#print axioms TM.C09.esc_framing
#print axioms TM.C09.osc_num_framing
#print axioms TM.C09.osc_malformed_framing
#print axioms TM.C09.osc_framing
#print axioms TM.C09.dcs_framing
#print axioms TM.C09.framing
#print axioms TM.C09.no_draw
#print axioms TM.C09.unknown_noop
#print axioms TM.C09.recognisedCsi_tight
#print axioms TM.C09.recognised_other_tight
#print axioms TM.C09.control_no_text_event
#print axioms TM.C09.no_text_event
#print axioms TM.C09.osc_payload
#print axioms TM.C09.osc_payload_itoa
#print axioms TM.C09.osc_payload_pointwise
#print axioms TM.C09.run_skip
#print axioms TM.C09.run_unrecognised
#print axioms TM.C09.run_csi_unrecognised
#print axioms TM.C09.run_esc_unrecognised
#print axioms TM.C09.run_dcs
#print axioms TM.C09.run_osc_unknown_number
#print axioms TM.C09.run_osc_malformed
#print axioms TM.C09.run_osc_payload
#print axioms TM.C09.run_embedded
#print axioms TM.C09.embedded_no_residue

end TM.C09
