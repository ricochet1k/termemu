import TM.SpanScreen
import Props.C02SpanScreen
/-!
# C03SpanWrite — `moveCursor` and the general path of `writeString` of the span buffer

`TM/SpanScreen.lean` transcribes the Go-shaped `moveCursor(dx,dy,wrap,scroll)` and
`writeString(text,width)` (runs of several characters written as ONE span, `splitRunToFit` pieces).
The theorems tie them to the single-character `SScr.put` / the cell-level `Scr.put` (span policy):
`moveCursor` at the right edge and after a write is the wrap / pin / advance of `put`; `writeString`
of one character is `put`; a run of complete characters that fits and starts on a character
boundary, written as one span, shows what putting the characters one by one shows; a run that does
not fit is cut by `splitRunToFit` into the first character plus as many as fit, and the rest.
`replaceInvalidUTF8 text = text` is a hypothesis throughout (`replaceInvalidUTF8_valid/_flat/_token`
of `Props/C03SpanFeed.lean` discharge it).
-/
namespace TM.C03SpanWrite
open TM TM.C02Span TM.C02SpanScreen

/-- the geometry part of `SScr.inv` (what `moveCursor` depends on) -/
structure Geom (s : SScr) : Prop where
  w1 : 1 ≤ s.w
  cx : s.cx < s.w
  cy : s.cy < s.h
  tb : s.top ≤ s.bot
  bh : s.bot < s.h

theorem geom_of_inv {cw : Nat → Nat} {s : SScr} (hs : SScr.inv cw s = true) : Geom s :=
  have g := inv_geo hs
  { w1 := g.w_pos, cx := g.cx_lt, cy := g.cy_lt, tb := g.top_le, bh := g.bot_lt }

theorem geom_setLine {s : SScr} (g : Geom s) (y : Nat) (l : SLine) : Geom (s.setLine y l) :=
  ⟨g.w1, g.cx, g.cy, g.tb, g.bh⟩

theorem with_cy (S : SScr) (x c : Nat) (h : c = S.cy) :
    ({ S with cx := x, cy := c } : SScr) = { S with cx := x } := by subst h; rfl

/-- the first half of `moveCursor`: the column brought into `[0, w)` and the row it lands on -/
def hmove (s : SScr) (dx : Int) (wrap : Bool) : Int × Int :=
  if wrap && s.wrap then (((s.cx : Int) + dx) % (s.w : Int), (s.cy : Int) + ((s.cx : Int) + dx) / (s.w : Int))
  else (max 0 (min ((s.cx : Int) + dx) ((s.w : Int) - 1)), (s.cy : Int))

/-- the second half of `moveCursor`: the region scrolls when the target row `y` lies beyond its
    edge (`sc`: scrolling allowed and the cursor inside the region), the cursor is set and clamped -/
def vfin (s : SScr) (sc : Bool) (y : Int) (x : Nat) : SScr :=
  let (s, y) : SScr × Int :=
    if sc then
      let (s, y) := if y < (s.top : Int) then (s.scroll s.top s.bot ((s.top : Int) - y), (s.top : Int)) else (s, y)
      if y > (s.bot : Int) then (s.scroll s.top s.bot ((s.bot : Int) - y), (s.bot : Int)) else (s, y)
    else (s, y)
  { s with cx := x, cy := clampNat y (s.h - 1) }

theorem moveCursor_eq (s : SScr) (dx dy : Int) (wrap scroll : Bool) :
    s.moveCursor dx dy wrap scroll =
      vfin s (scroll && decide (s.top ≤ s.cy) && decide (s.cy ≤ s.bot)) ((hmove s dx wrap).2 + dy)
        (hmove s dx wrap).1.toNat := by
  unfold SScr.moveCursor vfin hmove
  split <;> rfl

theorem vfin_noscroll (s : SScr) (sc : Bool) (y x : Nat) (h : sc = true → s.top ≤ y ∧ y ≤ s.bot) :
    vfin s sc (y : Int) x = { s with cx := x, cy := min y (s.h - 1) } := by
  unfold vfin
  have e : clampNat (y : Int) (s.h - 1) = min y (s.h - 1) := by unfold clampNat; omega
  cases sc
  · simp only [Bool.false_eq_true, if_false, e]
  · have := h rfl
    have e2 : ¬ ((y : Int) < (s.top : Int)) := by omega
    have e3 : ¬ ((y : Int) > (s.bot : Int)) := by omega
    simp only [if_true, e2, e3, if_false, e]

theorem vfin_same {s : SScr} (g : Geom s) (sc : Bool) (x : Nat)
    (hsc : sc = true → s.top ≤ s.cy ∧ s.cy ≤ s.bot) : vfin s sc (s.cy : Int) x = { s with cx := x } := by
  rw [vfin_noscroll s sc s.cy x hsc, Nat.min_eq_left (by have := g.cy; omega)]

theorem vfin_down {s : SScr} (g : Geom s) (x : Nat) :
    vfin s (decide (s.top ≤ s.cy) && decide (s.cy ≤ s.bot)) ((s.cy : Int) + 1) x =
      ({ s with cx := x } : SScr).lineDown := by
  obtain ⟨h1, h5, h6, h9, h10⟩ := g
  unfold SScr.lineDown
  by_cases hb : s.cy = s.bot
  · -- the bottom row of the region: it scrolls by one, the cursor stays
    have e1 : (decide (s.top ≤ s.cy) && decide (s.cy ≤ s.bot)) = true := by simp; omega
    have e2 : ¬ ((s.cy : Int) + 1 < (s.top : Int)) := by omega
    have e3 : ((s.cy : Int) + 1 > (s.bot : Int)) := by omega
    have e4 : (s.bot : Int) - ((s.cy : Int) + 1) = -1 := by omega
    have hg := scroll_geom s s.top s.bot (-1)
    unfold vfin
    simp only [e1, e2, e3, e4, if_true, if_false]
    rw [if_pos hb, scroll_cx s x]
    refine with_cy _ x _ ?_
    rw [clampNat_ofNat (by rw [hg.2.1]; omega), hg.2.2.2.1, hb]
  · have := vfin_noscroll s (decide (s.top ≤ s.cy) && decide (s.cy ≤ s.bot)) (s.cy + 1) x (by simp; omega)
    rw [Int.natCast_add, Int.natCast_one] at this
    rw [this, if_neg hb]
    by_cases e4 : s.cy + 1 < s.h
    · rw [if_pos (by exact e4), Nat.min_eq_left (by omega)]
    · rw [if_neg (by exact e4), Nat.min_eq_right (by omega)]
      exact with_cy s x _ (by omega)

theorem divmod_two {x w : Int} (hw : 0 < w) (h0 : 0 ≤ x) (h2 : x < 2 * w) :
    x % w = (if x < w then x else x - w) ∧ x / w = (if x < w then 0 else 1) := by
  split
  · exact ((Int.ediv_emod_unique hw).2 ⟨by omega, by omega, by omega⟩).symm
  · exact ((Int.ediv_emod_unique hw).2 ⟨by omega, by omega, by omega⟩).symm

theorem hmove_adv {s : SScr} (g : Geom s) (k : Nat) (hk : s.cx + k < 2 * s.w) :
    hmove s (k : Int) true =
      if s.cx + k < s.w then (((s.cx + k : Nat) : Int), (s.cy : Int))
      else if s.wrap then (((s.cx + k - s.w : Nat) : Int), (s.cy : Int) + 1)
      else (((s.w - 1 : Nat) : Int), (s.cy : Int)) := by
  obtain ⟨h1, h5, _⟩ := g
  unfold hmove
  rw [Bool.true_and]
  by_cases hw : s.wrap = true
  · have := divmod_two (x := (s.cx : Int) + (k : Int)) (w := (s.w : Int)) (by omega) (by omega) (by omega)
    rw [if_pos hw, this.1, this.2]
    by_cases hc : s.cx + k < s.w
    · rw [if_pos hc, if_pos (by omega), if_pos (by omega)]; simp only [Int.add_zero, Int.natCast_add]
    · rw [if_neg hc, if_pos hw, if_neg (by omega), if_neg (by omega)]
      simp only [Prod.mk.injEq, and_true]; omega
  · rw [if_neg hw]
    by_cases hc : s.cx + k < s.w
    · rw [if_pos hc]; simp only [Prod.mk.injEq, and_true]; omega
    · rw [if_neg hc, if_neg hw]; simp only [Prod.mk.injEq, and_true]; omega

theorem sc_imp (s : SScr) :
    (decide (s.top ≤ s.cy) && decide (s.cy ≤ s.bot)) = true → s.top ≤ s.cy ∧ s.cy ≤ s.bot := by simp

theorem moveCursor_cr_geom {s : SScr} (g : Geom s) :
    s.moveCursor (-(s.cx : Int)) 1 false true = ({ s with cx := 0 } : SScr).lineDown := by
  rw [moveCursor_eq]
  have e : hmove s (-(s.cx : Int)) false = (0, (s.cy : Int)) := by
    have := g.w1
    unfold hmove
    simp only [Bool.false_and, Bool.false_eq_true, if_false, Prod.mk.injEq, and_true]; omega
  rw [e, Bool.true_and]
  exact vfin_down g 0

theorem moveCursor_adv_geom {s : SScr} (g : Geom s) (k : Nat) (hk : s.cx + k < 2 * s.w) :
    s.moveCursor (k : Int) 0 true true = postS s (s.cx + k) := by
  rw [moveCursor_eq, hmove_adv g k hk, Bool.true_and, Int.add_zero]
  unfold postS
  by_cases hc : s.cx + k < s.w
  · rw [if_pos hc, if_pos hc]; exact vfin_same g _ _ (sc_imp s)
  · rw [if_neg hc, if_neg hc]
    by_cases hw : s.wrap = true
    · rw [if_pos hw, if_pos hw]; exact vfin_down g _
    · rw [if_neg hw, if_neg hw]; exact vfin_same g _ _ (sc_imp s)

/-- `moveCursor(-cx, 1, false, true)` — what `writeString` does at the right edge with
    autowrap on — is a carriage return followed by `lineDown` (the step of `SScr.put`) -/
theorem moveCursor_cr {cw : Nat → Nat} {s : SScr} (hs : SScr.inv cw s = true) :
    s.moveCursor (-(s.cx : Int)) 1 false true = ({ s with cx := 0 } : SScr).lineDown :=
  moveCursor_cr_geom (geom_of_inv hs)

/-- `moveCursor(k, 0, true, true)` for a move of at most one wrap is the tail of `SScr.put` -/
theorem moveCursor_adv {cw : Nat → Nat} {s : SScr} (hs : SScr.inv cw s = true) (k : Nat)
    (hk : s.cx + k < 2 * s.w) :
    s.moveCursor (k : Int) 0 true true =
      if s.cx + k < s.w then { s with cx := s.cx + k }
      else if s.wrap then ({ s with cx := s.cx + k - s.w } : SScr).lineDown
      else { s with cx := s.w - 1 } :=
  moveCursor_adv_geom (geom_of_inv hs) k hk

/-- `moveCursor(0, 0, true, true)`: nothing moves -/
theorem moveCursor_zero {cw : Nat → Nat} {s : SScr} (hs : SScr.inv cw s = true) :
    s.moveCursor 0 0 true true = s := by
  have g := geom_of_inv hs
  have := moveCursor_adv hs 0 (by have := g.cx; omega)
  simp only [Nat.add_zero, g.cx, if_true] at this
  exact this

/-- the branch of `writeString` that writes the run as one span -/
def wsNone (cw : Nat → Nat) (s : SScr) (text : Bytes) (width : Nat) : SScr :=
  let tooWide := decide (width > s.w)
  let text := if tooWide then replacementChar else text
  let width := if tooWide then 1 else width
  let s := if s.cx + width > s.w then
             (if s.wrap then s.moveCursor (-(s.cx : Int)) 1 false true else { s with cx := s.w - width })
           else s
  let res := writeSpanLine cw s.w s.sty (s.line s.cy) s.cx ⟨s.sty, text, 0, width⟩ true
  let s := s.setLine s.cy res.1
  s.moveCursor ((width + res.2.1 : Nat) : Int) 0 true true

theorem writeString_succ (cw : Nat → Nat) (fuel : Nat) (s : SScr) (text0 : Bytes) (width0 : Nat) :
    s.writeString cw (fuel + 1) text0 width0 =
      if text0.isEmpty then s else
      match (if s.cx + max width0 1 > s.w ∧ max width0 1 > 1
             then splitRunToFit cw (replaceInvalidUTF8 text0) (s.w - s.cx) else none) with
      | some (hd, hw, rs, rw) => SScr.writeString cw fuel (SScr.writeString cw fuel s hd hw) rs rw
      | none => wsNone cw s (replaceInvalidUTF8 text0) (max width0 1) := rfl

theorem writeString_nosplit (cw : Nat → Nat) (s : SScr) {text : Bytes} {w0 : Nat} (hne : text.isEmpty = false)
    (hval : replaceInvalidUTF8 text = text)
    (hsplit : s.cx + max w0 1 > s.w → max w0 1 > 1 → splitRunToFit cw text (s.w - s.cx) = none) (n : Nat) :
    s.writeString cw (n + 1) text w0 = wsNone cw s text (max w0 1) := by
  have : (if s.cx + max w0 1 > s.w ∧ max w0 1 > 1 then splitRunToFit cw text (s.w - s.cx) else none) = none := by
    split
    · rename_i h; exact hsplit h.1 h.2
    · rfl
  rw [writeString_succ, hval, hne, this]
  rfl

theorem preS_eq {s : SScr} (g : Geom s) (w : Nat) :
    (if s.cx + w > s.w then
       (if s.wrap then s.moveCursor (-(s.cx : Int)) 1 false true else { s with cx := s.w - w })
     else s) = preS s w := by
  unfold preS
  rw [moveCursor_cr_geom g]

theorem wsNone_tooWide (cw : Nat → Nat) {s : SScr} (h1 : 1 ≤ s.w) (text : Bytes) {width : Nat}
    (h : width > s.w) : wsNone cw s text width = wsNone cw s replacementChar 1 := by
  have h' : ¬ (1 > s.w) := by omega
  unfold wsNone
  simp only [h, h', decide_true, decide_false, if_true, Bool.false_eq_true, if_false]

/-- a run that is not wider than the screen, written as one span: the shape of `SScr.put`
    (`preS`, `writeSpanLine`, `postS`), provided the column after the write is below `2 * w` -/
theorem wsNone_core {cw : Nat → Nat} {s : SScr} (g : Geom s) (text : Bytes) {w : Nat} (hws : w ≤ s.w)
    (g1 : Geom (preS s w))
    (hx : (preS s w).cx + w + (writeSpanLine cw (preS s w).w (preS s w).sty ((preS s w).line (preS s w).cy)
        (preS s w).cx ⟨(preS s w).sty, text, 0, w⟩ true).2.1 < 2 * (preS s w).w) :
    wsNone cw s text w = coreS cw (preS s w) text w := by
  have h' : ¬ (w > s.w) := by omega
  unfold wsNone coreS
  simp only [h', decide_false, Bool.false_eq_true, if_false, preS_eq g]
  rw [moveCursor_adv_geom (geom_setLine g1 _ _) _ (by
    show (preS s w).cx + _ < 2 * (preS s w).w
    omega)]
  show postS _ ((preS s w).cx + _) = _
  rw [Nat.add_assoc]

theorem wsNone_token {cw : Nat → Nat} (hb : cw 0x20 ≤ 1) {s : SScr} (hs : SScr.inv cw s = true)
    {text : Bytes} {w : Nat} (hcl : clusters cw text = [(text, w)]) (hws : w ≤ s.w) :
    wsNone cw s text w = coreS cw (preS s w) text w := by
  have hw1 : 1 ≤ w := spanWF_pos (spanWF_of_token hcl s.sty)
  obtain ⟨⟨_, q2⟩, q3⟩ := pre_refines hb hs hw1 hws
  exact wsNone_core (geom_of_inv hs) text hws (geom_of_inv q2) (writeToken_row hb q2 hcl q3).2.2.2

theorem splitRunToFit_single {cw : Nat → Nat} {text : Bytes} {w : Nat}
    (hcl : clusters cw text = [(text, w)]) (limit : Nat) : splitRunToFit cw text limit = none := by
  have hst := clusters_single_iff.1 hcl
  have hpos := (stepRune_some hst).1
  obtain ⟨f, hf⟩ : ∃ f, text.length = f + 1 := ⟨text.length - 1, by omega⟩
  unfold splitRunToFit
  rw [hf]
  unfold splitRunAux
  simp only [hst, List.drop_length, decide_true, Bool.true_and, Bool.true_or, if_true, Nat.zero_add]
  cases f with
  | zero => simp [splitRunAux, hf]
  | succ f => simp [splitRunAux, stepRune_nil, hf]

/-- one character token (the hypothesis of `put_refines`), valid UTF-8: the Go-shaped
    `writeString` is the single-character `SScr.put`, whatever the fuel -/
theorem writeString_char {cw : Nat → Nat} (hb : cw 0x20 ≤ 1) (hr : cw 0xFFFD ≤ 1) {s : SScr}
    (hs : SScr.inv cw s = true) {text : Bytes} {w0 : Nat}
    (htok : clusters cw text = [(text, max w0 1)]) (hval : replaceInvalidUTF8 text = text) (n : Nat) :
    s.writeString cw (n + 1) text w0 = s.put cw text w0 := by
  have h1 := (geom_of_inv hs).w1
  rw [writeString_nosplit cw s (token_nonempty htok) hval (fun _ _ => splitRunToFit_single htok _) n]
  rw [put_eqS]
  by_cases htw : max w0 1 > s.w
  · rw [wsNone_tooWide cw h1 text htw]
    simp only [htw, if_true]
    exact wsNone_token hb hs (clusters_replacementChar hr) h1
  · simp only [htw, if_false]
    exact wsNone_token hb hs htok (by omega)

/-- hence `writeString` of one character refines the cell-level `Scr.put` (span policy)
    and keeps the invariant -/
theorem writeString_char_refines {cw : Nat → Nat} (hb : cw 0x20 ≤ 1) (hr : cw 0xFFFD ≤ 1) {s : SScr}
    (hs : SScr.inv cw s = true) {text : Bytes} {w0 : Nat}
    (htok : clusters cw text = [(text, max w0 1)]) (hval : replaceInvalidUTF8 text = text) (n : Nat) :
    (s.writeString cw (n + 1) text w0).abs cw = (s.abs cw).put .keep text w0 ∧
    SScr.inv cw (s.writeString cw (n + 1) text w0) = true := by
  rw [writeString_char hb hr hs htok hval n]
  exact put_refines hb hr hs htok

/-- the row lemma of `writeString_run`: after the characters `C` have been put one after the other from the
    character boundary `x` on, the cursor column `x + wk C` is a character boundary again and the
    next `Row.put` extends the inserted cells; the wide character that the END of the longer run
    cuts is blanked by this `put` -/
theorem row_snoc {L : List K} (hL : PosK L) {x : Nat} (hc : contAt (cellsK L) x = false)
    {C : List K} (hC : PosK C) {w : Nat} (hw : 1 ≤ w) (hfit : x + wk C + w ≤ wk L) (b : Bytes) (st : Style) :
    contAt (rowIns (cellsK L) x (cellsK C) (wk C) st) (x + wk C) = false ∧
    (rowIns (cellsK L) x (cellsK C) (wk C) st).length = wk L ∧
    Row.put (rowIns (cellsK L) x (cellsK C) (wk C) st) (x + wk C) b w st =
      rowIns (cellsK L) x (cellsK (C ++ [((b, w), st)])) (wk C + w) st := by
  have hR := rowWF_cellsK hL
  have hxn : x + wk C ≤ (cellsK L).length := by rw [cellsK_length hL]; omega
  have hlen := rowIns_length hR hxn (cellsK_length hC) st
  obtain ⟨r1, r2⟩ := rowIns_rowIns hR hxn (cellsK_length hC) (charCells b w st) w st
  refine ⟨r1, by rw [hlen, cellsK_length hL], ?_⟩
  rw [put_rowIns (closed_wf.rowIns trivial hR x _ (rowWF_cellsK hC) trivial) hw
      (by rw [hlen, cellsK_length hL]; omega),
    r2, cellsK_append, cellsK_cons, cellsK_nil, List.append_nil]

theorem finish_cx (s : Scr) (c x : Nat) : Scr.putFinish { s with cx := c } x = Scr.putFinish s x := by
  unfold Scr.putFinish; rfl

theorem put_fit (s : Scr) (text : Bytes) {w : Nat} (hw : 1 ≤ w) (hfit : s.cx + w ≤ s.w)
    (hc : contAt (s.row s.cy) s.cx = false) :
    s.put .keep text w = Scr.putFinish (s.setRow s.cy ((s.row s.cy).put s.cx text w s.sty)) (s.cx + w) := by
  have e1 := effW_normal (s := s) (w0 := w) (by omega)
  have e2 := effText_normal (s := s) (w0 := w) (by omega) text
  rw [Nat.max_eq_left hw] at e1
  have := put_of_fit .keep s text w (by omega) (.inr hc)
  rwa [e1, e2] at this

/-- the cell-level screen after the characters `C` have been put from column `x` on -/
def afterPuts (S : Scr) (R : Row) (x : Nat) (C : List K) : Scr :=
  { S.setRow S.cy (rowIns R x (cellsK C) (wk C) S.sty) with cx := x + wk C }

theorem afterPuts_put {S : Scr} {L : List K} (hL : PosK L) (hwk : wk L = S.w) (hcy : S.cy < S.grid.length)
    {x : Nat} (hc : contAt (cellsK L) x = false) {C : List K} (hC : PosK C) (b : Bytes) {w : Nat}
    (hw : 1 ≤ w) (hfit : x + wk C + w ≤ S.w) :
    (afterPuts S (cellsK L) x C).put .keep b w =
      Scr.putFinish (S.setRow S.cy (rowIns (cellsK L) x (cellsK (C ++ [((b, w), S.sty)])) (wk C + w) S.sty))
        (x + wk C + w) := by
  obtain ⟨r1, r2, r3⟩ := row_snoc hL hc hC hw (by omega) b S.sty
  have hrow : (afterPuts S (cellsK L) x C).row (afterPuts S (cellsK L) x C).cy =
      rowIns (cellsK L) x (cellsK C) (wk C) S.sty := by
    simp [afterPuts, Scr.row, Scr.setRow, List.getD_eq_getElem?_getD, hcy]
  rw [put_fit _ b hw (by show x + wk C + w ≤ S.w; exact hfit) (by rw [hrow]; exact r1), hrow]
  show Scr.putFinish (Scr.setRow _ _ (Row.put _ (x + wk C) b w S.sty)) _ = _
  rw [r3]
  simp only [afterPuts, Scr.setRow, List.set_set]
  exact finish_cx { S with grid := S.grid.set S.cy (rowIns (cellsK L) x (cellsK (C ++ [((b, w), S.sty)])) (wk C + w) S.sty) } _ _

theorem afterPuts_snoc (S : Scr) (R : Row) (x : Nat) (C : List K) (k : K) (h : x + wk C + k.1.2 < S.w) :
    Scr.putFinish (S.setRow S.cy (rowIns R x (cellsK (C ++ [k])) (wk C + k.1.2) S.sty)) (x + wk C + k.1.2) =
      afterPuts S R x (C ++ [k]) := by
  have hw : wk (C ++ [k]) = wk C + k.1.2 := by simp
  have h' : x + wk C + k.1.2 < (S.setRow S.cy (rowIns R x (cellsK (C ++ [k])) (wk C + k.1.2) S.sty)).w := h
  unfold Scr.putFinish afterPuts
  rw [if_pos h', hw, Nat.add_assoc]

theorem foldl_put_afterPuts {S : Scr} {L : List K} (hL : PosK L) (hwk : wk L = S.w) (hcy : S.cy < S.grid.length)
    {x : Nat} (hc : contAt (cellsK L) x = false) :
    ∀ (cs : List Cl) (C : List K), PosK C → (∀ p ∈ cs, 1 ≤ p.2) → cs ≠ [] → x + wk C + ws cs ≤ S.w →
    cs.foldl (fun sc c => sc.put .keep c.1 c.2) (afterPuts S (cellsK L) x C) =
      Scr.putFinish (S.setRow S.cy (rowIns (cellsK L) x (cellsK (C ++ cs.map fun c => (c, S.sty)))
        (wk C + ws cs) S.sty)) (x + wk C + ws cs) := by
  intro cs
  induction cs with
  | nil => intro _ _ _ h; exact absurd rfl h
  | cons c rest ih =>
    intro C hC hpos _ hfit
    have hc1 : 1 ≤ c.2 := hpos c (List.mem_cons_self ..)
    have hrest : ∀ p ∈ rest, 1 ≤ p.2 := fun p hp => hpos p (List.mem_cons_of_mem _ hp)
    simp only [ws_cons] at hfit
    simp only [List.foldl_cons]
    rw [afterPuts_put hL hwk hcy hc hC c.1 hc1 (by omega)]
    by_cases hr : rest = []
    · subst hr
      simp only [List.foldl_nil, List.map_cons, List.map_nil, ws_cons, ws_nil, Nat.add_zero, Nat.add_assoc]
    · have hwr := ws_pos hrest hr
      rw [afterPuts_snoc S (cellsK L) x C ((c.1, c.2), S.sty) (by simp only; omega)]
      rw [ih (C ++ [((c.1, c.2), S.sty)]) (hC.append (PosK.cons hc1 PosK.nil)) hrest hr (by simp; omega)]
      simp only [List.map_cons, ws_cons, wk_append, wk_cons, wk_nil, Nat.add_zero, List.append_assoc,
        List.cons_append, List.nil_append, Nat.add_assoc]

/-- the row part of `writeSpanAt` for a run of characters that fits and starts on a character
    boundary: the cells `[x, x + width)` are the cells of the characters, wide characters cut by
    either end are blanked, nothing is shifted -/
theorem writeRun_row {cw : Nat → Nat} {W : Nat} {l : SLine} (hl : lineWF cw W l = true)
    (hb : cw 0x20 ≤ 1) (cur : Style) {x : Nat} {cs : List Cl} (htoks : Toks cw cs) (hne : cs ≠ [])
    (hxw : x + ws cs ≤ W) (hc : contAt (lineCells cw l) x = false) :
    lineCells cw (writeSpanLine cw W cur l x ⟨cur, flat cs, 0, ws cs⟩ true).1 =
      rowIns (lineCells cw l) x (cellsK (cs.map fun c => (c, cur))) (ws cs) cur ∧
    lineWF cw W (writeSpanLine cw W cur l x ⟨cur, flat cs, 0, ws cs⟩ true).1 = true ∧
    (writeSpanLine cw W cur l x ⟨cur, flat cs, 0, ws cs⟩ true).2.1 = 0 := by
  obtain ⟨hwf, hsum, _⟩ := lineWF_iff.1 hl
  have hsp := spanWF_run htoks hne cur
  -- of `replaceRangeWide` with `keep`: `k1` the cells, `k2` the shift, `k5` the row at its new width;
  -- on a character boundary `keep` changes nothing: nothing is shifted, the row keeps its width
  obtain ⟨k1, k2, _, _, k5⟩ := replaceRangeWide_spec hwf (x := x) (n := ws cs) (by omega) (Or.inl hsp)
    (Or.inl (spanWF_pos hsp)) true
  replace k5 := k5 hb
  simp only [hc, Bool.false_eq_true, and_false, if_false, spanCells_run htoks, hsum,
    Nat.sub_add_cancel (show ws cs ≤ W by omega)] at k1 k2 k5
  rw [k2, Nat.add_zero] at k5
  rw [writeSpanLine_fit cur ⟨cur, flat cs, 0, ws cs⟩ k5]
  exact ⟨k1, k5, k2⟩

theorem afterPuts_nil {S : Scr} {L : List K} (hrow : S.row S.cy = cellsK L)
    (hcy : S.cy < S.grid.length) (hc : contAt (cellsK L) S.cx = false) :
    afterPuts S (cellsK L) S.cx [] = S := by
  unfold afterPuts
  simp only [cellsK_nil, wk_nil, Nat.add_zero]
  rw [rowIns_nil hc, ← hrow, setRow_row hcy]

/-- a run of several characters (each a complete character on its own), valid UTF-8,
    that fits in the rest of the row and does not start on the second cell of a wide character:
    `writeString` — ONE span spliced into the row, one `moveCursor` — shows what the cell-level
    screen shows after the characters have been put one by one (`Scr.put`, span policy), cursor
    included, and the invariant holds afterwards. -/
theorem writeString_run {cw : Nat → Nat} (hb : cw 0x20 ≤ 1) {s : SScr} (hs : SScr.inv cw s = true)
    {cs : List Cl} (htoks : Toks cw cs) (hne : cs ≠ []) (hfit : s.cx + ws cs ≤ s.w)
    (hc : contAt (lineCells cw (s.line s.cy)) s.cx = false)
    (hval : replaceInvalidUTF8 (flat cs) = flat cs) (n : Nat) :
    (s.writeString cw (n + 1) (flat cs) (ws cs)).abs cw =
      cs.foldl (fun sc c => sc.put .keep c.1 c.2) (s.abs cw) ∧
    SScr.inv cw (s.writeString cw (n + 1) (flat cs) (ws cs)) = true := by
  obtain ⟨h3, h4, _⟩ := SScr.inv_iff.1 hs
  have h1 : 1 ≤ s.w := (inv_geo hs).w_pos
  have h2 : 1 ≤ s.h := (inv_geo hs).h_pos
  have h5 : s.cx < s.w := (inv_geo hs).cx_lt
  have h6 : s.cy < s.h := (inv_geo hs).cy_lt
  have g := geom_of_inv hs
  have hl := h4 _ (line_mem (s := s) (y := s.cy) (by omega))
  obtain ⟨hwf, hsum, _⟩ := lineWF_iff.1 hl
  have hpos : ∀ p ∈ cs, 1 ≤ p.2 := fun p hp => (htoks.pos p hp).2
  have hw := ws_pos hpos hne
  -- the run level
  have e1 : s.writeString cw (n + 1) (flat cs) (ws cs) = wsNone cw s (flat cs) (ws cs) := by
    rw [writeString_nosplit cw s (flat_isEmpty htoks hne) hval (fun h _ => absurd h (by omega)) n,
      Nat.max_eq_left hw]
  have epre : preS s (ws cs) = s := by
    have : ¬ (s.cx + ws cs > s.w) := by omega
    simp only [preS, this, if_false]
  obtain ⟨r1, r2, r3⟩ := writeRun_row hl hb s.sty htoks hne hfit hc
  have e2 : wsNone cw s (flat cs) (ws cs) = coreS cw s (flat cs) (ws cs) := by
    have := wsNone_core (cw := cw) g (flat cs) (w := ws cs) (by omega) (by rw [epre]; exact g)
      (by rw [epre, r3]; omega)
    rw [epre] at this
    exact this
  have hs1 := inv_setLine hs s.cy r2
  obtain ⟨p1, p2⟩ := post_refines hb hs1 (x := s.cx + ws cs) (by show s.cx + ws cs < 2 * s.w; omega)
  have e3 : coreS cw s (flat cs) (ws cs) =
      postS (s.setLine s.cy (writeSpanLine cw s.w s.sty (s.line s.cy) s.cx ⟨s.sty, flat cs, 0, ws cs⟩ true).1)
        (s.cx + ws cs) := by
    unfold coreS
    simp only [r3, Nat.add_zero]
  rw [e1, e2, e3]
  refine ⟨?_, p2⟩
  rw [p1, abs_setLine, r1]
  -- the cell level
  have hL := posK_lineK hwf
  have hwk : wk (lineK cw (s.line s.cy).spans) = (s.abs cw).w := by rw [wk_lineK hwf, hsum]; rfl
  have hcy : (s.abs cw).cy < (s.abs cw).grid.length := by simp [h3]; omega
  have hrow : (s.abs cw).row (s.abs cw).cy = cellsK (lineK cw (s.line s.cy).spans) := by
    rw [abs_row, lineCells_eq]; rfl
  have hc' : contAt (cellsK (lineK cw (s.line s.cy).spans)) (s.abs cw).cx = false := by
    rw [← lineCells_eq]; exact hc
  have hfold := foldl_put_afterPuts hL hwk hcy hc' cs [] PosK.nil hpos hne (by simp only [wk_nil]; show s.cx + 0 + ws cs ≤ s.w; omega)
  rw [afterPuts_nil hrow hcy hc'] at hfold
  rw [hfold, lineCells_eq]
  simp only [wk_nil, Nat.add_zero, Nat.zero_add, List.nil_append, abs_cx, abs_cy, abs_sty]

/-- how many characters of the run the head takes: the first one always, then as long as the
    width stays within `limit` -/
def fitCount (limit : Nat) : Nat → Bool → List Cl → Nat
  | _, _, [] => 0
  | hw, first, c :: r =>
    if first || decide (hw + c.2 ≤ limit) then 1 + fitCount limit (hw + c.2) false r else 0

/-- `cut < idx`: the head is closed, only the total width is still added up -/
theorem splitRunAux_stopped (cw : Nat → Nat) (limit : Nat) : ∀ (B : List Cl) (fuel idx cut hw total : Nat),
    Toks cw B → (flat B).length ≤ fuel → cut < idx →
    splitRunAux cw limit fuel (flat B) idx cut hw total = (cut, hw, total + ws B) := by
  intro B
  induction B with
  | nil =>
    intro fuel idx cut hw total _ _ _
    cases fuel with
    | zero => simp [splitRunAux]
    | succ f => simp [splitRunAux, stepRune_nil]
  | cons c r ih =>
    intro fuel idx cut hw total h hf hlt
    have hc := h.head
    have hpos := (stepRune_some hc).1
    simp only [flat_cons, List.length_append] at hf
    cases fuel with
    | zero => omega
    | succ f =>
      have hne : ¬ (cut = idx) := by omega
      simp only [flat_cons, splitRunAux, stepRune_append (flat r) hc, List.drop_left', hne, decide_false,
        Bool.false_and, Bool.false_eq_true, if_false]
      rw [ih f _ _ _ _ h.tail (by omega) (by omega)]
      simp only [ws_cons, Nat.add_assoc]

/-- `cut = idx`: the head is still open (`idx = 0`: at its first character, taken whatever its width) -/
theorem splitRunAux_taking (cw : Nat → Nat) (limit : Nat) : ∀ (B : List Cl) (fuel idx hw total : Nat),
    Toks cw B → (flat B).length ≤ fuel →
    splitRunAux cw limit fuel (flat B) idx idx hw total =
      (idx + (flat (B.take (fitCount limit hw (decide (idx = 0)) B))).length,
       hw + ws (B.take (fitCount limit hw (decide (idx = 0)) B)), total + ws B) := by
  intro B
  induction B with
  | nil =>
    intro fuel idx hw total _ _
    cases fuel with
    | zero => simp [splitRunAux, fitCount]
    | succ f => simp [splitRunAux, stepRune_nil, fitCount]
  | cons c r ih =>
    intro fuel idx hw total h hf
    have hc := h.head
    have hpos := (stepRune_some hc).1
    have hw1 := (stepRune_some hc).2.2.1
    simp only [flat_cons, List.length_append] at hf
    cases fuel with
    | zero => omega
    | succ f =>
      have hw0 : ¬ (c.2 = 0) := by omega
      simp only [flat_cons, splitRunAux, stepRune_append (flat r) hc, List.drop_left', decide_true,
        Bool.true_and, hw0, decide_false, Bool.or_false]
      by_cases htake : (decide (idx = 0) || decide (hw + c.2 ≤ limit)) = true
      · simp only [htake, if_true, fitCount]
        have := ih f (idx + c.1.length) (hw + c.2) (total + c.2) h.tail (by omega)
        have hz : decide (idx + c.1.length = 0) = false := decide_eq_false (by omega)
        rw [hz] at this
        rw [this, show 1 + fitCount limit (hw + c.2) false r = fitCount limit (hw + c.2) false r + 1 by omega]
        simp only [List.take_succ_cons, flat_cons, ws_cons, List.length_append, Nat.add_assoc]
      · simp only [htake, Bool.false_eq_true, if_false, fitCount]
        rw [splitRunAux_stopped cw limit r f _ _ _ _ h.tail (by omega) (by omega)]
        simp only [List.take_zero, flat_nil, List.length_nil, ws_nil, Nat.add_zero, ws_cons, Nat.add_assoc]

theorem fitCount_le (limit : Nat) : ∀ (cs : List Cl) (hw : Nat) (first : Bool),
    fitCount limit hw first cs ≤ cs.length := by
  intro cs
  induction cs with
  | nil => intro _ _; simp [fitCount]
  | cons c r ih =>
    intro hw first
    simp only [fitCount, List.length_cons]
    split
    · have := ih (hw + c.2) false; omega
    · omega

theorem fitCount_stop (limit : Nat) (cs : List Cl) {hw : Nat} (h : limit < hw) :
    fitCount limit hw false cs = 0 := by
  cases cs with
  | nil => rfl
  | cons c r =>
    have : ¬ (hw + c.2 ≤ limit) := by omega
    simp [fitCount, this]

theorem fitCount_fits (limit : Nat) : ∀ (cs : List Cl) (hw : Nat), hw ≤ limit →
    hw + ws (cs.take (fitCount limit hw false cs)) ≤ limit := by
  intro cs
  induction cs with
  | nil => intro hw h; simpa [fitCount] using h
  | cons c r ih =>
    intro hw h
    simp only [fitCount, Bool.false_or]
    by_cases hc : hw + c.2 ≤ limit
    · simp only [hc, decide_true, if_true]
      rw [show 1 + fitCount limit (hw + c.2) false r = fitCount limit (hw + c.2) false r + 1 by omega]
      have := ih (hw + c.2) hc
      simp only [List.take_succ_cons, ws_cons]; omega
    · simp only [hc, decide_false, Bool.false_eq_true, if_false, List.take_zero, ws_nil]; omega

theorem fitCount_max (limit : Nat) : ∀ (cs : List Cl) (hw : Nat) (first : Bool),
    fitCount limit hw first cs < cs.length →
    limit < hw + ws (cs.take (fitCount limit hw first cs + 1)) := by
  intro cs
  induction cs with
  | nil => intro _ _ h; simp at h
  | cons c r ih =>
    intro hw first h
    simp only [fitCount] at h ⊢
    by_cases hc : (first || decide (hw + c.2 ≤ limit)) = true
    · simp only [hc, if_true, List.length_cons] at h ⊢
      rw [show 1 + fitCount limit (hw + c.2) false r + 1 = (fitCount limit (hw + c.2) false r + 1) + 1 by omega]
      have := ih (hw + c.2) false (by omega)
      simp only [List.take_succ_cons, ws_cons]; omega
    · simp only [hc, Bool.false_eq_true, if_false]
      simp only [Bool.or_eq_true, decide_eq_true_eq, not_or] at hc
      simp only [Nat.zero_add, List.take_succ_cons, List.take_zero, ws_cons, ws_nil]; omega

/-- the head of a cut run: at least one character, at most the whole run, within the limit
    unless it is a single character, and maximal -/
theorem fitCount_spec (limit : Nat) {cs : List Cl} (hcs : cs ≠ []) :
    1 ≤ fitCount limit 0 true cs ∧ fitCount limit 0 true cs ≤ cs.length ∧
    (ws (cs.take (fitCount limit 0 true cs)) ≤ limit ∨ fitCount limit 0 true cs = 1) ∧
    (fitCount limit 0 true cs < cs.length → limit < ws (cs.take (fitCount limit 0 true cs + 1))) := by
  refine ⟨?_, fitCount_le limit cs 0 true, ?_, ?_⟩
  · cases cs with
    | nil => exact absurd rfl hcs
    | cons c r => simp only [fitCount, Bool.true_or, if_true]; omega
  · cases cs with
    | nil => exact absurd rfl hcs
    | cons c r =>
      simp only [fitCount, Bool.true_or, if_true, Nat.zero_add]
      by_cases hc : c.2 ≤ limit
      · left
        rw [show 1 + fitCount limit c.2 false r = fitCount limit c.2 false r + 1 by omega]
        have := fitCount_fits limit r c.2 hc
        simp only [List.take_succ_cons, ws_cons]; omega
      · right; rw [fitCount_stop limit r (by omega)]
  · intro hlt
    have := fitCount_max limit cs 0 true hlt
    omega

/-- `splitRunToFit` on a run of complete characters: the head is the first character and
    then as many as fit in `limit` cells (`fitCount`), the rest is the rest; the widths are the sums
    of the character widths; a run that is taken whole (one character, or everything fits) is not cut -/
theorem splitRunToFit_spec {cw : Nat → Nat} {cs : List Cl} (h : Toks cw cs) (limit : Nat) :
    splitRunToFit cw (flat cs) limit =
      if fitCount limit 0 true cs ≥ cs.length then none
      else some (flat (cs.take (fitCount limit 0 true cs)), ws (cs.take (fitCount limit 0 true cs)),
                 flat (cs.drop (fitCount limit 0 true cs)), ws (cs.drop (fitCount limit 0 true cs))) := by
  unfold splitRunToFit
  rw [splitRunAux_taking cw limit cs _ 0 0 0 h (Nat.le_refl _)]
  simp only [decide_true, Nat.zero_add]
  by_cases hj : fitCount limit 0 true cs ≥ cs.length
  · rw [if_pos hj, List.take_of_length_le hj, if_pos (Or.inr (Nat.le_refl _))]
  · rw [if_neg hj]
    have hj1 := (fitCount_spec limit (cs := cs) (by intro e; subst e; simp at hj)).1
    generalize fitCount limit 0 true cs = n at hj hj1 ⊢
    -- head and rest are non-empty runs of complete characters
    have htne : cs.take n ≠ [] := fun e => by
      have := congrArg List.length e
      simp only [List.length_take, List.length_nil] at this; omega
    have hdne : cs.drop n ≠ [] := fun e => by
      have := congrArg List.length e
      simp only [List.length_drop, List.length_nil] at this; omega
    have ht : Toks cw (cs.take n) := fun p hp => h p (List.mem_of_mem_take hp)
    have hd : Toks cw (cs.drop n) := fun p hp => h p (List.mem_of_mem_drop hp)
    have l1 := flat_length_pos (fun p hp => (ht.pos p hp).1) htne
    have l2 := flat_length_pos (fun p hp => (hd.pos p hp).1) hdne
    have hsplit : flat cs = flat (cs.take n) ++ flat (cs.drop n) := by
      rw [← flat_append, List.take_append_drop]
    have hws : ws cs = ws (cs.take n) + ws (cs.drop n) := by rw [← ws_append, List.take_append_drop]
    have hno : ¬ ((flat (cs.take n)).length = 0 ∨ (flat (cs.take n)).length ≥ (flat cs).length) := by
      rw [hsplit, List.length_append]; omega
    rw [if_neg hno, hws, Nat.add_sub_cancel_left]
    conv => lhs; rw [hsplit]
    have w1 := ws_pos (fun p hp => (ht.pos p hp).2) htne
    have w2 := ws_pos (fun p hp => (hd.pos p hp).2) hdne
    rw [List.take_left' rfl, List.drop_left' rfl, Nat.max_eq_left w1, Nat.max_eq_left w2]

/-- a run of complete characters that does not fit in the rest of the row and can be cut:
    `writeString` writes the head, then the rest (each with the remaining fuel) -/
theorem writeString_pieces {cw : Nat → Nat} {s : SScr} {cs : List Cl} (h : Toks cw cs)
    (hval : replaceInvalidUTF8 (flat cs) = flat cs) (hover : s.cx + ws cs > s.w) (hw : ws cs > 1)
    (hj : fitCount (s.w - s.cx) 0 true cs < cs.length) (n : Nat) :
    s.writeString cw (n + 1) (flat cs) (ws cs) =
      (s.writeString cw n (flat (cs.take (fitCount (s.w - s.cx) 0 true cs)))
          (ws (cs.take (fitCount (s.w - s.cx) 0 true cs)))).writeString cw n
        (flat (cs.drop (fitCount (s.w - s.cx) 0 true cs))) (ws (cs.drop (fitCount (s.w - s.cx) 0 true cs))) := by
  have hcs : cs ≠ [] := by intro e; subst e; simp at hj
  rw [writeString_succ, hval]
  have hm : max (ws cs) 1 = ws cs := by omega
  have hc : s.cx + ws cs > s.w ∧ ws cs > 1 := ⟨hover, hw⟩
  simp only [flat_isEmpty h hcs, Bool.false_eq_true, if_false, hm, hc, and_self, if_true]
  rw [splitRunToFit_spec h, if_neg (by omega)]

/-- a run that `splitRunToFit` takes whole (`fitCount` reaches its length) is written as one span,
    after the wrap or the pin if it does not fit -/
theorem writeString_whole {cw : Nat → Nat} {s : SScr} {cs : List Cl} (h : Toks cw cs) (hcs : cs ≠ [])
    (hval : replaceInvalidUTF8 (flat cs) = flat cs)
    (hj : fitCount (s.w - s.cx) 0 true cs ≥ cs.length) (n : Nat) :
    s.writeString cw (n + 1) (flat cs) (ws cs) = wsNone cw s (flat cs) (ws cs) := by
  rw [writeString_nosplit cw s (flat_isEmpty h hcs) hval (fun _ _ => by rw [splitRunToFit_spec h, if_pos hj]) n,
    Nat.max_eq_left (ws_pos (fun p hp => (h.pos p hp).2) hcs)]

/-! ## non-vacuity -/

/-- `ab中c`: four characters, five cells under `cwS` -/
def exCs : List Cl := [([0x61], 1), ([0x62], 1), (zhong, 2), ([0x63], 1)]
/-- cursor at column 1 of the first row -/
def exS : SScr := (SScr.init 6 2).setCursor 1 0
/-- autowrap on, cursor at column 4 -/
def exW : SScr := { SScr.init 6 2 with wrap := true, cx := 4 }

example : Toks cwS exCs := by
  intro p hp
  simp only [exCs, List.mem_cons, List.not_mem_nil, or_false] at hp
  rcases hp with rfl | rfl | rfl | rfl <;> decide
example : flat exCs = [0x61, 0x62, 0xe4, 0xb8, 0xad, 0x63] ∧ ws exCs = 5 := by decide
example : replaceInvalidUTF8 (flat exCs) = flat exCs := by decide
set_option maxRecDepth 100000 in
example : SScr.inv cwS exS = true ∧ exS.cx + ws exCs ≤ exS.w ∧
    contAt (lineCells cwS (exS.line exS.cy)) exS.cx = false := by decide
-- the run that fits: one span in the row, the cursor pinned on the last column
set_option maxRecDepth 100000 in
example : (exS.writeString cwS 7 (flat exCs) 5).lines[0]? =
    some ⟨[blankSpan Style.default 1, ⟨Style.default, flat exCs, 0, 5⟩], 6⟩ ∧
    (exS.writeString cwS 7 (flat exCs) 5).cx = 5 := by decide
set_option maxRecDepth 100000 in
example : (exS.writeString cwS 7 (flat exCs) 5).abs cwS =
    exCs.foldl (fun sc c => sc.put .keep c.1 c.2) (exS.abs cwS) := by decide +kernel
-- the run across the right edge with autowrap on: `ab` ends the first row, `中c` starts the second
set_option maxRecDepth 100000 in
example : splitRunToFit cwS (flat exCs) 2 = some ([0x61, 0x62], 2, [0xe4, 0xb8, 0xad, 0x63], 3) := by decide
set_option maxRecDepth 100000 in
example : SScr.inv cwS exW = true ∧
    (exW.writeString cwS 7 (flat exCs) 5).abs cwS =
      exCs.foldl (fun sc c => sc.put .keep c.1 c.2) (exW.abs cwS) ∧
    (exW.writeString cwS 7 (flat exCs) 5).cx = 3 ∧ (exW.writeString cwS 7 (flat exCs) 5).cy = 1 := by decide +kernel
-- the head of `ab中c` for a limit of 2 / 3 / 0 cells: 2, 2 (the wide character does not fit), 1 characters
example : fitCount 2 0 true exCs = 2 ∧ fitCount 3 0 true exCs = 2 ∧ fitCount 0 0 true exCs = 1 := by decide
/-- the hypothesis "does not start on the second cell of a wide character" of `writeString_run`
    is needed: `中` in columns 3-4 of a 6-column row, cursor on column 4, autowrap off, run `ab`
    (fits: 4 + 2 ≤ 6). As one span the run is inserted after the kept wide character and the row is
    cut back: column 5 shows `a`. Put one by one, `a` lands in column 5, the cursor is pinned there
    and `b` overwrites it: column 5 shows `b`. -/
theorem writeString_run_needs_boundary :
    let s0 := (((SScr.init 6 2).setCursor 3 0).put cwS zhong 2).setCursor 4 0
    let ab : List Cl := [([0x61], 1), ([0x62], 1)]
    SScr.inv cwS s0 = true ∧ s0.cx + ws ab ≤ s0.w ∧ contAt (lineCells cwS (s0.line s0.cy)) s0.cx = true ∧
    (s0.writeString cwS 3 (flat ab) (ws ab)).abs cwS ≠ ab.foldl (fun sc c => sc.put .keep c.1 c.2) (s0.abs cwS) := by
  set_option maxRecDepth 100000 in decide
-- `moveCursor` with a wrap
example : exW.moveCursor 3 0 true true = ({ exW with cx := 1 } : SScr).lineDown := by decide

#print axioms TM.C03SpanWrite.moveCursor_cr
#print axioms TM.C03SpanWrite.moveCursor_adv
#print axioms TM.C03SpanWrite.moveCursor_zero
#print axioms TM.C03SpanWrite.writeString_char
#print axioms TM.C03SpanWrite.writeString_char_refines
#print axioms TM.C03SpanWrite.row_snoc
#print axioms TM.C03SpanWrite.writeRun_row
#print axioms TM.C03SpanWrite.writeString_run
#print axioms TM.C03SpanWrite.writeString_run_needs_boundary
#print axioms TM.C03SpanWrite.splitRunToFit_spec
#print axioms TM.C03SpanWrite.fitCount_spec
#print axioms TM.C03SpanWrite.writeString_pieces
#print axioms TM.C03SpanWrite.writeString_whole

end TM.C03SpanWrite
