import TM.Mirror
import Props.C02SpanStyled
import Props.C02SpanTerm
/-!
# C11SpanMirror — what the mirror reads from the span buffer

The mirroring frontend (`TM/Mirror.lean`) paints a region by reading `StyledLine(x, w, y)` of the
inner screen; the model writes that read as `subCells r a b` on the CELL row `r`, and every theorem
of `Props/C11Mirror.lean` (`mirror_follows_stream` …) is about `subCells`.  The span buffer computes
`StyledLine` on its RUN lists (`TM.styledLine`, Go-shaped); `C02Span.styledLine_cells` says that the
runs it returns, expanded to cells, are that `subCells`, and `C02Span.styledLine_spec` says the same
cell by cell with `showCell`.  This file puts the two side by side and applies them to the painter:

* `showCell_eq_cutCell` — `showCell` (C02Span) and `cutCell` (Mirror) are the same function on the
  columns of the row; it restates `C02Span.showCell_cutCell` (no well-formedness of the row is
  needed, only that the column is inside the row).  `showCell_outside` says what remains different:
  beyond the end of the row `showCell` is `none` while `cutCell` is a total function (a
  default-style blank); `StyledLine` never reads there since it clamps the width to the row.
* **`styledLine_subCells`** / `styledLine_subCells_toEnd` / `styledLine_subCells_clamped` — the runs
  `StyledLine` returns, expanded to cells, are exactly `subCells (lineCells cw l) x (x + w)`
  (`C02Span.styledLine_cells` for a width that fits, to the end of the row, and cut back).
* `styledLine_render`, `sRenderRows_eq` — hence the painter writes the same bytes for both, row by
  row over a region.
* `stream_styledLine` — with `C02SpanTerm.stream_rows` (after every byte stream every row of the
  run-level terminal is `lineWF` and shows the model terminal's row): what the real `StyledLine`
  returns on row `y` of the active screen of the code-shaped terminal is
  `subCells (T.scr.row y) x (x + w)` of the model terminal `T`, which is the read
  `renderRows`/`renderRegion` of `TM/Mirror.lean` use.  So the theorems of `Props/C11Mirror.lean`
  (stated with `subCells` on the model screen) apply to what the real `StyledLine` returns on the
  span buffer.
-/
namespace TM.C11SpanMirror
open TM.C02Span

/-! ## the two cell functions -/

theorem showCell_eq_cutCell_of_lt (R : Row) (x w i : Nat) (hi : i < R.length) :
    showCell R x w i = some (cutCell R x (x + w) i) := showCell_cutCell R x w i hi

theorem showCell_eq_cutCell (R : Row) {x w k : Nat} (hxw : x + w ≤ R.length) (hk : k < w) :
    showCell R x w (x + k) = some (cutCell R x (x + w) (x + k)) :=
  showCell_eq_cutCell_of_lt R x w (x + k) (by omega)

/-- the only difference: beyond the end of the row `showCell` shows nothing -/
theorem showCell_outside (R : Row) (x w i : Nat) (hi : R.length ≤ i) : showCell R x w i = none := by
  unfold showCell
  have : R[i]? = none := List.getElem?_eq_none hi
  simp [this]

/-! ## `StyledLine` of the span buffer is `subCells` -/

/-- general form: for any requested width (`some w0`, clamped to the row as the code does, or
    `none` = to the end), with `w'` the width `StyledLine` reports, the cells of the returned runs
    are the mirror model's read of `[x, x + w')` -/
theorem styledLine_subCells_clamped {cw : Nat → Nat} {W : Nat} {l : SLine} (hl : lineWF cw W l = true)
    (hb : cw 0x20 ≤ 1) {x : Nat} (hx : x ≤ W) (ow : Option Nat) :
    ((styledLine cw W l x ow).1).flatMap (spanCells cw) =
      subCells (lineCells cw l) x (x + (styledLine cw W l x ow).2) ∧
    (styledLine cw W l x ow).2 = (match ow with | some w0 => min w0 (W - x) | none => W - x) :=
  ⟨(styledLine_cells hl hb hx ow).2.2, (styledLine_cells hl hb hx ow).1⟩

/-- `StyledLine(x, w, y)` of a well-formed row of runs, expanded to cells, is exactly what the
    mirror model reads: `subCells` of the row's cells on `[x, x + w)` -/
theorem styledLine_subCells {cw : Nat → Nat} {W : Nat} {l : SLine} (hl : lineWF cw W l = true)
    (hb : cw 0x20 ≤ 1) {x w : Nat} (hx : x ≤ W) (hxw : x + w ≤ W) :
    ((styledLine cw W l x (some w)).1).flatMap (spanCells cw) =
      subCells (lineCells cw l) x (x + w) ∧ (styledLine cw W l x (some w)).2 = w := by
  obtain ⟨h1, h2⟩ := styledLine_subCells_clamped hl hb hx (some w)
  have h3 : (styledLine cw W l x (some w)).2 = w := by rw [h2]; simp only []; omega
  rw [h3] at h1
  exact ⟨h1, h3⟩

theorem styledLine_subCells_toEnd {cw : Nat → Nat} {W : Nat} {l : SLine} (hl : lineWF cw W l = true)
    (hb : cw 0x20 ≤ 1) {x : Nat} (hx : x ≤ W) :
    ((styledLine cw W l x none).1).flatMap (spanCells cw) = subCells (lineCells cw l) x W ∧
      (styledLine cw W l x none).2 = W - x := by
  obtain ⟨h1, h2⟩ := styledLine_subCells_clamped hl hb hx none
  simp only [] at h2
  rw [h2, show x + (W - x) = W by omega] at h1
  exact ⟨h1, h2⟩

theorem styledLine_render {cw : Nat → Nat} {W : Nat} {l : SLine} (hl : lineWF cw W l = true)
    (hb : cw 0x20 ≤ 1) {x w : Nat} (hx : x ≤ W) (hxw : x + w ≤ W) (prev : Option Style) :
    renderCells prev (((styledLine cw W l x (some w)).1).flatMap (spanCells cw)) =
      renderCells prev (subCells (lineCells cw l) x (x + w)) := by
  rw [(styledLine_subCells hl hb hx hxw).1]

/-! ## the painter's row loop, reading the span buffer -/

/-- `renderRows` of `TM/Mirror.lean` with the read done the way the code does it: `StyledLine(x,
    x2 - x, y)` of the run-level screen, each returned run expanded to its cells -/
def sRenderRows (cw : Nat → Nat) (s : SScr) (x x2 : Nat) : Nat → Nat → Bytes
  | _, 0 => []
  | y, n+1 =>
    cupXY x y ++ renderCells none (((styledLine cw s.w (s.line y) x (some (x2 - x))).1).flatMap (spanCells cw)) ++
      sRenderRows cw s x x2 (y + 1) n

/-- painting rows `y … y+n-1`, columns `[x, x2)`, from the run lists writes the bytes the mirror
    model writes from the cell screen `s.abs cw` -/
theorem sRenderRows_eq {cw : Nat → Nat} (s : SScr) (hb : cw 0x20 ≤ 1) {x x2 : Nat} (hx : x ≤ x2)
    (hx2 : x2 ≤ s.w) : ∀ (n y : Nat), (∀ y', y ≤ y' → y' < y + n → lineWF cw s.w (s.line y') = true) →
    sRenderRows cw s x x2 y n = renderRows (s.abs cw) x x2 y n := by
  intro n
  induction n with
  | zero => intro y _; rfl
  | succ n ih =>
    intro y hrows
    simp only [sRenderRows, renderRows]
    rw [ih (y + 1) (fun y' h1 h2 => hrows y' (by omega) (by omega)),
      styledLine_render (hrows y (Nat.le_refl _) (by omega)) hb (by omega) (by omega) none,
      C02SpanScreen.abs_row, show x + (x2 - x) = x2 by omega]

/-! ## after every byte stream -/

/-- Feed any bytes to the run-level terminal `S` (code-shaped data) and to the model terminal `T`.
    Then on every row `y` of the active screen, for every window `[x, x + n)` inside the screen,
    the real `StyledLine(x, n, y)` of `S`, expanded to cells, is `subCells (T.scr.row y) x (x + n)`
    — the read `renderRows` / `renderRegion` use, about which the theorems of
    `Props/C11Mirror.lean` are stated. -/
theorem stream_styledLine {cw : Nat → Nat} (hb : cw 0x20 ≤ 1) (hr : cw 0xFFFD ≤ 1) {w h : Nat}
    (hw : 1 ≤ w) (hh : 1 ≤ h) (bs : Bytes) {x n y : Nat} (hy : y < h) (hxn : x + n ≤ w) :
    let S := C02SpanTerm.sStateAfter cw (STerm.init w h) (C10.toksOf bs)
    let T := (run cw (Term.init .keep w h) bs).1
    ((styledLine cw w (S.scr.line y) x (some n)).1).flatMap (spanCells cw) =
      subCells (T.scr.row y) x (x + n) := by
  intro S T
  obtain ⟨_, _, _, _, _, _, hon, hrows⟩ := C02SpanTerm.stream_rows hb hr hw hh bs
  obtain ⟨m1, m2, a1, a2⟩ := hrows y hy
  have hon' : S.onAlt = T.onAlt := hon
  unfold STerm.scr Term.scr
  rw [← hon']
  cases S.onAlt with
  | false =>
    simp only [Bool.false_eq_true, if_false]
    rw [show T.main.row y = _ from m2]
    exact (styledLine_subCells m1 hb (by omega) hxn).1
  | true =>
    simp only [if_true]
    rw [show T.alt.row y = _ from a2]
    exact (styledLine_subCells a1 hb (by omega) hxn).1

/-! ## non-vacuity: a wide character cut on the left and on the right -/

/-- `中ab` `xy` `   ` then again a wide character at columns 9,10: `中` -/
def rowCut : SLine :=
  ⟨[⟨stEx, [0xe4, 0xb8, 0xad, 0x61, 0x62], 0, 4⟩, ⟨stEx, [0x78, 0x79], 0, 2⟩, blankSpan stEx 3,
    ⟨stEx, [0xe4, 0xb8, 0xad], 0, 2⟩], 11⟩

example : lineWF cwEx 11 rowCut = true := by decide
example : cwEx 0x20 ≤ 1 := by decide
-- the window [1, 10) cuts the first wide character (columns 0,1) on the left and the second
-- (columns 9,10) on the right: both show as blanks, the rest as it is
example : ((styledLine cwEx 11 rowCut 1 (some 9)).1).flatMap (spanCells cwEx) =
    [blank stEx, ⟨.ch [0x61] 1, stEx⟩, ⟨.ch [0x62] 1, stEx⟩, ⟨.ch [0x78] 1, stEx⟩, ⟨.ch [0x79] 1, stEx⟩,
     blank stEx, blank stEx, blank stEx, blank stEx] := by decide
example : ((styledLine cwEx 11 rowCut 1 (some 9)).1).flatMap (spanCells cwEx) =
    subCells (lineCells cwEx rowCut) 1 10 := by decide +kernel
set_option maxRecDepth 20000 in
example : (lineCells cwEx rowCut)[9]? = some ⟨.ch [0xe4, 0xb8, 0xad] 2, stEx⟩ := by decide +kernel
set_option maxRecDepth 4000 in
example : cutCell (lineCells cwEx rowCut) 1 10 9 = blank stEx := by decide
set_option maxRecDepth 4000 in
example : showCell (lineCells cwEx rowCut) 1 9 9 = some (blank stEx) := by decide
example : contAt (lineCells cwEx rowCut) 1 = true ∧ cutCell (lineCells cwEx rowCut) 1 10 1 = blank stEx ∧
    showCell (lineCells cwEx rowCut) 1 9 1 = some (blank stEx) := by decide
-- the whole characters are shown when the window contains them
example : ((styledLine cwEx 11 rowCut 0 none).1).flatMap (spanCells cwEx) = lineCells cwEx rowCut := by
  decide
-- beyond the row the two functions differ (never read by `StyledLine`, which clamps)
example : showCell (lineCells cwEx rowCut) 0 20 11 = none ∧
    cutCell (lineCells cwEx rowCut) 0 20 11 = blank Style.default := by decide

#print axioms TM.C11SpanMirror.showCell_eq_cutCell_of_lt
#print axioms TM.C11SpanMirror.showCell_eq_cutCell
#print axioms TM.C11SpanMirror.showCell_outside
#print axioms TM.C11SpanMirror.styledLine_subCells_clamped
#print axioms TM.C11SpanMirror.styledLine_subCells
#print axioms TM.C11SpanMirror.styledLine_subCells_toEnd
#print axioms TM.C11SpanMirror.styledLine_render
#print axioms TM.C11SpanMirror.sRenderRows_eq
#print axioms TM.C11SpanMirror.stream_styledLine

end TM.C11SpanMirror
