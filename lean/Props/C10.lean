import TM.Notify
import TM.Run
import TM.Scrollback
import Proofs.Lost
import Proofs.Term
import Proofs.Events
import Proofs.Act
import Props.C02
import Proofs.Run
/-!
# C10 — the frontend's shadow copy, refreshed only from the announcements, is exact

Property (fixed text): *A frontend that keeps its own copy of the screen and, on each
RegionChanged, refreshes only the announced cells by reading them back (as the callback contract
permits) always ends each input with an exact copy of the active screen, including across scrolls
and buffer switches. The most recent CursorMoved, StyleChanged and View\*Changed values always
equal the terminal's actual cursor, rendition and mode values, and rows scrolled off the top of
the main screen are announced through ScrollLines before they are lost.*

Model: `Term.damage t tok` (TM/Notify.lean) is the list of regions announced while `tok` is applied
in state `t`; `repaint shadow screen rs` is the frontend's copy after re-reading exactly the
announced cells. `Term.apply` returns the events `Ev` the token causes; `Term.damage` is what a
frontend must re-read.

Convention on sizes: tokens never change the size of a buffer. `Term.resize` is initiated by the
owner of the frontend (it is not an input token); the owner then repaints everything, so resizing
is outside the statements below: they are about one token / a run of tokens at a fixed size.

How it goes: `Upd D s s'` says that `s'` has the geometry of `s` and differs from it only in rows
`y` with `D y`, with one lemma per screen operation (§1); `StepU` lifts it to the terminal, and
every token other than DECSET / DECRST updates the active screen only inside its announced damage
(`StepU.apply`, §2), which gives the copy theorems (§3). §4 is about the last notified cursor,
rendition and view values (`Ntf`), §5 about `ScrollLines`: the rows `TM/Scrollback.lean` counts
are exactly the rows that leave the main screen through the top. §6 has concrete states, tokens
and runs on which the hypotheses hold and the conclusions are computed. The walks through the
token dispatch are those of `Proofs/Dispatch.lean` and `Proofs/Events.lean`.

Which invariant along a run: `InvAlong` (`Scr.inv` of both buffers in every state in which a token
is applied) is what the run theorems name as a hypothesis. Every token keeps it, under both
policies and for every width function (`C02.apply_inv`), so it holds along every run that starts
with it (`invAlong`): `shadow_sync_run_inv` needs the invariant of the first state only.
-/
namespace TM.C10

/-! ## 1. Screens: geometry and the rows an operation can touch -/

/-- the shape of the grid: `h` rows of `w` cells -/
def Shaped (s : Scr) : Prop := s.grid.length = s.h ∧ ∀ r ∈ s.grid, r.length = s.w

/-- every row is well formed (wide characters whole) -/
def RowsWF (s : Scr) : Prop := ∀ r ∈ s.grid, rowWF r = true

/-- `s'` has the size of `s`, is as well shaped as `s`, and on a well-shaped `s` differs from it
    at most in the rows `y` with `D y` -/
structure Upd (D : Nat → Prop) (s s' : Scr) : Prop where
  w : s'.w = s.w
  h : s'.h = s.h
  shaped : Shaped s → Shaped s'
  frame : Shaped s → ∀ y, ¬ D y → s'.grid[y]? = s.grid[y]?

theorem Upd.refl (D : Nat → Prop) (s : Scr) : Upd D s s := ⟨rfl, rfl, id, fun _ _ _ => rfl⟩

theorem Upd.mono {D D' : Nat → Prop} {s s' : Scr} (h : Upd D s s') (hD : ∀ y, D y → D' y) :
    Upd D' s s' := ⟨h.w, h.h, h.shaped, fun hs y hy => h.frame hs y (fun hd => hy (hD y hd))⟩

theorem Upd.trans {D : Nat → Prop} {a b c : Scr} (h1 : Upd D a b) (h2 : Upd D b c) : Upd D a c :=
  ⟨h2.w.trans h1.w, h2.h.trans h1.h, fun hs => h2.shaped (h1.shaped hs),
   fun hs y hy => (h2.frame (h1.shaped hs) y hy).trans (h1.frame hs y hy)⟩

theorem Upd.of_grid {D : Nat → Prop} {s s' : Scr} (hg : s'.grid = s.grid) (hw : s'.w = s.w)
    (hh : s'.h = s.h) : Upd D s s' :=
  ⟨hw, hh, fun hs => ⟨by rw [hg, hh]; exact hs.1, fun r hr => by rw [hw]; exact hs.2 r (hg ▸ hr)⟩,
   fun _ _ _ => by rw [hg]⟩

namespace Lemmas

theorem contAt_ch {r : Row} {x : Nat} {t : Bytes} {w : Nat} {st : Style}
    (h : r[x]? = some ⟨.ch t w, st⟩) : contAt r x = false := TM.contAt_ch h

theorem length_fixTail (r : Row) (st : Style) : (fixTail r st).length = r.length :=
  fixTail_length r st

theorem inv_shaped {s : Scr} (h : s.inv = true) : Shaped s :=
  ⟨inv_glen h, fun r hr => (inv_rows h r hr).1⟩

theorem inv_rowsWF {s : Scr} (h : s.inv = true) : RowsWF s :=
  fun r hr => (inv_rows h r hr).2

/-- the cell width `Scr.put` really uses (the definition of `Scr.effW`, `Proofs/Put.lean`) -/
def effW (s : Scr) (w0 : Nat) : Nat := if max w0 1 > s.w then 1 else max w0 1

theorem effW_eq : effW = Scr.effW := rfl

theorem wrapped_rowsWF {s s' : Scr} {k : Nat} (h : s.Wrapped k s') (hw : RowsWF s) : RowsWF s' :=
  fun r hr => (h.shift.mem hr).elim (hw r) (· ▸ blankRow_wf _ _)

/-- the rows a text token can touch: the cursor row, the row below it, and — with autowrap on —
    the scroll region -/
def putRows (s : Scr) (y : Nat) : Prop :=
  (s.cy ≤ y ∧ y < s.cy + 2) ∨ (s.wrap = true ∧ s.top ≤ y ∧ y ≤ s.bot)

end Lemmas
open Lemmas

theorem Upd.scroll (s : Scr) (a b : Nat) (d : Int) :
    Upd (fun y => a ≤ y ∧ y ≤ b) s (s.scroll a b d) := by
  have f := shift_scroll s a b d
  refine ⟨f.w, f.h, fun hs => ⟨?_, fun r hr => ?_⟩, fun hs y hy => scroll_outside s a b d hs.1 y hy⟩
  · rw [f.len hs.1, f.h]; exact hs.1
  · rw [f.w]
    rcases f.mem hr with h | h
    · exact hs.2 r h
    · rw [h]; exact List.length_replicate

theorem Upd.lineDown (s : Scr) : Upd (fun y => s.top ≤ y ∧ y ≤ s.bot) s s.lineDown := by
  unfold Scr.lineDown
  split
  · exact Upd.scroll s s.top s.bot (-1)
  · split
    · exact Upd.of_grid rfl rfl rfl
    · exact Upd.refl _ _

theorem Upd.lineUp (s : Scr) : Upd (fun y => s.top ≤ y ∧ y ≤ s.bot) s s.lineUp := by
  unfold Scr.lineUp
  split
  · exact Upd.scroll s s.top s.bot 1
  · split
    · exact Upd.of_grid rfl rfl rfl
    · exact Upd.refl _ _

theorem Upd.setRow (s : Scr) (c : Nat) (r' : Row)
    (hl : Shaped s → c < s.grid.length → r'.length = s.w) :
    Upd (fun y => y = c) s (s.setRow c r') := by
  refine ⟨rfl, rfl, ?_, ?_⟩
  · intro hs
    refine ⟨?_, ?_⟩
    · show (s.grid.set c r').length = s.h
      rw [List.length_set]; exact hs.1
    · intro r hr
      by_cases hc : c < s.grid.length
      · rcases List.mem_or_eq_of_mem_set hr with h | h
        · exact hs.2 r h
        · rw [h]; exact hl hs hc
      · have : (s.setRow c r').grid = s.grid := List.set_eq_of_length_le (by omega)
        rw [this] at hr
        exact hs.2 r hr
  · intro _ y hy
    show (s.grid.set c r')[y]? = s.grid[y]?
    rw [List.getElem?_set, if_neg (fun e => hy e.symm)]

theorem Upd.eraseRegion (s : Scr) (x1 y1 x2 y2 : Nat) :
    Upd (fun y => y1 ≤ y ∧ y < y2) s (s.eraseRegion x1 y1 x2 y2) := by
  refine ⟨rfl, rfl, ?_, ?_⟩
  · intro hs
    refine ⟨?_, ?_⟩
    · show (s.grid.mapIdx _).length = s.h
      rw [List.length_mapIdx]; exact hs.1
    · intro r hr
      obtain ⟨i, hi, rfl⟩ := List.mem_mapIdx.1 hr
      have h0 : s.grid[i].length = s.w := hs.2 _ (List.getElem_mem hi)
      split
      · rw [erase_length]; exact h0
      · exact h0
  · intro _ y hy
    show (s.grid.mapIdx _)[y]? = s.grid[y]?
    rw [List.getElem?_mapIdx]
    cases s.grid[y]? with
    | none => rfl
    | some r0 => simp only [Option.map_some, if_neg hy]

theorem Upd.eraseRegionI (s : Scr) (x1 y1 x2 y2 : Int) :
    Upd (fun y => y1 ≤ (y : Int) ∧ (y : Int) < y2 ∧ y < s.h) s (s.eraseRegionI x1 y1 x2 y2) := by
  rw [eraseRegionI_eq]
  refine (Upd.eraseRegion ..).mono fun y hy => ?_
  simp only [clampNat] at hy
  omega

theorem Upd.dch (s : Scr) (n : Nat) : Upd (fun y => y = s.cy) s (s.dch n) := by
  unfold Scr.dch
  apply Upd.setRow
  intro hs h
  rw [dch_length]
  exact hs.2 _ (row_mem s s.cy h)

theorem Upd.wrapped {s s' : Scr} {k : Nat} (h : s.Wrapped k s') :
    Upd (fun y => s.wrap = true ∧ s.top ≤ y ∧ y ≤ s.bot) s s' := by
  cases h with
  | col x => exact Upd.of_grid rfl rfl rfl
  | feed hw x =>
    exact (Upd.of_grid (s := s) (s' := { s with cx := x }) rfl rfl rfl).trans
      ((Upd.lineDown ({ s with cx := x } : Scr)).mono fun _ hy => ⟨hw, hy⟩)

theorem Upd.putSteps (pol : WidePolicy) (s : Scr) (text : Bytes) (w x : Nat)
    (hwf : pol = .keep → RowsWF s) :
    Upd (putRows s) s (Scr.putFinish ((Scr.putPre s w).setRow (Scr.putPre s w).cy (Scr.putRow pol (Scr.putPre s w) text w)) x) := by
  have f := (s.putPre_wrapped w).shift
  have hpc := (s.putPre_wrapped w).cy
  have hwf1 := fun hp => wrapped_rowsWF (s.putPre_wrapped w) (hwf hp)
  have u1 : Upd (putRows s) s (Scr.putPre s w) := (Upd.wrapped (s.putPre_wrapped w)).mono fun y hy => Or.inr hy
  generalize Scr.putPre s w = s1 at *
  have u2 : Upd (putRows s) s1 (s1.setRow s1.cy (Scr.putRow pol s1 text w)) := by
    refine (Upd.setRow s1 s1.cy _ fun hs hc => ?_).mono fun y hy => Or.inl (by omega)
    rw [putRow_length _ _ _ _ (fun hp => hwf1 hp _ (row_mem s1 s1.cy hc))]
    exact hs.2 _ (row_mem s1 s1.cy hc)
  refine (u1.trans u2).trans ((Upd.wrapped (Scr.putFinish_wrapped (s1.setRow s1.cy (Scr.putRow pol s1 text w)) x)).mono ?_)
  intro y hy
  -- `setRow` changes the grid only: the margins are those of `s1`, hence (`f`) of `s`
  rw [show (s1.setRow s1.cy (Scr.putRow pol s1 text w)).wrap = s.wrap from f.wrap,
    show (s1.setRow s1.cy (Scr.putRow pol s1 text w)).top = s.top from f.top,
    show (s1.setRow s1.cy (Scr.putRow pol s1 text w)).bot = s.bot from f.bot] at hy
  exact Or.inr hy

/-- **text, every branch of `Scr.put`, both policies.** The write touches only `putRows` and
    keeps size and shape; under the span policy the rows must be well formed (that is what makes
    the insertion after a wide character keep the row length). -/
theorem Upd.put (pol : WidePolicy) (s : Scr) (text0 : Bytes) (w0 : Nat)
    (hwf : pol = .keep → RowsWF s) :
    Upd (putRows s) s (Scr.put pol s text0 w0) := by
  rw [put_eq]
  exact Upd.putSteps pol s _ _ _ hwf

/-! ## 2. Terminal level: a token touches the active screen only inside its announced damage -/

/-- row `y` lies in an announced region (all announced regions span the full width) -/
def dmgRow (t : Term) (tok : Tok) (y : Nat) : Prop := ∃ r ∈ t.damage tok, r.y1 ≤ y ∧ y < r.y2

/-- `t'` has the same active buffer as `t`, the same policy and the same inactive buffer; the
    active screen is updated only in rows `D` -/
structure StepU (D : Nat → Prop) (t t' : Term) : Prop where
  onAlt : t'.onAlt = t.onAlt
  pol : t'.pol = t.pol
  upd : Upd D t.scr t'.scr
  inactive : if t.onAlt then t'.main = t.main else t'.alt = t.alt

/-- cell `(x,y)` lies in one of the regions announced while `tok` is applied in state `t` -/
def announced (t : Term) (tok : Tok) (x y : Nat) : Bool := (t.damage tok).any (fun r => r.mem x y)

/-- the well-formedness the span policy needs: rows of the active screen are `rowWF` -/
def NeedWF (t : Term) : Prop := t.pol = .keep → RowsWF t.scr

theorem StepU.same {D : Nat → Prop} {t t' : Term} (ho : t'.onAlt = t.onAlt) (hp : t'.pol = t.pol)
    (hm : t'.main = t.main) (ha : t'.alt = t.alt) : StepU D t t' :=
  ⟨ho, hp, by unfold Term.scr; rw [ho, hm, ha]; exact Upd.refl _ _, by rw [hm, ha]; split <;> rfl⟩

theorem StepU.refl (D : Nat → Prop) (t : Term) : StepU D t t := StepU.same rfl rfl rfl rfl

theorem StepU.setScr {D : Nat → Prop} (t : Term) (s' : Scr) (h : Upd D t.scr s') :
    StepU D t (t.setScr s') :=
  ⟨t.setScr_onAlt s', t.setScr_pol s', by rw [Term.scr_setScr]; exact h,
    t.setScr_inactive s'⟩

namespace Lemmas

theorem dmgRow_text (t : Term) (st : Bytes) (cp : Nat) (y : Nat) :
    dmgRow t (.text st cp) y ↔ putRows t.scr y := by
  simp only [dmgRow, putRows, Term.damage, rowsRegion]
  cases hw : t.scr.wrap <;> simp <;> omega

theorem dmgRow_region (t : Term) (tok : Tok) (a b : Nat) (y : Nat)
    (h : t.damage tok = [rowsRegion t.scr a b]) : dmgRow t tok y ↔ (a ≤ y ∧ y < b) := by
  unfold dmgRow; rw [h]; simp [rowsRegion]

theorem damage_csi_row (t : Term) (ps : List Int) (fin : UInt8)
    (h : fin = 0x4b ∨ fin = 0x58 ∨ fin = 0x50) :
    t.damage (.csi 0 ps true fin) = [rowsRegion t.scr t.scr.cy (t.scr.cy + 1)] := by
  rcases h with h | h | h <;> subst h <;> simp [Term.damage]

theorem damage_csi_J (t : Term) (ps : List Int) (fin : UInt8) (h : fin = 0x4a) :
    t.damage (.csi 0 ps true fin) = [rowsRegion t.scr 0 t.scr.h] := by
  subst h; simp [Term.damage]

/-- IL / DL announce the region from the cursor row down, SU / SD the whole region (the
    hypothesis is the one `Term.csiPlain_cases` gives for its `scroll` leaves) -/
theorem damage_csi_scroll (t : Term) (ps : List Int) (fin : UInt8) (y1 : Nat)
    (h : (fin = 0x4c ∨ fin = 0x4d) ∧ y1 = t.scr.cy ∧ t.scr.inRegion = true ∨
      (fin = 0x53 ∨ fin = 0x54) ∧ y1 = t.scr.top) :
    t.damage (.csi 0 ps true fin) = [rowsRegion t.scr y1 (t.scr.bot + 1)] := by
  rcases h with ⟨h | h, rfl, _⟩ | ⟨h | h, rfl⟩ <;> subst h <;> simp [Term.damage]

theorem damage_line (t : Term) (tok : Tok)
    (h : tok = .ctl 10 ∨ tok = .ctl 12 ∨ tok = .esc [] 0x44 ∨ tok = .esc [] 0x4d) :
    t.damage tok = [rowsRegion t.scr t.scr.top (t.scr.bot + 1)] := by
  rcases h with h | h | h | h <;> subst h <;> simp [Term.damage]

end Lemmas

theorem StepU.region {t : Term} {tok : Tok} {a b : Nat} {s' : Scr} {D : Nat → Prop}
    (hd : t.damage tok = [rowsRegion t.scr a b]) (hu : Upd D t.scr s')
    (hD : ∀ y, D y → a ≤ y ∧ y < b) : StepU (dmgRow t tok) t (t.setScr s') :=
  StepU.setScr t s' (hu.mono fun y hy => (dmgRow_region t tok a b y hd).2 (hD y hy))

/-- **unprefixed CSI**: EL / ED / ECH / DCH touch the announced rows, IL / DL / SU / SD the
    announced part of the scroll region, everything else (cursor motion, SGR, save / restore,
    DECSTBM, DA, DSR, unknown finals) changes no cell -/
theorem StepU.csiPlain (t : Term) (ps : List Int) (fin : UInt8) :
    StepU (dmgRow t (.csi 0 ps true fin)) t (t.csiPlain ps fin).1 := by
  have same {s' : Scr} (hg : s'.grid = t.scr.grid) (hw : s'.w = t.scr.w) (hh : s'.h = t.scr.h) :
      StepU (dmgRow t (.csi 0 ps true fin)) t (t.setScr s') := StepU.setScr t s' (Upd.of_grid hg hw hh)
  have ed {s' : Scr} (hf : fin = 0x4a) (hu : Upd (fun y => y < t.scr.h) t.scr s') :=
    StepU.region (damage_csi_J t ps fin hf) hu fun y hy => ⟨Nat.zero_le y, hy⟩
  have erase {s : Scr} (hu : Upd (fun y => y < t.scr.h) t.scr s) (x1 y1 x2 y2 : Int) :
      Upd (fun y => y < t.scr.h) t.scr (s.eraseRegionI x1 y1 x2 y2) :=
    hu.trans ((Upd.eraseRegionI s x1 y1 x2 y2).mono fun y hy => hu.h ▸ hy.2.2)
  refine t.csiPlain_cases (Q := fun r => StepU (dmgRow t (.csi 0 ps true fin)) t r.1) ps fin
    (none := .refl _ _) (reply := fun _ _ => .refl _ _) (move := fun _ _ => same rfl rfl rfl)
    (restore := same rfl rfl rfl) (save := same rfl rfl rfl) (sgr := fun _ => same rfl rfl rfl)
    (margins := fun a b => ?_)
    (eraseRow := fun hf x1 x2 _ _ => StepU.region (damage_csi_row t ps fin (hf.imp_right .inl))
      (Upd.eraseRegionI t.scr x1 _ x2 _) fun y hy => by omega)
    (ed0 := fun hf => ed hf (erase (erase (Upd.refl _ _) ..) ..))
    (ed1 := fun hf => ed hf (erase (erase (Upd.refl _ _) ..) ..))
    (ed2 := fun hf => ed hf ((erase (Upd.refl _ _) ..).trans (Upd.of_grid rfl rfl rfl)))
    (scroll := fun y1 d h => StepU.region (damage_csi_scroll t ps fin y1 h) (Upd.scroll t.scr y1 _ d)
      fun y hy => ⟨hy.1, Nat.lt_succ_of_le hy.2⟩)
    (dch := fun hf n => StepU.region (damage_csi_row t ps fin (.inr (.inr hf))) (Upd.dch t.scr n)
      fun y hy => by omega)
  rw [setMargins_eq]; split <;> exact same rfl rfl rfl

/-! ### DEC private modes: `Proofs/Act.lean` has the frame (`C17.OnlyActive` when the sequence does
not list 1049, `C17.WrapOnly` always); here it is read as a `StepU` -/

/-- `WrapOnly` with the same buffer active: the active screen keeps grid and size -/
theorem Upd.of_wrapOnly {D : Nat → Prop} {t t' : Term} (h : C17.WrapOnly t t')
    (ho : t'.onAlt = t.onAlt) : Upd D t.scr t'.scr := by
  unfold Term.scr
  rw [ho]
  split
  · rw [h.alt]; exact Upd.of_grid rfl rfl rfl
  · rw [h.main]; exact Upd.of_grid rfl rfl rfl

theorem StepU.of_onlyActive {D : Nat → Prop} {t t' : Term} (h : C17.OnlyActive t t')
    (hu : Upd D t.scr t'.scr) : StepU D t t' :=
  ⟨h.onAlt, h.pol, hu, by
    split
    · exact (h.whenAlt ‹_›).1
    · exact (h.whenMain (Bool.eq_false_iff.2 ‹_›)).1⟩

theorem StepU.csi (t : Term) (pfx : UInt8) (ps : List Int) (fin : UInt8)
    (hd : pfx = 0x3f → fin = 0x68 ∨ fin = 0x6c → (1049 : Int) ∉ ps) :
    StepU (dmgRow t (.csi pfx ps true fin)) t (t.csi pfx ps fin).1 :=
  t.csi_cases (Q := fun r => StepU (dmgRow t (.csi pfx ps true fin)) t r.1) pfx ps fin
    (plain := fun h => by subst h; exact StepU.csiPlain t ps fin)
    (modes := fun h hf v => have oa := C17.Lemmas.oa_decModes t v ps fun m => absurd m (hd h hf)
      StepU.of_onlyActive oa (Upd.of_wrapOnly (C17.Lemmas.wo_decModes t v ps) oa.onAlt))
    (none := .refl _ _) (reply := fun _ _ => .refl _ _) (int := fun _ => StepU.same rfl rfl rfl rfl)
    (kbd := fun _ k => StepU.same (t.setKbd_onAlt k) (t.setKbd_pol k) (t.setKbd_main k) (t.setKbd_alt k))

/-! ### every token -/

/-- **every token other than a buffer switch** keeps the active buffer active and changes cells
    of the active screen only in announced rows (for text under the span policy the rows of the
    screen must be well formed: insertion after a wide character) -/
theorem StepU.apply (cw : Nat → Nat) (t : Term) (tok : Tok) (hs : C17.isSwitch tok = false)
    (hwf : ∀ st cp, tok = .text st cp → t.pol = .keep → RowsWF t.scr) :
    StepU (dmgRow t tok) t (Term.apply cw t tok).1 := by
  have line {s' : Scr} (hl : tok = .ctl 10 ∨ tok = .ctl 12 ∨ tok = .esc [] 0x44 ∨ tok = .esc [] 0x4d)
      (hu : Upd (fun y => t.scr.top ≤ y ∧ y ≤ t.scr.bot) t.scr s') :=
    StepU.region (damage_line t tok hl) hu fun y hy => ⟨hy.1, Nat.lt_succ_of_le hy.2⟩
  have same {s' : Scr} (hg : s'.grid = t.scr.grid) (hw : s'.w = t.scr.w) (hh : s'.h = t.scr.h) :
      StepU (dmgRow t tok) t (t.setScr s') := StepU.setScr t s' (Upd.of_grid hg hw hh)
  refine t.apply_cases (Q := fun r => StepU (dmgRow t tok) t r.1) cw tok (text := fun st cp h => ?_)
    (none := .refl _ _) (bell := .refl _ _) (cx := fun _ _ => same rfl rfl rfl)
    (move := fun _ _ => same rfl rfl rfl)
    (lf := fun h => line (.inl h) ((Upd.of_grid (s := t.scr) (s' := { t.scr with cx := 0 }) rfl rfl rfl).trans
      (Upd.lineDown { t.scr with cx := 0 })))
    (down := fun h => line (.inr (h.imp_right .inl)) (Upd.lineDown _))
    (up := fun h => line (.inr (.inr (.inr h))) (Upd.lineUp _))
    (flag := fun _ _ => StepU.same rfl rfl rfl rfl) (str := fun _ _ => StepU.same rfl rfl rfl rfl)
    (csi := fun pfx ps fin h => ?_)
  · subst h
    exact StepU.setScr _ _ ((Upd.put t.pol t.scr st (cw cp) (hwf st cp rfl)).mono fun y hy =>
      (dmgRow_text t st cp y).2 hy)
  · subst h
    exact StepU.csi t pfx ps fin fun h1 hf => by
      rcases hf with rfl | rfl <;> simpa [C17.isSwitch, h1] using hs

namespace Lemmas

theorem damage_fullwidth (t : Term) (tok : Tok) :
    ∀ r ∈ t.damage tok, r.x1 = 0 ∧ r.x2 = t.scr.w := by
  -- every leaf of `Term.damage` is empty or one `rowsRegion`
  let Q (l : List Region) : Prop := ∀ r ∈ l, r.x1 = 0 ∧ r.x2 = t.scr.w
  have one (a b : Nat) : Q [rowsRegion t.scr a b] := fun r hr => List.mem_singleton.1 hr ▸ ⟨rfl, rfl⟩
  have none : Q [] := fun _ h => nomatch h
  have ite {c : Prop} [Decidable c] {l1 l2 : List Region} (h1 : Q l1) (h2 : Q l2) :
      Q (if c then l1 else l2) := ite_cases (fun _ => h1) fun _ => h2
  cases tok with
  | text =>
    intro r hr
    rcases List.mem_append.1 hr with h | h
    · exact one _ _ r h
    · exact ite (one _ _) none r h
  | ctl | esc => exact ite (one _ _) none
  | csi =>
    exact ite none (ite (ite (one _ _) (ite (one _ _) (ite (one _ _) (ite (one _ _) none))))
      (ite (one _ _) none))
  | osc | dcs => exact none

theorem announced_iff (t : Term) (tok : Tok) (x y : Nat) (hx : x < t.scr.w) :
    announced t tok x y = true ↔ dmgRow t tok y := by
  unfold announced dmgRow
  rw [List.any_eq_true]
  constructor
  · rintro ⟨r, hr, hm⟩
    simp only [Region.mem, Bool.and_eq_true, decide_eq_true_eq] at hm
    exact ⟨r, hr, hm.1.2, hm.2⟩
  · rintro ⟨r, hr, h1, h2⟩
    obtain ⟨a, b⟩ := damage_fullwidth t tok r hr
    refine ⟨r, hr, ?_⟩
    simp only [Region.mem, Bool.and_eq_true, decide_eq_true_eq]
    omega

theorem needWF_of_inv {t : Term} (hm : t.main.inv = true) (ha : t.alt.inv = true) : NeedWF t :=
  fun _ => Term.scr_both (inv_rowsWF hm) (inv_rowsWF ha)

theorem dmgRow_switch (t : Term) (ps : List Int) (fin : UInt8) (hf : fin = 0x68 ∨ fin = 0x6c)
    (h49 : (1049 : Int) ∈ ps) {y : Nat} (hy : y < t.scr.h) : dmgRow t (.csi 0x3f ps true fin) y := by
  refine ⟨rowsRegion t.scr 0 t.scr.h, ?_, Nat.zero_le _, hy⟩
  rcases hf with h | h <;> subst h <;> simp [Term.damage, h49]

theorem apply_geo (cw : Nat → Nat) (t : Term) (tok : Tok) (hwf : NeedWF t) :
    (Term.apply cw t tok).1.pol = t.pol ∧
    (Term.apply cw t tok).1.main.w = t.main.w ∧ (Term.apply cw t tok).1.main.h = t.main.h ∧
    (Term.apply cw t tok).1.alt.w = t.alt.w ∧ (Term.apply cw t tok).1.alt.h = t.alt.h ∧
    (Shaped t.main → Shaped (Term.apply cw t tok).1.main) ∧
    (Shaped t.alt → Shaped (Term.apply cw t tok).1.alt) := by
  cases hs : C17.isSwitch tok
  case true =>
    obtain ⟨v, ps, e⟩ := C17.Lemmas.isSwitch_apply cw t hs
    have wo := C17.Lemmas.wo_decModes t v ps
    rw [e, wo.main, wo.alt]
    exact ⟨wo.pol, rfl, rfl, rfl, rfl, id, id⟩
  case false =>
    have st := StepU.apply cw t tok hs fun _ _ _ => hwf
    have hon := st.onAlt
    have hin := st.inactive
    have hu := st.upd
    unfold Term.scr at hu
    rw [hon] at hu
    cases ho : t.onAlt
    · simp only [ho, Bool.false_eq_true, if_false] at hu hin
      rw [hin]
      exact ⟨st.pol, hu.w, hu.h, rfl, rfl, hu.shaped, id⟩
    · simp only [ho, if_true] at hu hin
      rw [hin]
      exact ⟨st.pol, rfl, rfl, hu.w, hu.h, id, hu.shaped⟩

/-- rows with a cell that is not announced are unchanged (the announcements span the width) -/
theorem apply_frame (cw : Nat → Nat) (t : Term) (tok : Tok) (hs : Shaped t.scr) (hwf : NeedWF t)
    (x y : Nat) (hx : x < t.scr.w) (hy : y < t.scr.h) (hn : announced t tok x y = false) :
    (Term.apply cw t tok).1.scr.grid[y]? = t.scr.grid[y]? := by
  have hnd : ¬ dmgRow t tok y := by
    rw [← announced_iff t tok x y hx, hn]; simp
  cases hsw : C17.isSwitch tok
  · exact (StepU.apply cw t tok hsw fun _ _ _ => hwf).upd.frame hs y hnd
  · obtain ⟨ps, fin, rfl, hf, h49⟩ := C17.Lemmas.isSwitch_elim hsw
    exact absurd (dmgRow_switch t ps fin hf h49 hy) hnd

/-! ### the repaint -/

theorem repaint_row (r r' : Row) (p : Nat → Bool) (hl : r'.length = r.length)
    (h : ∀ x, x < r.length → p x = false → r'[x]? = r[x]?) :
    r.mapIdx (fun x c => if p x = true then r'.getD x c else c) = r' := by
  apply List.ext_getElem?
  intro x
  rw [List.getElem?_mapIdx]
  by_cases hx : x < r.length
  · rw [List.getElem?_eq_getElem hx, Option.map_some]
    cases hp : p x
    · rw [if_neg Bool.false_ne_true, ← List.getElem?_eq_getElem hx, h x hx hp]
    · rw [if_pos rfl, List.getD_eq_getElem?_getD, List.getElem?_eq_getElem (hl ▸ hx)]; rfl
  · rw [List.getElem?_eq_none (by omega), List.getElem?_eq_none (by omega)]; rfl

theorem repaint_eq (s s' : Scr) (rs : List Region) (hs : Shaped s) (hs' : Shaped s')
    (hw : s'.w = s.w) (hh : s'.h = s.h)
    (hframe : ∀ x y, x < s.w → y < s.h → rs.any (fun r => r.mem x y) = false →
      (s'.row y)[x]? = (s.row y)[x]?) :
    repaint s.grid s'.grid rs = s'.grid := by
  unfold repaint
  apply List.ext_getElem?
  intro y
  rw [List.getElem?_mapIdx]
  by_cases hy : y < s.h
  · have h1 : y < s.grid.length := hs.1 ▸ hy
    have h2 : y < s'.grid.length := by rw [hs'.1, hh]; exact hy
    have l1 : s.grid[y].length = s.w := hs.2 _ (List.getElem_mem h1)
    have e' : s'.grid.getD y [] = s'.grid[y] := by
      rw [List.getD_eq_getElem?_getD, List.getElem?_eq_getElem h2]; rfl
    rw [List.getElem?_eq_getElem h1, List.getElem?_eq_getElem h2, Option.map_some]
    congr 1
    refine (repaint_row _ _ (fun x => rs.any fun r => r.mem x y)
      (by rw [e', hs'.2 _ (List.getElem_mem h2), l1, hw]) fun x hx hp => ?_).trans e'
    have := hframe x y (l1 ▸ hx) hy hp
    rwa [row_eq_getElem s y h1, row_eq_getElem s' y h2, ← e'] at this
  · rw [List.getElem?_eq_none (by rw [hs.1]; omega), List.getElem?_eq_none (by rw [hs'.1, hh]; omega)]
    rfl

theorem shaped_scr {t : Term} (hm : Shaped t.main) (ha : Shaped t.alt) : Shaped t.scr :=
  Term.scr_both hm ha

theorem scr_size {t : Term} (hsz : t.main.w = t.alt.w ∧ t.main.h = t.alt.h) :
    t.scr.w = t.main.w ∧ t.scr.h = t.main.h :=
  Term.scr_both (Q := fun s => s.w = t.main.w ∧ s.h = t.main.h) ⟨rfl, rfl⟩ ⟨hsz.1.symm, hsz.2.symm⟩

end Lemmas

/-! ## 3. Property theorems: damage and shadow copy -/

/-- **Every change is announced.** For every token, in every state satisfying the
    invariant: a cell `(x,y)` of the screen that lies in no region announced for the token is,
    on the ACTIVE screen after the token, what it was on the active screen before. (When the
    token switches buffers the hypothesis is never met: `switch_announces_everything`.) -/
theorem changes_announced (cw : Nat → Nat) (t : Term) (tok : Tok)
    (hm : t.main.inv = true) (ha : t.alt.inv = true)
    (x y : Nat) (hx : x < t.scr.w) (hy : y < t.scr.h)
    (hn : announced t tok x y = false) :
    ((Term.apply cw t tok).1.scr.row y)[x]? = (t.scr.row y)[x]? := by
  rw [row_eq, row_eq, apply_frame cw t tok (shaped_scr (inv_shaped hm) (inv_shaped ha))
    (needWF_of_inv hm ha) x y hx hy hn]

/-- Only `CSI ? … h` / `CSI ? … l` with 1049 among the parameters can change which
    buffer is active. -/
theorem switch_only_1049 (cw : Nat → Nat) (t : Term) (tok : Tok)
    (hsw : (Term.apply cw t tok).1.onAlt ≠ t.onAlt) :
    ∃ ps fin, tok = .csi 0x3f ps true fin ∧ (fin = 0x68 ∨ fin = 0x6c) ∧ (1049 : Int) ∈ ps :=
  C17.Lemmas.isSwitch_elim (by
    cases hs : C17.isSwitch tok
    · exact absurd (C17.Lemmas.oa_apply cw t tok hs).onAlt hsw
    · rfl)

/-- **Buffer switches.** A token after which the other buffer is active announces
    every cell of the screen, so `changes_announced` and `shadow_sync` hold across a switch with
    the frontend re-reading the whole (new) active screen. -/
theorem switch_announces_everything (cw : Nat → Nat) (t : Term) (tok : Tok)
    (hsw : (Term.apply cw t tok).1.onAlt ≠ t.onAlt)
    (x y : Nat) (hx : x < t.scr.w) (hy : y < t.scr.h) : announced t tok x y = true := by
  obtain ⟨ps, fin, rfl, hf, h49⟩ := switch_only_1049 cw t tok hsw
  exact (announced_iff t _ x y hx).2 (dmgRow_switch t ps fin hf h49 hy)

/-- **The shadow copy is exact after every token.** In every state satisfying the
    invariant (both buffers, which `Resize` keeps at the same size), a frontend whose copy equals
    the active screen before the token and that re-reads exactly the announced cells afterwards
    holds an exact copy of the (possibly other) active screen after the token: text under both
    policies with early and late autowrap, LF / FF / IND / RI, EL / ED / ECH / DCH, SU / SD / IL /
    DL, buffer switches, and every token that changes no cell. -/
theorem shadow_sync (cw : Nat → Nat) (t : Term) (tok : Tok)
    (hm : t.main.inv = true) (ha : t.alt.inv = true)
    (hsz : t.main.w = t.alt.w ∧ t.main.h = t.alt.h)
    (shadow : List Row) (hsh : shadow = t.scr.grid) :
    repaint shadow (Term.apply cw t tok).1.scr.grid (t.damage tok) =
      (Term.apply cw t tok).1.scr.grid := by
  subst hsh
  have hwf := needWF_of_inv hm ha
  have hm := inv_shaped hm
  have ha := inv_shaped ha
  obtain ⟨_, g1, g2, g3, g4, g5, g6⟩ := apply_geo cw t tok hwf
  have hsz' : (Term.apply cw t tok).1.main.w = (Term.apply cw t tok).1.alt.w ∧
      (Term.apply cw t tok).1.main.h = (Term.apply cw t tok).1.alt.h := by
    rw [g1, g2, g3, g4]; exact hsz
  have z := scr_size hsz
  have z' := scr_size hsz'
  apply repaint_eq _ _ _ (shaped_scr hm ha) (shaped_scr (g5 hm) (g6 ha))
  · rw [z'.1, z.1, g1]
  · rw [z'.2, z.2, g2]
  · intro x y hx hy hn
    rw [row_eq, row_eq, apply_frame cw t tok (shaped_scr hm ha) hwf x y hx hy hn]

/-- the terminal state after a list of tokens: `Run.state (Term.apply cw)` of `Proofs/Fold.lean` -/
def stateAfter (cw : Nat → Nat) (t : Term) (toks : List Tok) : Term :=
  toks.foldl (fun t tk => (Term.apply cw t tk).1) t

/-- the frontend's copy after a list of tokens: after each token it re-reads, from the then
    active screen, exactly the cells announced for that token -/
def shadowAfter (cw : Nat → Nat) : Term → List Row → List Tok → List Row
  | _, sh, [] => sh
  | t, sh, tok :: toks =>
    shadowAfter cw (Term.apply cw t tok).1
      (repaint sh (Term.apply cw t tok).1.scr.grid (t.damage tok)) toks

/-- the invariant holds (both buffers) in every state of the run in which a token is applied -/
def InvAlong (cw : Nat → Nat) : Term → List Tok → Prop
  | _, [] => True
  | t, tok :: toks =>
    t.main.inv = true ∧ t.alt.inv = true ∧ InvAlong cw (Term.apply cw t tok).1 toks

namespace Lemmas

theorem invAlong (cw : Nat → Nat) (t : Term) (toks : List Tok) (h : t.inv) : InvAlong cw t toks := by
  induction toks generalizing t with
  | nil => trivial
  | cons tok toks ih => exact ⟨h.1, h.2.1, ih _ (C02.apply_inv cw t h tok)⟩

/-- the copy is exact along every run from a state that satisfies the invariant: either policy,
    nothing assumed of the states in between -/
theorem shadow_sync_run_inv (cw : Nat → Nat) (t : Term) (toks : List Tok) (h : t.inv) :
    shadowAfter cw t t.scr.grid toks = (stateAfter cw t toks).scr.grid := by
  induction toks generalizing t with
  | nil => rfl
  | cons tok toks ih =>
    show shadowAfter cw (Term.apply cw t tok).1
      (repaint t.scr.grid (Term.apply cw t tok).1.scr.grid (t.damage tok)) toks = _
    rw [shadow_sync cw t tok h.1 h.2.1 h.2.2 _ rfl]
    exact ih _ (C02.apply_inv cw t h tok)

end Lemmas

/-- **The shadow copy is exact along a whole run.** Start with a copy of the active
    screen; after each token re-read exactly the announced cells. If the invariant holds in
    every state in which a token is applied (`InvAlong`), the copy equals the active screen at
    the end — and, the statement being for every list, after every token. (`hinv` follows from
    the other hypotheses, `invAlong`, and is not used.) -/
theorem shadow_sync_run (cw : Nat → Nat) (t : Term) (toks : List Tok)
    (hsz : t.main.w = t.alt.w ∧ t.main.h = t.alt.h) (hinv : InvAlong cw t toks)
    (hm : t.main.inv = true) (ha : t.alt.inv = true) :
    shadowAfter cw t t.scr.grid toks = (stateAfter cw t toks).scr.grid :=
  shadow_sync_run_inv cw t toks ⟨hm, ha, hsz⟩

/-- **Compared after every parser step**: the copy is exact after every prefix of the run -/
theorem shadow_sync_every_step (cw : Nat → Nat) (t : Term) (toks : List Tok)
    (hsz : t.main.w = t.alt.w ∧ t.main.h = t.alt.h) (hinv : InvAlong cw t toks)
    (hm : t.main.inv = true) (ha : t.alt.inv = true) (k : Nat) :
    shadowAfter cw t t.scr.grid (toks.take k) = (stateAfter cw t (toks.take k)).scr.grid :=
  shadow_sync_run_inv cw t (toks.take k) ⟨hm, ha, hsz⟩

/-- **Grid policy, closed form.** For the grid buffer (`WidePolicy.blank`) nothing has
    to be assumed about intermediate states: from any state whose two buffers satisfy the
    invariant and have the same size, for every list of tokens, the copy refreshed only from the
    announcements equals the active screen after the run (and after every prefix). The policy
    plays no part: this is `shadow_sync_run_inv`. -/
theorem shadow_sync_run_blank (cw : Nat → Nat) (t : Term) (toks : List Tok)
    (hpol : t.pol = .blank) (hm : t.main.inv = true) (ha : t.alt.inv = true)
    (hsz : t.main.w = t.alt.w ∧ t.main.h = t.alt.h) :
    shadowAfter cw t t.scr.grid toks = (stateAfter cw t toks).scr.grid :=
  shadow_sync_run_inv cw t toks ⟨hm, ha, hsz⟩

/-- the tokens `runFuel` applies -/
def toksFuel : Nat → Bytes → List Tok
  | 0, _ => []
  | fuel+1, bs =>
    match next bs with
    | .need => []
    | .tok tk n => tk :: toksFuel fuel (bs.drop n)

/-- the tokens the read loop `run` applies to a byte stream -/
def toksOf (bs : Bytes) : List Tok := toksFuel (bs.length + 1) bs

theorem toksFuel_eq (fuel : Nat) (bs : Bytes) : toksFuel fuel bs = (toksFuel' fuel bs).1 :=
  toks_unique (fun _ => rfl) (fun _ _ => rfl) fuel bs

theorem runFuel_state (cw : Nat → Nat) (fuel : Nat) (t : Term) (bs : Bytes) (evs : List Ev) :
    (runFuel cw fuel t bs evs).1 = stateAfter cw t (toksFuel fuel bs) := by
  rw [runFuel_eq, toksFuel_eq]; rfl

/-- **Byte streams.** For every input stream, from every state whose two buffers have the
    same size: the copy refreshed token by token from the announcements equals the active screen
    of the state `run` reaches — provided the invariant holds in the states the tokens are
    applied in (see `shadow_sync_run`). (`run` reaches the state after the stream's tokens:
    `runFuel_state`.) -/
theorem shadow_sync_stream (cw : Nat → Nat) (t : Term) (bs : Bytes)
    (hsz : t.main.w = t.alt.w ∧ t.main.h = t.alt.h) (hinv : InvAlong cw t (toksOf bs))
    (hm : t.main.inv = true) (ha : t.alt.inv = true) :
    shadowAfter cw t t.scr.grid (toksOf bs) = (run cw t bs).1.scr.grid := by
  unfold run
  rw [runFuel_state]
  exact shadow_sync_run cw t _ hsz hinv hm ha

/-- **Byte streams, grid policy.** For every input stream, from every state satisfying
    the invariant whose two buffers have the same size: the copy refreshed token by token from
    the announcements equals the active screen of the state `run` reaches. -/
theorem shadow_sync_stream_blank (cw : Nat → Nat) (t : Term) (bs : Bytes)
    (hpol : t.pol = .blank) (hm : t.main.inv = true) (ha : t.alt.inv = true)
    (hsz : t.main.w = t.alt.w ∧ t.main.h = t.alt.h) :
    shadowAfter cw t t.scr.grid (toksOf bs) = (run cw t bs).1.scr.grid := by
  unfold run
  rw [runFuel_state]
  exact shadow_sync_run_blank cw t _ hpol hm ha hsz

/-! ## 4. Notifications: the last announced cursor / rendition / view values are the actual ones -/

/-- the cursor position a frontend holds after the events `evs`, having held `old` before -/
def lastCursor (evs : List Ev) (old : Nat × Nat) : Nat × Nat :=
  evs.foldl (fun acc e => match e with | .cursor x y => (x, y) | _ => acc) old

/-- the rendition a frontend holds after the events `evs` -/
def lastStyle (evs : List Ev) (old : Style) : Style :=
  evs.foldl (fun acc e => match e with | .style st => st | _ => acc) old

/-- view flag `i` as a frontend holds it after the events `evs` -/
def lastVFlag (i : Nat) (evs : List Ev) (old : Bool) : Bool :=
  evs.foldl (fun acc e => match e with | .vflag j v => if j = i then v else acc | _ => acc) old

/-- view int `i` as a frontend holds it after the events `evs` -/
def lastVInt (i : Nat) (evs : List Ev) (old : Int) : Int :=
  evs.foldl (fun acc e => match e with | .vint j v => if j = i then v else acc | _ => acc) old

/-- view string `i` as a frontend holds it after the events `evs` -/
def lastVStr (i : Nat) (evs : List Ev) (old : Bytes) : Bytes :=
  evs.foldl (fun acc e => match e with | .vstr j v => if j = i then v else acc | _ => acc) old

def noView (evs : List Ev) : Bool :=
  evs.all fun e => match e with | .vflag .. => false | .vint .. => false | .vstr .. => false | _ => true

/-- folding the events of `r` over what the frontend held for `t` gives the actual values of
    the resulting state -/
structure Ntf (t : Term) (r : Term × List Ev) : Prop where
  cursor : lastCursor r.2 (t.scr.cx, t.scr.cy) = (r.1.scr.cx, r.1.scr.cy)
  style : lastStyle r.2 t.scr.sty = r.1.scr.sty
  vflag : ∀ i old, t.vflags[i]? = some old → r.1.vflags[i]? = some (lastVFlag i r.2 old)
  vint : ∀ i old, t.vints[i]? = some old → r.1.vints[i]? = some (lastVInt i r.2 old)
  vstr : ∀ i old, t.vstrs[i]? = some old → r.1.vstrs[i]? = some (lastVStr i r.2 old)

/-- all events of a run of tokens, in order: `Run.out (Term.apply cw)` (`Lemmas.eventsOf_eq`) -/
def eventsOf (cw : Nat → Nat) : Term → List Tok → List Ev
  | _, [] => []
  | t, tok :: toks => (Term.apply cw t tok).2 ++ eventsOf cw (Term.apply cw t tok).1 toks

namespace Lemmas

theorem foldl_ignored {α : Type} (f : α → Ev → α) (p : Ev → Bool)
    (hf : ∀ a e, p e = true → f a e = a) (evs : List Ev) (old : α) (h : evs.all p = true) :
    evs.foldl f old = old := by
  induction evs with
  | nil => rfl
  | cons e evs ih =>
    rw [List.all_cons, Bool.and_eq_true] at h
    rw [List.foldl_cons, hf old e h.1, ih h.2]

theorem eventsOf_eq (cw : Nat → Nat) (t : Term) (toks : List Tok) :
    eventsOf cw t toks = Run.out (Term.apply cw) t toks :=
  Run.out_unique (fun _ => rfl) (fun _ _ _ => rfl) t toks

theorem runFuel_events (cw : Nat → Nat) (fuel : Nat) (t : Term) (bs : Bytes) (evs : List Ev) :
    (runFuel cw fuel t bs evs).2.1 = evs ++ eventsOf cw t (toksFuel fuel bs) := by
  rw [runFuel_eq, toksFuel_eq, eventsOf_eq]

theorem run_eq (cw : Nat → Nat) (t : Term) (bs : Bytes) :
    (run cw t bs).1 = stateAfter cw t (toksOf bs) ∧ (run cw t bs).2.1 = eventsOf cw t (toksOf bs) :=
  ⟨runFuel_state .., (runFuel_events ..).trans (List.nil_append _)⟩

end Lemmas

theorem Ntf.quiet {t t' : Term} (evs : List Ev) (hv : noView evs = true)
    (hc : lastCursor evs (t.scr.cx, t.scr.cy) = (t'.scr.cx, t'.scr.cy))
    (hs : lastStyle evs t.scr.sty = t'.scr.sty) (h1 : t'.vflags = t.vflags)
    (h2 : t'.vints = t.vints) (h3 : t'.vstrs = t.vstrs) : Ntf t (t', evs) :=
  -- an event that is no view event leaves each of the three folds where it is
  ⟨hc, hs,
   fun i old h => (h1 ▸ h).trans (congrArg some (foldl_ignored _ _
     (fun _ e he => by cases e <;> first | rfl | cases he) evs old hv).symm),
   fun i old h => (h2 ▸ h).trans (congrArg some (foldl_ignored _ _
     (fun _ e he => by cases e <;> first | rfl | cases he) evs old hv).symm),
   fun i old h => (h3 ▸ h).trans (congrArg some (foldl_ignored _ _
     (fun _ e he => by cases e <;> first | rfl | cases he) evs old hv).symm)⟩

theorem Ntf.setScr (t : Term) (s' : Scr) (evs : List Ev) (hv : noView evs = true)
    (hc : lastCursor evs (t.scr.cx, t.scr.cy) = (s'.cx, s'.cy))
    (hs : lastStyle evs t.scr.sty = s'.sty) : Ntf t (t.setScr s', evs) := by
  exact Ntf.quiet evs hv (by rw [Term.scr_setScr]; exact hc) (by rw [Term.scr_setScr]; exact hs)
    (t.setScr_vflags s') (t.setScr_vints s') (t.setScr_vstrs s')

theorem Ntf.same (t : Term) (evs : List Ev) (hv : noView evs = true)
    (hc : lastCursor evs (t.scr.cx, t.scr.cy) = (t.scr.cx, t.scr.cy))
    (hs : lastStyle evs t.scr.sty = t.scr.sty) : Ntf t (t, evs) :=
  Ntf.quiet evs hv hc hs rfl rfl rfl

theorem Ntf.withScr (t : Term) (s' : Scr) (hs : s'.sty = t.scr.sty) : Ntf t (t.withScr s') :=
  Ntf.setScr t s' _ rfl rfl hs.symm

theorem Ntf.setKbd (t : Term) (k : Kbd) : Ntf t (t.setKbd k, []) := by
  exact Ntf.quiet [] rfl (by rw [t.setKbd_scr k]; rfl) (by rw [t.setKbd_scr k]; rfl)
    (t.setKbd_vflags k) (t.setKbd_vints k) (t.setKbd_vstrs k)

theorem Ntf.setVFlag (t : Term) (i : Nat) (v : Bool) : Ntf t (t.setVFlag i v) := by
  refine ⟨rfl, rfl, ?_, fun _ _ h => h, fun _ _ h => h⟩
  intro j old h
  show (t.vflags.set i v)[j]? = _
  rw [getElem?_set_some _ _ _ _ _ h]; rfl

theorem Ntf.setVInt (t : Term) (i : Nat) (v : Int) : Ntf t (t.setVInt i v) := by
  refine ⟨rfl, rfl, fun _ _ h => h, ?_, fun _ _ h => h⟩
  intro j old h
  show (t.vints.set i v)[j]? = _
  rw [getElem?_set_some _ _ _ _ _ h]; rfl

theorem Ntf.setVStr (t : Term) (i : Nat) (v : Bytes) : Ntf t (t.setVStr i v) := by
  refine ⟨rfl, rfl, fun _ _ h => h, fun _ _ h => h, ?_⟩
  intro j old h
  show (t.vstrs.set i v)[j]? = _
  rw [getElem?_set_some _ _ _ _ _ h]; rfl

theorem Ntf.trans {t : Term} {r1 : Term × List Ev} {r2 : Term × List Ev}
    (h1 : Ntf t r1) (h2 : Ntf r1.1 r2) : Ntf t (r2.1, r1.2 ++ r2.2) :=
  -- each `last…` is a `foldl` over the events
  ⟨List.foldl_append.trans ((congrArg (lastCursor r2.2) h1.cursor).trans h2.cursor),
   List.foldl_append.trans ((congrArg (lastStyle r2.2) h1.style).trans h2.style),
   fun i old h => (h2.vflag i _ (h1.vflag i old h)).trans (congrArg some List.foldl_append.symm),
   fun i old h => (h2.vint i _ (h1.vint i old h)).trans (congrArg some List.foldl_append.symm),
   fun i old h => (h2.vstr i _ (h1.vstr i old h)).trans (congrArg some List.foldl_append.symm)⟩

theorem Ntf.switchScreen (t : Term) (v : Bool) : Ntf t (t.switchScreen v) := by
  unfold Term.switchScreen
  split
  · exact Ntf.same _ _ rfl rfl rfl
  · exact ⟨rfl, rfl, fun _ _ h => h, fun _ _ h => h, fun _ _ h => h⟩

theorem Ntf.decMode (t : Term) (p : Int) (v : Bool) : Ntf t (t.decMode p v) :=
  t.decMode_cases p v (flag := fun i => Ntf.setVFlag t i v) (int := fun i n => Ntf.setVInt t i n)
    (wrap := fun _ => Ntf.setScr _ _ _ rfl rfl rfl) (switch := fun _ => Ntf.switchScreen t v)
    (none := Ntf.same _ _ rfl rfl rfl)

theorem Ntf.decModes (t : Term) (v : Bool) (ps : List Int) : Ntf t (t.decModes v ps) := by
  induction ps generalizing t with
  | nil => exact Ntf.same _ _ rfl rfl rfl
  | cons p ps ih =>
    rw [Term.decModes_cons]
    exact (Ntf.decMode t p v).trans (ih _)

/-- in every leaf the cursor and the rendition of the new screen are read off its last `cursor` /
    `style` event, or are those of the old screen when there is none -/
theorem Ntf.csiPlain (t : Term) (ps : List Int) (fin : UInt8) : Ntf t (t.csiPlain ps fin) := by
  refine t.csiPlain_cases ps fin (none := Ntf.same _ _ rfl rfl rfl)
    (reply := fun _ _ => Ntf.same _ _ rfl rfl rfl) (move := fun _ _ => Ntf.withScr _ _ rfl)
    (restore := Ntf.withScr _ _ rfl) (save := Ntf.setScr _ _ _ rfl rfl rfl)
    (sgr := fun _ => Ntf.setScr _ _ _ rfl rfl rfl) (margins := fun a b => ?_)
    (eraseRow := fun _ _ _ _ _ => Ntf.setScr _ _ _ rfl rfl rfl)
    (ed0 := fun _ => Ntf.setScr _ _ _ rfl rfl rfl) (ed1 := fun _ => Ntf.setScr _ _ _ rfl rfl rfl)
    (ed2 := fun _ => Ntf.setScr _ _ _ rfl rfl rfl) (scroll := fun y1 d _ => ?_)
    (dch := fun _ _ => Ntf.setScr _ _ _ rfl rfl rfl)
  · rw [setMargins_eq]; split <;> exact Ntf.setScr _ _ _ rfl rfl rfl
  · obtain ⟨a, b⟩ := scroll_cursor t.scr y1 t.scr.bot d
    exact Ntf.setScr _ _ _ rfl (by rw [a, b]; rfl) (by rw [(shift_scroll ..).sty]; rfl)

theorem Ntf.csi (t : Term) (pfx : UInt8) (ps : List Int) (fin : UInt8) : Ntf t (t.csi pfx ps fin) :=
  t.csi_cases pfx ps fin (plain := fun _ => Ntf.csiPlain t ps fin)
    (modes := fun _ _ v => Ntf.decModes t v ps) (none := Ntf.same _ _ rfl rfl rfl)
    (reply := fun _ _ => Ntf.same _ _ rfl rfl rfl) (int := fun n => Ntf.setVInt t 2 n)
    (kbd := fun _ k => Ntf.setKbd t k)

theorem Ntf.apply (cw : Nat → Nat) (t : Term) (tok : Tok) : Ntf t (Term.apply cw t tok) :=
  t.apply_cases cw tok
    (text := fun st cp _ => Ntf.setScr _ _ _ rfl rfl (frame_put t.pol t.scr st (cw cp)).sty.symm)
    (none := Ntf.same _ _ rfl rfl rfl) (bell := Ntf.same _ _ rfl rfl rfl)
    (cx := fun _ _ => Ntf.withScr _ _ rfl) (move := fun _ _ => Ntf.withScr _ _ rfl)
    (lf := fun _ => Ntf.withScr _ _ (shift_lineDown _).sty)
    (down := fun _ => Ntf.withScr _ _ (shift_lineDown _).sty)
    (up := fun _ => Ntf.withScr _ _ (shift_lineUp _).sty) (flag := fun i v => Ntf.setVFlag t i v)
    (str := fun i v => Ntf.setVStr t i v) (csi := fun pfx ps fin _ => Ntf.csi t pfx ps fin)

theorem Ntf.toks (cw : Nat → Nat) (t : Term) (toks : List Tok) :
    Ntf t (stateAfter cw t toks, eventsOf cw t toks) := by
  induction toks generalizing t with
  | nil => exact Ntf.same _ _ rfl rfl rfl
  | cons tok toks ih => exact (Ntf.apply cw t tok).trans (ih (Term.apply cw t tok).1)

theorem Ntf.stream (cw : Nat → Nat) (t : Term) (bs : Bytes) : Ntf t ((run cw t bs).1, (run cw t bs).2.1) := by
  rw [(run_eq cw t bs).1, (run_eq cw t bs).2]
  exact Ntf.toks cw t _

/-- **CursorMoved.** If the last cursor position the frontend was told is the actual
    one before the token, then after folding the token's events it is the actual cursor of the
    (possibly other) active screen. Every token, every state. -/
theorem cursor_last (cw : Nat → Nat) (t : Term) (tok : Tok) (seen : Nat × Nat)
    (h : seen = (t.scr.cx, t.scr.cy)) :
    lastCursor (Term.apply cw t tok).2 seen =
      ((Term.apply cw t tok).1.scr.cx, (Term.apply cw t tok).1.scr.cy) := by
  subst h; exact (Ntf.apply cw t tok).cursor

/-- **StyleChanged.** The same for the current rendition (a buffer switch announces
    the rendition of the buffer switched to). -/
theorem style_last (cw : Nat → Nat) (t : Term) (tok : Tok) (seen : Style)
    (h : seen = t.scr.sty) :
    lastStyle (Term.apply cw t tok).2 seen = (Term.apply cw t tok).1.scr.sty := by
  subst h; exact (Ntf.apply cw t tok).style

/-- **ViewFlagChanged**, every index of the flag table -/
theorem view_last_flag (cw : Nat → Nat) (t : Term) (tok : Tok) (i : Nat) (hi : i < t.vflags.length)
    (seen : Bool) (h : seen = t.vflags[i]) :
    (Term.apply cw t tok).1.vflags[i]? = some (lastVFlag i (Term.apply cw t tok).2 seen) := by
  subst h; exact (Ntf.apply cw t tok).vflag i _ (List.getElem?_eq_getElem hi)

/-- **ViewIntChanged**, every index of the int table -/
theorem view_last_int (cw : Nat → Nat) (t : Term) (tok : Tok) (i : Nat) (hi : i < t.vints.length)
    (seen : Int) (h : seen = t.vints[i]) :
    (Term.apply cw t tok).1.vints[i]? = some (lastVInt i (Term.apply cw t tok).2 seen) := by
  subst h; exact (Ntf.apply cw t tok).vint i _ (List.getElem?_eq_getElem hi)

/-- **ViewStringChanged**, every index of the string table -/
theorem view_last_str (cw : Nat → Nat) (t : Term) (tok : Tok) (i : Nat) (hi : i < t.vstrs.length)
    (seen : Bytes) (h : seen = t.vstrs[i]) :
    (Term.apply cw t tok).1.vstrs[i]? = some (lastVStr i (Term.apply cw t tok).2 seen) := by
  subst h; exact (Ntf.apply cw t tok).vstr i _ (List.getElem?_eq_getElem hi)

/-- **Whole input.** For every byte stream, from every state: folding all events emitted
    while `run` consumes the stream over the values the frontend held (equal to the actual ones
    before) gives the actual cursor, rendition and view values of the state reached — so after
    each input the most recent CursorMoved / StyleChanged / View\*Changed values are the
    terminal's actual ones. (Token lists: the same with `stateAfter` / `eventsOf`, by `Ntf.toks`.) -/
theorem notifications_last_stream (cw : Nat → Nat) (t : Term) (bs : Bytes) :
    lastCursor (run cw t bs).2.1 (t.scr.cx, t.scr.cy) =
      ((run cw t bs).1.scr.cx, (run cw t bs).1.scr.cy) ∧
    lastStyle (run cw t bs).2.1 t.scr.sty = (run cw t bs).1.scr.sty ∧
    (∀ i (hi : i < t.vflags.length),
      (run cw t bs).1.vflags[i]? = some (lastVFlag i (run cw t bs).2.1 t.vflags[i])) ∧
    (∀ i (hi : i < t.vints.length),
      (run cw t bs).1.vints[i]? = some (lastVInt i (run cw t bs).2.1 t.vints[i])) ∧
    (∀ i (hi : i < t.vstrs.length),
      (run cw t bs).1.vstrs[i]? = some (lastVStr i (run cw t bs).2.1 t.vstrs[i])) := by
  have h := Ntf.stream cw t bs
  exact ⟨h.cursor, h.style, fun i hi => h.vflag i _ (List.getElem?_eq_getElem hi),
    fun i hi => h.vint i _ (List.getElem?_eq_getElem hi),
    fun i hi => h.vstr i _ (List.getElem?_eq_getElem hi)⟩

/-- **`Resize`.** The events of `Term.resize` end with the cursor and the rendition of
    the active buffer, so the frontend's last values are again the actual ones (whatever it held
    before). -/
theorem resize_last (t : Term) (w h : Nat) (seenC : Nat × Nat) (seenS : Style) :
    lastCursor (t.resize w h).2 seenC = ((t.resize w h).1.scr.cx, (t.resize w h).1.scr.cy) ∧
    lastStyle (t.resize w h).2 seenS = (t.resize w h).1.scr.sty := ⟨rfl, rfl⟩

/-! ## 5. ScrollLines: the rows that leave the main screen through the top (`TM/Scrollback.lean`)

The Go `scroll(y1, y2, dy)` calls `ScrollLines(min(-dy, y2+1))` when `y1 = 0`, `dy < 0` and the
buffer is the main one, just before the first rows are overwritten. `TM/Scrollback.lean`
counts those rows for every place a token reaches `Scr.scroll` (`Scr.scrollOff`, `Scr.lineDownOff`,
`Scr.putOff`, `Term.scrollOff`) and `Term.applyS` puts the announcement in front of the token's
other events. This section proves that the counted rows are exactly the rows that disappear
through the top, and that without an announcement nothing disappears through the top, for
`Scr.scroll`, `Scr.lineDown`, `Scr.put` (early and late wrap; up to 2 rows) and the tokens.
`Lost k a b g g'` (`Proofs/Lost.lean`) is the relation behind the `row0` theorems and the text
transcripts (`lost_scroll`, `lost_lineDown`, `lost_putSteps`). -/

/-- `Term.apply` itself emits no `Ev.scrollLines` for any token in any state. Together with
    `scrollLines_announced_iff` and the transcript theorems this says that `Term.applyS` announces
    exactly the rows that are lost and nothing else. -/
theorem apply_emits_no_scrollLines (cw : Nat → Nat) (t : Term) (tok : Tok) :
    ∀ e ∈ (Term.apply cw t tok).2, ∀ n, e ≠ .scrollLines n := by
  intro e he n hn
  subst hn
  by_cases h : ∃ st cp, tok = .text st cp
  · obtain ⟨st, cp, rfl⟩ := h
    simp [Term.apply] at he
  -- `Ev.isControl (.scrollLines _) = false`
  · cases List.all_eq_true.1 (t.apply_control cw tok fun st cp e => h ⟨st, cp, e⟩) _ he

/-- **The announced count never exceeds the scrolled range.** -/
theorem scrollOff_le (s : Scr) (y1 y2 : Nat) (d : Int) : s.scrollOff y1 y2 d ≤ y2 + 1 := by
  unfold Scr.scrollOff
  split
  · omega
  · split <;> omega

/-- **When something is announced**: exactly for an effective upward scroll of a range
    that starts on row 0. -/
theorem scrollOff_pos_iff (s : Scr) (y1 y2 : Nat) (d : Int) :
    0 < s.scrollOff y1 y2 d ↔ (y1 = 0 ∧ y2 < s.h ∧ d < 0) := by
  unfold Scr.scrollOff
  split
  · omega
  · split <;> omega

theorem scrollOff_eq (s : Scr) (y2 : Nat) (d : Int) (h2 : y2 < s.h) (hd : d < 0) :
    s.scrollOff 0 y2 d = min d.natAbs (y2 + 1) := by
  unfold Scr.scrollOff
  rw [if_neg (by omega), if_pos ⟨rfl, hd⟩]

namespace Lemmas

theorem scrollRows_up (s : Scr) (b : Nat) (d : Int) (hd : d < 0) :
    scrollRows (blankRow s.w s.sty) s.grid 0 b d =
      (s.grid.take (b + 1)).drop (min d.natAbs (b + 1)) ++
        List.replicate (min d.natAbs (b + 1)) (blankRow s.w s.sty) ++ s.grid.drop (b + 1) := by
  unfold scrollRows
  have : ¬ d ≥ 0 := by omega
  simp [this]

/-- after an upward scroll of `[0,b]` by `k` rows the last `k` rows of the range are blank -/
theorem scroll_up_blank (s : Scr) (b : Nat) (d : Int) (hg : s.grid.length = s.h) (hb : b < s.h)
    (hd : d < 0) (y : Nat) (h1 : b < y + s.scrollOff 0 b d) (h2 : y ≤ b) :
    (s.scroll 0 b d).grid[y]? = some (blankRow s.w s.sty) := by
  have hc : ¬ (0 > b ∨ b ≥ s.h) := by omega
  rw [scrollOff_eq s b d hb hd] at h1
  rw [scroll_getElem?_in s 0 b d hg hc _ (by omega), if_neg (by omega), if_neg (by omega)]

end Lemmas

/-- `scroll_transcript` without the bound on `y2`: a range that reaches past the screen is not
    scrolled, and nothing is announced for it -/
theorem scroll_transcript_any (s : Scr) (y2 : Nat) (d : Int) (hg : s.grid.length = s.h) (hd : d ≤ 0) :
    s.grid.take (s.scrollOff 0 y2 d) ++ (s.scroll 0 y2 d).grid.take (y2 + 1) =
      s.grid.take (y2 + 1) ++ List.replicate (s.scrollOff 0 y2 d) (blankRow s.w s.sty) := by
  by_cases h2 : y2 < s.h
  · by_cases hz : d = 0
    · have : s.scrollOff 0 y2 0 = 0 := by have := scrollOff_pos_iff s 0 y2 0; omega
      rw [hz, scroll_zero, this]; simp
    have hd : d < 0 := by omega
    have hc : ¬ (0 > y2 ∨ y2 ≥ s.h) := by omega
    rw [scrollOff_eq s y2 d h2 hd, scroll_eq_rows, if_neg hc]
    show _ ++ (scrollRows (blankRow s.w s.sty) s.grid 0 y2 d).take (y2 + 1) = _
    rw [scrollRows_up s y2 d hd, List.take_left' (by
      simp only [List.length_append, List.length_drop, List.length_take, List.length_replicate]
      omega), ← List.append_assoc]
    congr 1
    have : s.grid.take (min d.natAbs (y2 + 1)) =
        (s.grid.take (y2 + 1)).take (min d.natAbs (y2 + 1)) := by
      rw [List.take_take]; congr 1; omega
    rw [this, List.take_append_drop]
  · rw [scroll_noop s 0 y2 d (by omega)]
    have : s.scrollOff 0 y2 d = 0 := by have := scrollOff_pos_iff s 0 y2 d; omega
    simp [this]

/-- **Nothing is lost when the announced rows are kept.** For an upward scroll of the
    range `[0, y2]` (`k` rows announced): the `k` announced rows followed by the range after the
    scroll are the range before the scroll followed by `k` blank rows. So the announced rows are
    exactly the rows that leave, and they leave through the top in order. -/
theorem scroll_transcript (s : Scr) (y2 : Nat) (d : Int) (hg : s.grid.length = s.h)
    (h2 : y2 < s.h) (hd : d ≤ 0) :
    s.grid.take (s.scrollOff 0 y2 d) ++ (s.scroll 0 y2 d).grid.take (y2 + 1) =
      s.grid.take (y2 + 1) ++ List.replicate (s.scrollOff 0 y2 d) (blankRow s.w s.sty) :=
  scroll_transcript_any s y2 d hg hd

/-- **No announcement, no loss.** When `Scr.scroll` announces nothing and is not a
    downward scroll, the top row of the screen is untouched. -/
theorem scroll_row0_kept (s : Scr) (y1 y2 : Nat) (d : Int) (hg : s.grid.length = s.h)
    (h0 : s.scrollOff y1 y2 d = 0) (hd : d ≤ 0) :
    (s.scroll y1 y2 d).grid[0]? = s.grid[0]? :=
  (h0 ▸ lost_scroll s y1 y2 d hg hd).row0

/-- rows above the scrolled range are never touched (whatever the direction) -/
theorem scroll_above_kept (s : Scr) (y1 y2 : Nat) (d : Int) (hg : s.grid.length = s.h) (y : Nat)
    (hy : y < y1) : (s.scroll y1 y2 d).grid[y]? = s.grid[y]? :=
  scroll_outside s y1 y2 d hg y (by omega)

/-- **`lineDown` announces at most one row.** -/
theorem lineDownOff_le_one (s : Scr) : s.lineDownOff ≤ 1 := by
  unfold Scr.lineDownOff Scr.scrollOff
  split
  · split
    · omega
    · split <;> omega
  · omega

/-- **`lineDown` announces a row exactly when the cursor stands on the bottom margin of a region
    that starts on row 0.** -/
theorem lineDownOff_pos_iff (s : Scr) :
    0 < s.lineDownOff ↔ (s.cy = s.bot ∧ s.top = 0 ∧ s.bot < s.h) := by
  unfold Scr.lineDownOff
  split
  · rw [scrollOff_pos_iff]; simp [*]
  · simp [*]

/-- **`lineDown` (LF, FF, IND, both wraps of a text write), top margin on row 0**: the
    announced rows followed by the region afterwards are the region before followed by as many
    blank rows. No hypothesis on the cursor or the bottom margin. -/
theorem lineDown_transcript (s : Scr) (hg : s.grid.length = s.h) (ht : s.top = 0) :
    s.grid.take s.lineDownOff ++ s.lineDown.grid.take (s.bot + 1) =
      s.grid.take (s.bot + 1) ++ List.replicate s.lineDownOff (blankRow s.w s.sty) := by
  rw [lineDown_grid]
  unfold Scr.lineDownOff
  split
  · rw [ht]; exact scroll_transcript_any s s.bot (-1) hg (by omega)
  · simp

/-- without an announcement `lineDown` leaves the top row alone -/
theorem lineDown_row0_kept (s : Scr) (hg : s.grid.length = s.h) (h0 : s.lineDownOff = 0) :
    s.lineDown.grid[0]? = s.grid[0]? :=
  (h0 ▸ lost_lineDown s hg).row0

/-- **A downward scroll (IL, SD, RI) pushes nothing out through the top**: with
    `k = min d (y2 - y1 + 1)`, every row `y` of the range with `y + k ≤ y2` is found `k` rows lower;
    rows are lost only at the bottom of the range. -/
theorem scroll_down_rows (s : Scr) (y1 y2 : Nat) (d : Int) (hg : s.grid.length = s.h)
    (h2 : y2 < s.h) (hd : 0 ≤ d) (y : Nat) (ha : y1 ≤ y)
    (hb : y + min d.natAbs (y2 - y1 + 1) ≤ y2) :
    (s.scroll y1 y2 d).grid[y + min d.natAbs (y2 - y1 + 1)]? = s.grid[y]? := by
  have hc : ¬ (y1 > y2 ∨ y2 ≥ s.h) := by omega
  rw [scroll_getElem?_in s y1 y2 d hg hc _ (by omega), if_pos hd, if_neg (by omega)]
  congr 1; omega

/-! ### `Scr.put`: the early and the late wrap -/

namespace Lemmas

theorem wrapped_le_one {s s' : Scr} {k : Nat} (h : s.Wrapped k s') : k ≤ 1 := by
  cases h with
  | col x => exact Nat.zero_le _
  | feed _ x => exact lineDownOff_le_one s

theorem wrapped_pos {s s' : Scr} {k : Nat} (h : s.Wrapped k s') (hk : 0 < k) :
    s.top = 0 ∧ s.wrap = true := by
  cases h with
  | col x => exact absurd hk (Nat.lt_irrefl 0)
  | feed hw x => exact ⟨((lineDownOff_pos_iff s).1 hk).2.1, hw⟩

end Lemmas

/-- `Scr.putStart` is the state `Scr.putPre` of the decomposition `put_eq`: the state in which `Scr.put`
    writes the character, so `Scr.putOff` talks about the scrolls `Scr.put` really performs. -/
theorem putStart_spec (s : Scr) (w0 : Nat) : s.putStart w0 = Scr.putPre s (effW s w0) :=
  Scr.putStart_eq s w0

/-! `putEarly`, `putLate`, `putOff_eq`: the counts of `Proofs/Put.lean` (`Scr.earlyOff`,
`Scr.lateOff`, `Scr.putOff_eq`) at the width really used. -/

/-- rows announced by the early wrap of `Scr.put` -/
def putEarly (s : Scr) (w0 : Nat) : Nat :=
  if s.cx + effW s w0 > s.w ∧ s.wrap = true then ({ s with cx := 0 } : Scr).lineDownOff else 0

def putLate (pol : WidePolicy) (s : Scr) (w0 : Nat) : Nat :=
  Scr.lateOff (s.putStart w0) (Scr.putX pol (s.putStart w0) (effW s w0))

theorem putEarly_eq (s : Scr) (w0 : Nat) : putEarly s w0 = s.earlyOff (Scr.effW s w0) := rfl

theorem putOff_eq (pol : WidePolicy) (s : Scr) (w0 : Nat) :
    s.putOff pol w0 = putEarly s w0 + putLate pol s w0 := Scr.putOff_eq pol s w0

/-- **A text write announces at most two rows** (one per wrap; 2 is attained:
    `ScrollExamples`, a double-width character on a screen 2 columns wide). -/
theorem putOff_le_two (pol : WidePolicy) (s : Scr) (w0 : Nat) : s.putOff pol w0 ≤ 2 := by
  have h1 : putEarly s w0 ≤ 1 := wrapped_le_one (s.putPre_wrapped (effW s w0))
  have h2 : putLate pol s w0 ≤ 1 := wrapped_le_one (Scr.putFinish_wrapped _ _)
  rw [putOff_eq]; omega

/-- **A text write announces something only with autowrap on and the top margin on
    row 0.** No invariant needed. -/
theorem putOff_pos_imp (pol : WidePolicy) (s : Scr) (w0 : Nat) (h : 0 < s.putOff pol w0) :
    s.top = 0 ∧ s.wrap = true := by
  rw [putOff_eq] at h
  by_cases he : 0 < putEarly s w0
  · exact wrapped_pos (s.putPre_wrapped (effW s w0)) he
  · have f := (s.putPre_wrapped (effW s w0)).shift
    have hl : 0 < Scr.lateOff (Scr.putPre s (effW s w0)) (Scr.putX pol (Scr.putPre s (effW s w0)) (effW s w0)) := by
      show 0 < putLate pol s w0; omega
    obtain ⟨a, b⟩ := wrapped_pos (Scr.putFinish_wrapped _ _) hl
    exact ⟨f.top ▸ a, f.wrap ▸ b⟩

/-- text: `Scr.putOff` rows leave, the row the character is written in apart; the buffer need
    only have `h` rows -/
theorem lost_put (pol : WidePolicy) (s : Scr) (text : Bytes) (w0 : Nat) (hg : s.grid.length = s.h) :
    (∀ y, y < s.top ∨ s.bot < y → y ≠ (s.putStart w0).cy → (s.put pol text w0).grid[y]? = s.grid[y]?) ∧
    (s.top = 0 → ∀ y, s.putOff pol w0 ≤ y → y ≤ s.bot → y ≠ (s.putStart w0).cy + putEarly s w0 →
      (s.put pol text w0).grid[y - s.putOff pol w0]? = s.grid[y]?) := by
  exact lost_putSteps pol s text w0 hg

/-- **Text: the counted rows are exactly the rows that leave.** Top margin on row 0,
    `n := s.putOff pol w0` rows announced (`n ≤ 2`: early wrap and late wrap), `c` the row the
    character is written in, `e` the part of `n` announced by the early wrap:
    * every old row `y` of the scroll region with `n ≤ y` is row `y - n` afterwards — except the
      row `c + e` that receives the character — so only the first `n` rows leave;
    * every row below the region other than the written one is unchanged. -/
theorem put_transcript_rows (pol : WidePolicy) (s : Scr) (text : Bytes) (w0 : Nat)
    (hinv : s.inv = true) (ht : s.top = 0) :
    (∀ y, s.putOff pol w0 ≤ y → y ≤ s.bot → y ≠ (s.putStart w0).cy + putEarly s w0 →
      (s.put pol text w0).grid[y - s.putOff pol w0]? = s.grid[y]?) ∧
    (∀ y, s.bot < y → y ≠ (s.putStart w0).cy → (s.put pol text w0).grid[y]? = s.grid[y]?) :=
  have h := lost_put pol s text w0 (inv_shaped hinv).1
  ⟨h.2 ht, fun y hy => h.1 y (.inr hy)⟩

/-- **Text without announcement: no other row moves or changes.** -/
theorem put_off_zero_rows (pol : WidePolicy) (s : Scr) (text : Bytes) (w0 : Nat)
    (hinv : s.inv = true) (ht : s.top = 0) (h0 : s.putOff pol w0 = 0) :
    ∀ y, y ≠ (s.putStart w0).cy → (s.put pol text w0).grid[y]? = s.grid[y]? := by
  intro y hy
  obtain ⟨a, b⟩ := lost_put pol s text w0 (inv_shaped hinv).1
  have he : putEarly s w0 = 0 := by rw [putOff_eq] at h0; omega
  by_cases hb : y ≤ s.bot
  · have := b ht y (by omega) hb (by omega)
    rwa [h0] at this
  · exact a y (.inr (by omega)) hy

/-- the rows that stay when one row is announced (`n = 1`: only the early or only the late wrap
    scrolls): every other row of the region moves up by one -/
theorem put_off_one_rows (pol : WidePolicy) (s : Scr) (text : Bytes) (w0 : Nat)
    (hinv : s.inv = true) (ht : s.top = 0) (h1 : s.putOff pol w0 = 1) :
    ∀ y, 1 ≤ y → y ≤ s.bot → y ≠ (s.putStart w0).cy + putEarly s w0 →
      (s.put pol text w0).grid[y - 1]? = s.grid[y]? :=
  fun y a b c => h1 ▸ (put_transcript_rows pol s text w0 hinv ht).1 y (by omega) b c

/-- **Text without announcement, any margins: the top row is not lost.** If nothing is
    announced and the character is not written in row 0, row 0 is what it was. -/
theorem put_row0_kept (pol : WidePolicy) (s : Scr) (text : Bytes) (w0 : Nat)
    (hinv : s.inv = true) (h0 : s.putOff pol w0 = 0) (hc : (s.putStart w0).cy ≠ 0) :
    (s.put pol text w0).grid[0]? = s.grid[0]? := by
  obtain ⟨a, b⟩ := lost_put pol s text w0 (inv_shaped hinv).1
  have he : putEarly s w0 = 0 := by rw [putOff_eq] at h0; omega
  by_cases ht : s.top = 0
  · have := b ht 0 (by omega) (Nat.zero_le _) (by omega)
    rwa [Nat.zero_sub] at this
  · exact a 0 (.inl (by omega)) (fun h => hc h.symm)

/-! ### the tokens -/

namespace Lemmas

/-! The tokens that can move rows of the main screen upwards, with the main buffer active: what
becomes of `main`, and the count announced. With `onAlt` the literal `false`, `t.scr` and
`(t.setScr s).main` compute. -/

theorem apply_main_text (cw : Nat → Nat) (t : Term) (h : t.onAlt = false) (st : Bytes) (cp : Nat) :
    (t.apply cw (.text st cp)).1.main = t.main.put t.pol st (cw cp) ∧
    t.scrollOff cw (.text st cp) = t.main.putOff t.pol (cw cp) := by
  obtain ⟨pol, main, alt, onAlt, vflags, vints, vstrs, kmain, kalt⟩ := t
  subst h
  exact ⟨rfl, rfl⟩

theorem apply_main_lineDown (cw : Nat → Nat) (t : Term) (h : t.onAlt = false) {tok : Tok}
    (htok : tok = .ctl 10 ∨ tok = .ctl 12 ∨ tok = .esc [] 0x44) : ∃ x,
    (t.apply cw tok).1.main = ({ t.main with cx := x } : Scr).lineDown ∧
    t.scrollOff cw tok = ({ t.main with cx := x } : Scr).lineDownOff := by
  obtain ⟨pol, main, alt, onAlt, vflags, vints, vstrs, kmain, kalt⟩ := t
  subst h
  rcases htok with rfl | rfl | rfl
  · exact ⟨0, rfl, rfl⟩
  · exact ⟨main.cx, rfl, rfl⟩
  · exact ⟨main.cx, rfl, rfl⟩

theorem apply_main_su (cw : Nat → Nat) (t : Term) (h : t.onAlt = false) (ps : List Int) :
    (t.apply cw (.csi 0 ps true 0x53)).1.main = t.main.scroll t.main.top t.main.bot (-(p0 ps 1)) ∧
    t.scrollOff cw (.csi 0 ps true 0x53) = t.main.scrollOff t.main.top t.main.bot (-(p0 ps 1)) := by
  obtain ⟨pol, main, alt, onAlt, vflags, vints, vstrs, kmain, kalt⟩ := t
  subst h
  exact ⟨rfl, rfl⟩

theorem apply_main_dl (cw : Nat → Nat) (t : Term) (h : t.onAlt = false) (ps : List Int) :
    (t.apply cw (.csi 0 ps true 0x4d)).1.main =
      (if t.main.inRegion then t.main.scroll t.main.cy t.main.bot (-(p0 ps 1)) else t.main) ∧
    t.scrollOff cw (.csi 0 ps true 0x4d) =
      (if t.main.inRegion then t.main.scrollOff t.main.cy t.main.bot (-(p0 ps 1)) else 0) := by
  obtain ⟨pol, main, alt, onAlt, vflags, vints, vstrs, kmain, kalt⟩ := t
  subst h
  refine ⟨?_, rfl⟩
  show (if main.inRegion = true then _ else _ : Term × List Ev).1.main = _
  split <;> rfl

end Lemmas

/-- **Nothing is announced while the alternate screen is active** (it keeps no
    scrollback), for every token. -/
theorem scrollOff_alt (cw : Nat → Nat) (t : Term) (tok : Tok) (h : t.onAlt = true) :
    t.scrollOff cw tok = 0 := by
  cases tok <;> simp [Term.scrollOff, h]

theorem applyS_state (cw : Nat → Nat) (t : Term) (tok : Tok) :
    (t.applyS cw tok).1 = (t.apply cw tok).1 := rfl

/-- the events of `Term.applyS`: the announcement, if any, FIRST — before the `RegionChanged` /
    `CursorMoved` of the token, as in the code, where the rows are announced before they are
    overwritten -/
theorem applyS_events (cw : Nat → Nat) (t : Term) (tok : Tok) :
    (t.applyS cw tok).2 =
      (if t.scrollOff cw tok = 0 then [] else [Ev.scrollLines (t.scrollOff cw tok)]) ++
        (t.apply cw tok).2 := rfl

/-- **Exactly the counted rows are announced.** `ScrollLines n` is among the events of a
    token iff `n` is the (non-zero) count `Term.scrollOff` of that token in that state: one
    announcement at most, none when the count is 0, never a different number. -/
theorem scrollLines_announced_iff (cw : Nat → Nat) (t : Term) (tok : Tok) (n : Nat) :
    Ev.scrollLines n ∈ (t.applyS cw tok).2 ↔ (n = t.scrollOff cw tok ∧ 0 < n) := by
  rw [applyS_events, List.mem_append]
  have hno : Ev.scrollLines n ∉ (t.apply cw tok).2 :=
    fun h => apply_emits_no_scrollLines cw t tok _ h n rfl
  constructor
  · rintro (h | h)
    · split at h
      · cases h
      · simp only [List.mem_singleton, Ev.scrollLines.injEq] at h
        omega
    · exact absurd h hno
  · rintro ⟨h1, h2⟩
    left
    rw [if_neg (by omega), h1]
    simp

/-- **LF, FF, IND, SU on the main buffer: the announced rows are exactly the rows that
    leave.** Top margin on row 0; `n` rows announced; the `n` announced rows followed by the
    region after the token are the region before the token followed by `n` blank rows. (SU takes
    a count `≥ 0`, which is all the parser produces; a negative count would scroll down.) -/
theorem scroll_tokens_transcript (cw : Nat → Nat) (t : Term) (tok : Tok)
    (htok : tok = .ctl 10 ∨ tok = .ctl 12 ∨ tok = .esc [] 0x44 ∨
      ∃ ps, tok = .csi 0 ps true 0x53 ∧ 0 ≤ p0 ps 1)
    (hm : t.onAlt = false) (hinv : t.main.inv = true) (ht : t.main.top = 0) :
    t.main.grid.take (t.scrollOff cw tok) ++ (t.apply cw tok).1.main.grid.take (t.main.bot + 1) =
      t.main.grid.take (t.main.bot + 1) ++
        List.replicate (t.scrollOff cw tok) (blankRow t.main.w t.main.sty) := by
  have hg := (inv_shaped hinv).1
  rcases or_assoc.2 (htok.imp_right or_assoc.2) with h | ⟨ps, rfl, hps⟩
  · obtain ⟨x, a, b⟩ := apply_main_lineDown cw t hm h
    rw [a, b]
    exact lineDown_transcript ({ t.main with cx := x } : Scr) hg ht
  · rw [(apply_main_su cw t hm ps).1, (apply_main_su cw t hm ps).2, ht]
    exact scroll_transcript_any t.main t.main.bot _ hg (by omega)

/-- **DL with the cursor on row 0** (top margin on row 0): as `scroll_tokens_transcript`. -/
theorem dl_transcript (cw : Nat → Nat) (t : Term) (ps : List Int) (hps : 0 ≤ p0 ps 1)
    (hm : t.onAlt = false) (hinv : t.main.inv = true) (ht : t.main.top = 0) (hcy : t.main.cy = 0) :
    t.main.grid.take (t.scrollOff cw (.csi 0 ps true 0x4d)) ++
        (t.apply cw (.csi 0 ps true 0x4d)).1.main.grid.take (t.main.bot + 1) =
      t.main.grid.take (t.main.bot + 1) ++
        List.replicate (t.scrollOff cw (.csi 0 ps true 0x4d)) (blankRow t.main.w t.main.sty) := by
  have hg := (inv_shaped hinv).1
  obtain ⟨a, b⟩ := apply_main_dl cw t hm ps
  have hr : t.main.inRegion = true := by simp [Scr.inRegion, ht, hcy]
  rw [a, b, if_pos hr, if_pos hr, hcy]
  exact scroll_transcript_any t.main t.main.bot _ hg (by omega)

/-- **The upward-scrolling tokens without announcement lose nothing through the top.**
    LF, FF, IND, SU, DL on the main buffer, any margins, any cursor position: when nothing is
    announced, row 0 of the main screen is what it was. (Restricted to the tokens that can move
    rows upwards; RI, IL, SD move rows away from the top, and every other non-text token changes
    cells in place only — `changes_announced`.) -/
theorem scroll_tokens_silent_row0 (cw : Nat → Nat) (t : Term) (tok : Tok)
    (htok : tok = .ctl 10 ∨ tok = .ctl 12 ∨ tok = .esc [] 0x44 ∨
      ∃ ps, (tok = .csi 0 ps true 0x53 ∨ tok = .csi 0 ps true 0x4d) ∧ 0 ≤ p0 ps 1)
    (hm : t.onAlt = false) (hinv : t.main.inv = true) (h0 : t.scrollOff cw tok = 0) :
    (t.apply cw tok).1.main.grid[0]? = t.main.grid[0]? := by
  have hg := (inv_shaped hinv).1
  rcases or_assoc.2 (htok.imp_right or_assoc.2) with h | ⟨ps, rfl | rfl, hps⟩
  · obtain ⟨x, a, b⟩ := apply_main_lineDown cw t hm h
    rw [a]
    exact ((b ▸ h0) ▸ lost_lineDown ({ t.main with cx := x } : Scr) hg).row0
  · rw [(apply_main_su cw t hm ps).1]
    exact (((apply_main_su cw t hm ps).2 ▸ h0) ▸ lost_scroll t.main _ _ _ hg (by omega)).row0
  · obtain ⟨a, b⟩ := apply_main_dl cw t hm ps
    rw [a]; rw [b] at h0
    split
    · rw [if_pos ‹_›] at h0
      exact (h0 ▸ lost_scroll t.main _ _ _ hg (by omega)).row0
    · rfl

/-- **Text on the main buffer.** `put_transcript_rows` for the text token. -/
theorem text_transcript_rows (cw : Nat → Nat) (t : Term) (st : Bytes) (cp : Nat)
    (hm : t.onAlt = false) (hinv : t.main.inv = true) (ht : t.main.top = 0) :
    ∀ y, t.scrollOff cw (.text st cp) ≤ y → y ≤ t.main.bot →
      y ≠ (t.main.putStart (cw cp)).cy + putEarly t.main (cw cp) →
      (t.apply cw (.text st cp)).1.main.grid[y - t.scrollOff cw (.text st cp)]? = t.main.grid[y]? := by
  obtain ⟨e1, e2⟩ := apply_main_text cw t hm st cp
  rw [e1, e2]
  exact (lost_put t.pol t.main st (cw cp) (inv_shaped hinv).1).2 ht

/-- **While the alternate screen is active no row of the main screen changes**, so
    there is nothing to announce (`scrollOff_alt`). -/
theorem alt_keeps_main (cw : Nat → Nat) (t : Term) (tok : Tok) (ha : t.onAlt = true) :
    (t.apply cw tok).1.main.grid = t.main.grid := by
  cases hs : C17.isSwitch tok
  · rw [((C17.Lemmas.oa_apply cw t tok hs).whenAlt ha).1]
  · obtain ⟨v, ps, e⟩ := C17.Lemmas.isSwitch_apply cw t hs
    rw [e, (C17.Lemmas.wo_decModes t v ps).main]

/-! ### non-vacuity -/

namespace ScrollExamples

def cw1 : Nat → Nat := fun _ => 1

/-- 3 × 3 main screen, rows `a`, `b`, `c`, cursor on the bottom row, autowrap on -/
def m3 : Scr :=
  { Scr.init 3 3 with
    grid := [[⟨.ch [0x61] 1, Style.default⟩, blank Style.default, blank Style.default],
             [⟨.ch [0x62] 1, Style.default⟩, blank Style.default, blank Style.default],
             [⟨.ch [0x63] 1, Style.default⟩, blank Style.default, blank Style.default]],
    cy := 2, wrap := true }

def t3 : Term := { Term.init .blank 3 3 with main := m3 }

-- the hypotheses of the token theorems hold
example : t3.onAlt = false ∧ t3.main.inv = true ∧ t3.main.top = 0 ∧ t3.main.grid.length = t3.main.h := by
  decide

-- LF on the bottom row of the main screen: one row announced, first event, row `a` is the
-- announced row and rows `b`, `c` move up
example : t3.scrollOff cw1 (.ctl 10) = 1 ∧
    (t3.applyS cw1 (.ctl 10)).2 = [.scrollLines 1, .cursor 0 2] ∧
    (t3.apply cw1 (.ctl 10)).1.main.grid.take 2 = t3.main.grid.drop 1 := by decide

-- LF elsewhere: nothing announced, nothing lost
example : ({ t3 with main := { m3 with cy := 1 } } : Term).scrollOff cw1 (.ctl 10) = 0 ∧
    (({ t3 with main := { m3 with cy := 1 } } : Term).applyS cw1 (.ctl 10)).2 = [.cursor 0 2] := by
  decide

-- the same LF while the alternate screen is active: nothing announced
example : ({ t3 with onAlt := true, alt := m3 } : Term).scrollOff cw1 (.ctl 10) = 0 ∧
    (({ t3 with onAlt := true, alt := m3 } : Term).applyS cw1 (.ctl 10)).2 = [.cursor 0 2] := by
  decide

-- SU 5 on 3 rows: 3 rows announced (clamped to the region); SU 0: nothing; DL 2 on row 0: 2 rows;
-- DL on row 2, IL, SD, RI: nothing
example : t3.scrollOff cw1 (.csi 0 [5] true 0x53) = 3 ∧
    t3.scrollOff cw1 (.csi 0 [0] true 0x53) = 0 ∧
    ({ t3 with main := { m3 with cy := 0 } } : Term).scrollOff cw1 (.csi 0 [2] true 0x4d) = 2 ∧
    t3.scrollOff cw1 (.csi 0 [2] true 0x4d) = 0 ∧
    t3.scrollOff cw1 (.csi 0 [2] true 0x4c) = 0 ∧
    t3.scrollOff cw1 (.csi 0 [2] true 0x54) = 0 ∧
    t3.scrollOff cw1 (.esc [] 0x4d) = 0 := by decide

-- a top margin below row 0: LF on the bottom margin scrolls the region but announces nothing, and
-- row 0 stays (`scroll_tokens_silent_row0`)
example :
    let t : Term := { t3 with main := { m3 with top := 1 } }
    t.scrollOff cw1 (.ctl 10) = 0 ∧ (t.apply cw1 (.ctl 10)).1.main.grid ≠ t.main.grid ∧
    (t.apply cw1 (.ctl 10)).1.main.grid[0]? = t.main.grid[0]? := by decide

-- text at the right edge of the bottom row: the late wrap announces one row
example : ({ m3 with cx := 2 } : Scr).putOff .blank 1 = 1 ∧
    putEarly ({ m3 with cx := 2 } : Scr) 1 = 0 ∧ putLate .blank ({ m3 with cx := 2 } : Scr) 1 = 1 ∧
    (Scr.put .blank ({ m3 with cx := 2 } : Scr) [0x78] 1).grid[0]? = m3.grid[1]? := by decide

-- `putOff = 2` is possible: a double-width character on the last column of the bottom row of a
-- screen 2 columns wide wraps before the write (row `a` leaves) and again after it (row `b` leaves)
def m2 : Scr :=
  { Scr.init 2 3 with
    grid := [[⟨.ch [0x61] 1, Style.default⟩, blank Style.default],
             [⟨.ch [0x62] 1, Style.default⟩, blank Style.default],
             [⟨.ch [0x63] 1, Style.default⟩, blank Style.default]],
    cx := 1, cy := 2, wrap := true }

example : m2.inv = true ∧ m2.top = 0 ∧ m2.putOff .blank 2 = 2 ∧
    putEarly m2 2 = 1 ∧ putLate .blank m2 2 = 1 ∧ (m2.putStart 2).cy = 2 ∧
    (Scr.put .blank m2 [0xE5, 0xAD, 0x97] 2).grid =
      [[⟨.ch [0x63] 1, Style.default⟩, blank Style.default],
       [⟨.ch [0xE5, 0xAD, 0x97] 2, Style.default⟩, ⟨.cont, Style.default⟩],
       blankRow 2 Style.default] := by decide +kernel

-- the hypothesis `0 ≤ p0 ps 1` of the SU / DL theorems cannot be dropped in the MODEL (the parser
-- never produces a negative parameter): a negative count scrolls down, row 0 becomes blank and
-- nothing is announced
example : t3.scrollOff cw1 (.csi 0 [-1] true 0x53) = 0 ∧
    (t3.apply cw1 (.csi 0 [-1] true 0x53)).1.main.grid[0]? = some (blankRow 3 Style.default) := by
  decide

end ScrollExamples

/-! ## 6. Non-vacuity: concrete states, tokens and runs -/

namespace Examples

private abbrev d : Style := Style.default
private abbrev zi : Bytes := [0xE5, 0xAD, 0x97]     -- a double-width character
/-- a width function: CJK code points are double width -/
def cw2 : Nat → Nat := fun cp => if cp ≥ 0x1100 then 2 else 1

/-- 4 columns × 3 rows, scroll region rows 0–1, a double-width character in row 0 columns 1–2,
    cursor on the last column of the bottom margin row, autowrap on -/
def exMain : Scr :=
  { w := 4, h := 3,
    grid := [[blank d, ⟨.ch zi 2, d⟩, ⟨.cont, d⟩, blank d],
             [⟨.ch [0x62] 1, d⟩, blank d, blank d, blank d],
             [⟨.ch [0x61] 1, d⟩, blank d, blank d, blank d]],
    cx := 3, cy := 1, sx := 0, sy := 0, top := 0, bot := 1, wrap := true, sty := d }

/-- span policy, main screen active, blank alternate screen of the same size -/
def exT : Term := { pol := .keep, main := exMain, alt := Scr.init 4 3 }

def wide : Tok := .text zi 0x5b57
def switchAlt : Tok := .csi 0x3f [1049] true 0x68
def switchMain : Tok := .csi 0x3f [1049] true 0x6c

-- the hypotheses of `changes_announced` / `shadow_sync`
example : exT.main.inv = true ∧ exT.alt.inv = true ∧
    exT.main.w = exT.alt.w ∧ exT.main.h = exT.alt.h := by decide

-- a double-width character at the last column of the bottom margin: early wrap, the region
-- scrolls, the screen really changes, and the repainted copy is the new screen
example : (Term.apply cw2 exT wide).1.scr.grid ≠ exT.scr.grid ∧
    repaint exT.scr.grid (Term.apply cw2 exT wide).1.scr.grid (exT.damage wide) =
      (Term.apply cw2 exT wide).1.scr.grid := by decide

-- the hypothesis of `changes_announced` is satisfiable: `CSI 2 K` in row 1 announces nothing of
-- rows 0 and 2, and changes row 1
example : announced exT (.csi 0 [2] true 0x4b) 1 0 = false ∧
    announced exT (.csi 0 [2] true 0x4b) 0 2 = false ∧
    announced exT (.csi 0 [2] true 0x4b) 0 1 = true ∧
    (Term.apply cw2 exT (.csi 0 [2] true 0x4b)).1.scr.row 1 ≠ exT.scr.row 1 := by decide

-- span policy with the cursor on the continuation cell (row 0, column 2): `Row.putKeep`
example :
    let t1 := (Term.apply cw2 exT (.csi 0 [1, 3] true 0x48)).1
    contAt (t1.scr.row t1.scr.cy) t1.scr.cx = true ∧
    (Term.apply cw2 t1 (.text [0x78] 0x78)).1.scr.row 0 =
      [blank d, ⟨.ch zi 2, d⟩, ⟨.cont, d⟩, ⟨.ch [0x78] 1, d⟩] ∧
    repaint t1.scr.grid (Term.apply cw2 t1 (.text [0x78] 0x78)).1.scr.grid
        (t1.damage (.text [0x78] 0x78)) = (Term.apply cw2 t1 (.text [0x78] 0x78)).1.scr.grid := by
  decide +kernel

-- a scroll: LF on the bottom margin moves row 1 to row 0; row 2 (outside the region) is neither
-- announced nor changed
example : (Term.apply cw2 exT (.ctl 10)).1.scr.row 0 = exT.scr.row 1 ∧
    announced exT (.ctl 10) 0 2 = false ∧
    repaint exT.scr.grid (Term.apply cw2 exT (.ctl 10)).1.scr.grid (exT.damage (.ctl 10)) =
      (Term.apply cw2 exT (.ctl 10)).1.scr.grid := by decide

-- a buffer switch: the other buffer is active afterwards, every cell is announced
example : (Term.apply cw2 exT switchAlt).1.onAlt ≠ exT.onAlt ∧
    (Term.apply cw2 exT switchAlt).1.scr.grid ≠ exT.scr.grid ∧
    announced exT switchAlt 3 2 = true ∧
    repaint exT.scr.grid (Term.apply cw2 exT switchAlt).1.scr.grid (exT.damage switchAlt) =
      (Term.apply cw2 exT switchAlt).1.scr.grid := by decide

/-- a run with a wide character, scrolls, a switch to the alternate screen and back -/
def exRun : List Tok :=
  [wide, .ctl 10, .csi 0 [1, 3] true 0x48, .text [0x78] 0x78, switchAlt, wide, .csi 0 [1] true 0x4c,
   switchMain, .esc [] 0x4d, .csi 0 [] true 0x4a]

-- the hypothesis `InvAlong` of `shadow_sync_run` holds along it (span policy)
example : InvAlong cw2 exT exRun := by
  simp only [InvAlong, exRun]
  decide +kernel

-- and the conclusion, computed: the copy is the final screen, which differs from the initial one
example : shadowAfter cw2 exT exT.scr.grid exRun = (stateAfter cw2 exT exRun).scr.grid ∧
    (stateAfter cw2 exT exRun).scr.grid ≠ exT.scr.grid := by decide +kernel

-- byte level (grid policy): `ESC [ ? 1049 h`, `a`, LF
example :
    toksOf [0x1b, 0x5b, 0x3f, 0x31, 0x30, 0x34, 0x39, 0x68, 0x61, 0x0a] =
      [.csi 0x3f [1049] true 0x68, .text [0x61] 0x61, .ctl 10] := by decide

-- notifications: the wide character moves the cursor from (3,1) to (2,1); the switch announces
-- the alternate screen's cursor (0,0) and its rendition; `?25l` clears view flag 1
example : lastCursor (Term.apply cw2 exT wide).2 (3, 1) = (2, 1) ∧
    lastCursor (Term.apply cw2 exT switchAlt).2 (3, 1) = (0, 0) ∧
    lastStyle (Term.apply cw2
      { exT with alt := { Scr.init 4 3 with sty := ⟨0x101#32, colDefault, colDefault⟩ } }
      switchAlt).2 d = ⟨0x101#32, colDefault, colDefault⟩ ∧
    lastVFlag 1 (Term.apply cw2 { exT with vflags := [false, true, false, false, false, false] }
      (.csi 0x3f [25] true 0x6c)).2 true = false := by decide

-- `CSI s` notifies nothing and moves nothing the frontend was told; `?7h` likewise
example : (Term.apply cw2 exT (.csi 0 [] true 0x73)).2 = [] ∧
    (Term.apply cw2 exT (.csi 0x3f [7] true 0x68)).2 = [] ∧
    (Term.apply cw2 exT (.csi 0 [] true 0x73)).1.scr.sx = 3 := by decide

/-- a width function with one triple-width character -/
def cw3 (cp : Nat) : Nat := if cp = 0x57 then 3 else 1

/-- `WWW  CUP(1,3) x  CUP(1,1) DCH 4  CUP(1,6) W  CUP(1,5) ECH 1  CUP(1,8) x` (the input of
    Props/C02 `keep_policy_width3_keeps_geo`) -/
def width3Input : Bytes :=
  [87, 87, 87, 27, 91, 49, 59, 51, 72, 120, 27, 91, 49, 59, 49, 72, 27, 91, 52, 80, 27, 91, 49, 59,
   54, 72, 87, 27, 91, 49, 59, 53, 72, 27, 91, 49, 88, 27, 91, 49, 59, 56, 72, 120]

/-- **With a width-3 character the span policy keeps the invariant along the run** and the
    shadow copy is exact: on a 9 × 1 span-buffer terminal this input (text inserted after a kept
    character of width 3, where an insertion that took kept characters to be 2 cells wide would
    leave a row of 8 cells) keeps `Scr.inv` in every state of the run, so the hypothesis
    `InvAlong` of `shadow_sync_run` holds and the copy equals the final screen. -/
theorem keep_width3_invAlong_example :
    shadowAfter cw3 (Term.init .keep 9 1) (Term.init .keep 9 1).scr.grid (toksOf width3Input) =
      (run cw3 (Term.init .keep 9 1) width3Input).1.scr.grid ∧
    InvAlong cw3 (Term.init .keep 9 1) (toksOf width3Input) := by
  have ht : toksOf width3Input =
      [.text [87] 87, .text [87] 87, .text [87] 87, .csi 0 [1, 3] true 0x48, .text [120] 120,
       .csi 0 [1, 1] true 0x48, .csi 0 [4] true 0x50, .csi 0 [1, 6] true 0x48, .text [87] 87,
       .csi 0 [1, 5] true 0x48, .csi 0 [1] true 0x58, .csi 0 [1, 8] true 0x48, .text [120] 120] := by
    decide
  have hinv : InvAlong cw3 (Term.init .keep 9 1) (toksOf width3Input) := by
    rw [ht]
    simp only [InvAlong]
    decide
  exact ⟨shadow_sync_stream cw3 _ width3Input ⟨rfl, rfl⟩ hinv (by decide) (by decide), hinv⟩

end Examples

#print axioms TM.C10.changes_announced
#print axioms TM.C10.switch_only_1049
#print axioms TM.C10.switch_announces_everything
#print axioms TM.C10.shadow_sync
#print axioms TM.C10.shadow_sync_run
#print axioms TM.C10.shadow_sync_every_step
#print axioms TM.C10.shadow_sync_run_blank
#print axioms TM.C10.shadow_sync_stream
#print axioms TM.C10.shadow_sync_stream_blank
#print axioms TM.C10.cursor_last
#print axioms TM.C10.style_last
#print axioms TM.C10.view_last_flag
#print axioms TM.C10.view_last_int
#print axioms TM.C10.view_last_str
#print axioms TM.C10.notifications_last_stream
#print axioms TM.C10.resize_last
#print axioms TM.C10.apply_emits_no_scrollLines
#print axioms TM.C10.scrollOff_le
#print axioms TM.C10.scrollOff_pos_iff
#print axioms TM.C10.scroll_transcript
#print axioms TM.C10.scroll_row0_kept
#print axioms TM.C10.scroll_above_kept
#print axioms TM.C10.scroll_down_rows
#print axioms TM.C10.lineDownOff_le_one
#print axioms TM.C10.lineDownOff_pos_iff
#print axioms TM.C10.lineDown_transcript
#print axioms TM.C10.lineDown_row0_kept
#print axioms TM.C10.putStart_spec
#print axioms TM.C10.putOff_le_two
#print axioms TM.C10.putOff_pos_imp
#print axioms TM.C10.put_transcript_rows
#print axioms TM.C10.put_off_zero_rows
#print axioms TM.C10.put_off_one_rows
#print axioms TM.C10.put_row0_kept
#print axioms TM.C10.scrollOff_alt
#print axioms TM.C10.alt_keeps_main
#print axioms TM.C10.scrollLines_announced_iff
#print axioms TM.C10.scroll_tokens_transcript
#print axioms TM.C10.dl_transcript
#print axioms TM.C10.scroll_tokens_silent_row0
#print axioms TM.C10.text_transcript_rows

end TM.C10
