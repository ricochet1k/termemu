import TM.SpanLine
import Proofs.CellsK
/-!
# C02Span — the run-list operations of the span buffer refine the cell-level operations

Property C02: "After every processed input and every Resize, each row of the active and the
inactive buffer consists of styled runs of positive width that sum to exactly the screen width,
and Line(y), StyledLine(0,W,y) and ANSILine(y) describe the same text."

`TM/SpanLine.lean` transcribes the row-level code of the span buffer (`splitSpan`,
`replaceRangeSpans`, `truncateLine`, `resizeLine`, `writeSpanAt`, `deleteChars`, `eraseRegion`,
`Line`, `StyledLine`); `TM/Screen.lean` is the cell-level model.  The theorems below say that the
run-list operations keep the row invariant and compute, under the abstraction map `lineCells`,
exactly the cell-level operations of `TM.Screen` — for every row, column, count, run structure and
width function `cw`.

IMPORTANT (finding): the invariant `spanOK`/`lineOK` of `TM/SpanLine.lean` is NOT preserved by the
operations when a stored text contains an invalid UTF-8 sequence whose first byte only tokenises
because of the bytes after it (`[0xE4, 0x41]`: two characters `[0xE4]`, `[0x41]`; the text `[0xE4]`
alone is an incomplete character and tokenises to nothing).  See `lineOK_not_preserved` below.
The theorems therefore use the slightly stronger, still decidable, invariant `spanWF`/`lineWF`:
every character of a stored text also tokenises on its own.  `spanWF → spanOK`, `lineWF → lineOK`.
Blank runs (rune `0x20`) are well formed only when `cw 0x20 ≤ 1`; that is a hypothesis (`hb`) of the
theorems that have to show that a result is well formed.

Method: a run is viewed as a list of characters `(bytes, width)` (`spanCl`, `spanK`; the characters
of a text are the subject of `Proofs/Clusters`), a row as the concatenation (`lineK`), its cells are
`cellsK` (`Proofs/CellsK`); a column of such a row is a character boundary (the row is `P ++ Q`) or
lies strictly inside a character (`P ++ k :: Q`), and `contAt` / `headOf` / `endOf` / `takeB` /
`dropB` are evaluated on the two shapes (`at_boundary`, `at_inside`).  That gives the cells of the
splice (`splice_spec`: left cut, insert, right cut).  The cells of a row of characters form a
well-formed row (`rowWF_cellsK`), so how the two cuts relate to `blankStraddlers` and to the row
editors of `TM.Screen` is taken from the cell-level theory of `Proofs/RowIns`;
`replaceRangeWide_spec` states the splice in those terms and every caller goes through it.

The model's `replaceRangeSpans` is one long function (locate, clamp, fast paths, boundary splits).
Its parts are stated again here under names (`leftPart`, `rightPart`, `midOf`, `rrsGen`, `rrsBody`)
and `rrs_unfold` / `rrs_unfold_over` show by unfolding that the model function is `rrsBody` of the
located runs; the lemmas are about the named parts.  `Props/C02SpanStyled.lean` (`styledRun`,
`tailOf`), `Props/C02SpanScreen.lean` (`preS`, `coreS`, `postS`) and `Props/C03SpanWrite.lean`
(`hmove`, `vfin`, `wsNone`) treat `styledLineAux`, `SScr.put`, `moveCursor`, `writeString` the same
way.

`StyledLine(x, w, y)` is in `Props/C02SpanStyled.lean`.
Some statements stand for themselves and are used by nothing else here: `splitSpan_cells`,
`replaceRangeWide_cells`, `replaceRangeWide_cells_keep`, `replaceRangeWide_wf`,
`replaceRangeWide_clamp`, `length_lineCells_spanOK`, `writeSpanLine_false_announce`,
`lineText_refines`.  No theorem speaks of `findSpanAtX`.  The audit at the end also lists
theorems of `Proofs/Clusters` and `Proofs/CellsK` (`straddle`): shared modules carry no audit.
-/
namespace TM.C02Span

/-! ## runs as character lists, `splitSpan` -/

theorem spanWF_spanOK {cw : Nat → Nat} {sp : Span} (h : spanWF cw sp = true) : spanOK cw sp = true := by
  unfold spanWF at h; unfold spanOK
  cases ht : sp.text.isEmpty <;> simp_all [textWF]

theorem lineWF_lineOK {cw : Nat → Nat} {W : Nat} {l : SLine} (h : lineWF cw W l = true) :
    lineOK cw W l = true := by
  unfold lineWF at h; unfold lineOK
  simp only [Bool.and_eq_true, List.all_eq_true, decide_eq_true_eq] at h ⊢
  exact ⟨⟨fun x hx => spanWF_spanOK (h.1.1 x hx), h.1.2⟩, h.2⟩

/-- the characters of a run: a repeated rune is `width` one-cell characters -/
def spanCl (cw : Nat → Nat) (sp : Span) : List Cl :=
  if sp.text.isEmpty then List.replicate sp.width (encodeRune sp.rune, 1) else clusters cw sp.text

def spanK (cw : Nat → Nat) (sp : Span) : List K := (spanCl cw sp).map fun c => (c, sp.sty)

theorem spanCells_eq (cw : Nat → Nat) (sp : Span) : spanCells cw sp = cellsK (spanK cw sp) := by
  unfold spanCells spanK spanCl
  cases h : sp.text.isEmpty
  · simp only [Bool.false_eq_true, if_false, cellsK_map, textCells]
  · simp only [if_true, List.map_replicate, cellsK_replicate1]

/-- what the cell-level statements need of a run (it may have width 0) -/
def SpanG (cw : Nat → Nat) (sp : Span) : Prop :=
  sp.width = ws (spanCl cw sp) ∧ (∀ p ∈ spanCl cw sp, 1 ≤ p.2) ∧ (0 < sp.width → spanWF cw sp = true)

theorem spanWF_text {cw : Nat → Nat} {sp : Span} (h : spanWF cw sp = true) (ht : sp.text.isEmpty = false) :
    Toks cw (clusters cw sp.text) ∧ sp.text = flat (clusters cw sp.text) ∧
    ws (clusters cw sp.text) = sp.width := by
  unfold spanWF at h
  simp only [ht, Bool.false_eq_true, if_false, Bool.and_eq_true] at h
  exact textWF_iff.1 h.2

theorem SpanG.of_wf {cw : Nat → Nat} {sp : Span} (h : spanWF cw sp = true) : SpanG cw sp := by
  refine ⟨?_, ?_, fun _ => h⟩
  · unfold spanCl
    cases ht : sp.text.isEmpty
    · simp only [Bool.false_eq_true, if_false]; exact (spanWF_text h ht).2.2.symm
    · simp only [if_true, ws_replicate1]
  · unfold spanCl
    cases ht : sp.text.isEmpty
    · simp only [Bool.false_eq_true, if_false]; intro p hp; exact ((spanWF_text h ht).1.pos p hp).2
    · simp only [if_true]; intro p hp; rw [(List.mem_replicate.1 hp).2]; exact Nat.le_refl _

theorem spanWF_pos {cw : Nat → Nat} {sp : Span} (h : spanWF cw sp = true) : 0 < sp.width := by
  unfold spanWF at h; simp only [Bool.and_eq_true, decide_eq_true_eq] at h; exact h.1

theorem SpanG.posK {cw : Nat → Nat} {sp : Span} (h : SpanG cw sp) : PosK (spanK cw sp) :=
  posK_map _ h.2.1
theorem SpanG.wk {cw : Nat → Nat} {sp : Span} (h : SpanG cw sp) : wk (spanK cw sp) = sp.width := by
  unfold spanK; rw [wk_map]; exact h.1.symm

theorem SpanG.wf {cw : Nat → Nat} {sp : Span} (h : SpanG cw sp) (hw : 0 < sp.width) : spanWF cw sp = true :=
  h.2.2 hw

theorem SpanG.nil {cw : Nat → Nat} {sp : Span} (h : SpanG cw sp) (h0 : sp.width = 0) :
    spanK cw sp = [] := by
  unfold spanK; rw [ws_zero_nil h.2.1 (by rw [← h.1]; exact h0)]; rfl

theorem spanG_empty (cw : Nat → Nat) : SpanG cw Span.empty := by
  refine ⟨by simp [spanCl, Span.empty], by simp [spanCl, Span.empty], by simp [Span.empty]⟩

def sub (sp : Span) (cs : List Cl) : Span := { sp with text := flat cs, width := ws cs }

@[simp] theorem sub_sty (sp : Span) (cs : List Cl) : (sub sp cs).sty = sp.sty := rfl
@[simp] theorem sub_width (sp : Span) (cs : List Cl) : (sub sp cs).width = ws cs := rfl

theorem spanCl_sub {cw : Nat → Nat} (sp : Span) {cs : List Cl} (h : Toks cw cs) :
    spanCl cw (sub sp cs) = cs := by
  by_cases hne : cs = []
  · subst hne; simp [spanCl, sub]
  · simp only [spanCl, sub, flat_isEmpty h hne, Bool.false_eq_true, if_false]; exact clusters_flat h

theorem spanG_sub {cw : Nat → Nat} (sp : Span) {cs : List Cl} (h : Toks cw cs) : SpanG cw (sub sp cs) := by
  refine ⟨by rw [spanCl_sub sp h]; rfl, by rw [spanCl_sub sp h]; exact fun p hp => (h.pos p hp).2,
    fun hw => ?_⟩
  have hne : cs ≠ [] := by intro e; subst e; exact Nat.lt_irrefl 0 hw
  simp only [spanWF, sub, flat_isEmpty h hne, Bool.false_eq_true, if_false, Bool.and_eq_true]
  exact ⟨decide_eq_true hw, textWF_flat h⟩

theorem spanK_sub {cw : Nat → Nat} (sp : Span) {cs : List Cl} (h : Toks cw cs) :
    spanK cw (sub sp cs) = cs.map fun c => (c, sp.sty) := by
  unfold spanK; rw [spanCl_sub sp h]; rfl

theorem spanK_text {cw : Nat → Nat} {sp : Span} (ht : sp.text.isEmpty = false) :
    spanK cw sp = (clusters cw sp.text).map fun c => (c, sp.sty) := by
  unfold spanK spanCl; simp [ht]

/-! ### a list of characters as one run in style `st` -/

theorem spanWF_run {cw : Nat → Nat} {cs : List Cl} (h : Toks cw cs) (hne : cs ≠ []) (st : Style) :
    spanWF cw ⟨st, flat cs, 0, ws cs⟩ = true :=
  (spanG_sub ⟨st, [], 0, 0⟩ h).wf (ws_pos (fun p hp => (h.pos p hp).2) hne)

theorem spanCells_run {cw : Nat → Nat} {cs : List Cl} (h : Toks cw cs) (st : Style) :
    spanCells cw ⟨st, flat cs, 0, ws cs⟩ = cellsK (cs.map fun c => (c, st)) := by
  rw [spanCells_eq]; exact congrArg cellsK (spanK_sub ⟨st, [], 0, 0⟩ h)

theorem spanK_empty (cw : Nat → Nat) : spanK cw Span.empty = [] := (spanG_empty cw).nil rfl

theorem spanK_blankSpan (cw : Nat → Nat) (st : Style) (w : Nat) : spanK cw (blankSpan st w) = blanksK w st := by
  simp [spanK, spanCl, blankSpan, blanksK, encodeRune]

theorem spanWF_blankSpan {cw : Nat → Nat} (hb : cw 0x20 ≤ 1) (st : Style) {w : Nat} (hw : 0 < w) :
    spanWF cw (blankSpan st w) = true := by
  simp [spanWF, blankSpan, hw, hb]

/-- at column `off` itself both scans of `splitSpan` stop: no character is cut there -/
theorem splitScan_stop {cw : Nat → Nat} {cs : List Cl} (h : Toks cw cs) (off fuel idx : Nat) :
    splitScan cw off fuel (flat cs) idx off = none ∧
    byteIndexAux cw off fuel (flat cs) idx off = (idx, off) := by
  cases fuel with
  | zero => exact ⟨rfl, rfl⟩
  | succ f =>
    refine ⟨?_, by simp [byteIndexAux]⟩
    cases cs with
    | nil => simp [splitScan, stepRune_nil]
    | cons p B =>
      have hpos := stepRune_some h.head
      have c1 : off < off + p.2 := by omega
      simp [splitScan, stepRune_append _ h.head, c1]

/-- The two scans of `splitSpan` over a text of whole characters, from byte `idx` and column `cp`:
    column `off` is a character boundary (`splitScan` finds nothing and `byteIndexAux` stops
    there) or lies strictly inside a character (`splitScan` returns that character). -/
theorem splitScan_located (cw : Nat → Nat) (off : Nat) : ∀ (cs : List Cl), Toks cw cs →
    ∀ fuel idx cp, (flat cs).length ≤ fuel → cp ≤ off → off ≤ cp + ws cs →
    (∃ A B, cs = A ++ B ∧ cp + ws A = off ∧ splitScan cw off fuel (flat cs) idx cp = none ∧
      byteIndexAux cw off fuel (flat cs) idx cp = (idx + (flat A).length, off)) ∨
    (∃ A p B, cs = A ++ p :: B ∧ cp + ws A < off ∧ off < cp + ws A + p.2 ∧
      splitScan cw off fuel (flat cs) idx cp =
        some (idx + (flat A).length, p.1.length, cp + ws A, p.2))
  | [], h, fuel, idx, cp, _, h1, h2 => by
    have h0 : cp = off := Nat.le_antisymm h1 h2
    subst h0
    exact Or.inl ⟨[], [], rfl, rfl, splitScan_stop h _ _ _⟩
  | q :: r, h, fuel, idx, cp, hf, h1, h2 => by
    by_cases h0 : cp = off
    · subst h0; exact Or.inl ⟨[], q :: r, rfl, rfl, splitScan_stop h _ _ _⟩
    have hq := h.head
    have hpos := stepRune_some hq
    rw [flat_cons, List.length_append] at hf
    cases fuel with
    | zero => omega
    | succ f =>
      by_cases hin : off < cp + q.2
      · have c2 : q.2 > 1 ∧ off > cp := by omega
        exact Or.inr ⟨[], q, r, rfl, Nat.lt_of_le_of_ne h1 h0, hin, by
          simp [splitScan, stepRune_append _ hq, h1, hin, c2]⟩
      · -- the character ends at or before `off`: both scans pass it
        have hne : (q.1 ++ flat r).isEmpty = false := by
          cases hq1 : q.1 with
          | nil => rw [hq1] at hpos; simp at hpos
          | cons _ _ => rfl
        have hlt : ¬ cp ≥ off := by omega
        have s1 : splitScan cw off (f + 1) (flat (q :: r)) idx cp =
            splitScan cw off f (flat r) (idx + q.1.length) (cp + q.2) := by
          simp only [flat_cons, splitScan, stepRune_append _ hq, hin, and_false, if_false,
            List.drop_left']
        have s2 : byteIndexAux cw off (f + 1) (flat (q :: r)) idx cp =
            byteIndexAux cw off f (flat r) (idx + q.1.length) (cp + q.2) := by
          simp only [flat_cons, byteIndexAux, hne, hlt, decide_false, Bool.or_self,
            Bool.false_eq_true, if_false, stepRune_append _ hq, List.drop_left']
        rw [ws_cons, ← Nat.add_assoc] at h2
        rw [s1, s2]
        rcases splitScan_located cw off r h.tail f (idx + q.1.length) (cp + q.2) (by omega) (by omega)
          h2 with ⟨A, B, rfl, hA, hs, hb⟩ | ⟨A, p, B, rfl, hA1, hA2, hs⟩
        · refine Or.inl ⟨q :: A, B, rfl, ?_, hs, ?_⟩
          · rw [ws_cons, ← Nat.add_assoc]; exact hA
          · rw [hb, flat_cons, List.length_append, Nat.add_assoc]
        · refine Or.inr ⟨q :: A, p, B, rfl, ?_, ?_, ?_⟩
          · rw [ws_cons, ← Nat.add_assoc]; exact hA1
          · rw [ws_cons, ← Nat.add_assoc]; exact hA2
          · rw [hs, flat_cons, List.length_append, ws_cons, Nat.add_assoc, Nat.add_assoc]

/-! ### one cell per byte -/

theorem oneCellPerByte_iff (sp : Span) :
    oneCellPerByte sp = true ↔ sp.width = sp.text.length ∧ ∀ x ∈ sp.text, x < 0x80 := by
  simp [oneCellPerByte]

/-- in a well-formed run with `oneCellPerByte` every byte is a character of width exactly 1
    (whatever `cw` says about ASCII) -/
theorem oneCellPerByte_clusters {cw : Nat → Nat} {sp : Span} (hwf : spanWF cw sp = true)
    (ht : sp.text.isEmpty = false) (h : oneCellPerByte sp = true) :
    clusters cw sp.text = sp.text.map fun b => ([b], 1) := by
  obtain ⟨_, _, hws⟩ := spanWF_text hwf ht
  obtain ⟨ha1, ha2⟩ := (oneCellPerByte_iff sp).1 h
  -- every byte is a character (`clusters_ascii`); as many cells as characters, each at least one
  have hc := clusters_ascii cw sp.text (by simpa using ha2)
  rw [hc] at hws ⊢
  have h1 := all_one (cs := sp.text.map fun b => ([b], max (cw b.toNat) 1))
    (fun p hp => by obtain ⟨b, _, rfl⟩ := List.mem_map.1 hp; exact Nat.le_max_right _ _)
    (by rw [hws, ha1, List.length_map])
  exact List.map_congr_left fun b hb => by
    have := h1 _ (List.mem_map_of_mem (f := fun b => ([b], max (cw b.toNat) 1)) hb)
    simp only at this; rw [this]

/-! ### `splitSpan` -/

theorem splitSpan_text {cw : Nat → Nat} {sp : Span} {off : Nat} (hwf : spanWF cw sp = true)
    (ht : sp.text.isEmpty = false) (h0 : 0 < off) (h1 : off < sp.width) :
    (∃ A B, clusters cw sp.text = A ++ B ∧ ws A = off ∧
      splitSpan cw sp off = (sub sp A, sub sp B, Span.empty)) ∨
    (∃ A p B, clusters cw sp.text = A ++ p :: B ∧ ws A < off ∧ off < ws A + p.2 ∧
      splitSpan cw sp off = (sub sp A, sub sp B, sub sp [p])) := by
  obtain ⟨htok, hflat, hws⟩ := spanWF_text hwf ht
  have e0 : ¬ off = 0 := by omega
  have e1 : ¬ off ≥ sp.width := by omega
  unfold splitSpan
  simp only [e0, e1, if_false, ht, Bool.false_eq_true]
  by_cases hascii : oneCellPerByte sp = true
  · left
    simp only [hascii, if_true]
    have hw := ((oneCellPerByte_iff sp).1 hascii).1
    refine ⟨(sp.text.take off).map fun b => ([b], 1), (sp.text.drop off).map fun b => ([b], 1), ?_, ?_, ?_⟩
    · rw [oneCellPerByte_clusters hwf ht hascii, ← List.map_append, List.take_append_drop]
    · rw [ws_map1, List.length_take]; omega
    · simp only [sub, flat_map1, ws_map1, List.length_take, List.length_drop, hw]
      rw [Nat.min_eq_left (by omega)]
  · simp only [hascii, Bool.false_eq_true, if_false]
    rcases splitScan_located cw off _ htok sp.text.length 0 0 (by rw [← hflat]; exact Nat.le_refl _)
      (Nat.zero_le _) (by omega) with ⟨A, B, hcs, hA, hs, hb⟩ | ⟨A, p, B, hcs, hA1, hA2, hs⟩
    · left
      rw [← hflat] at hs hb
      simp only [Nat.zero_add] at hA hb
      refine ⟨A, B, hcs, hA, ?_⟩
      have htx : sp.text = flat (A ++ B) := by rw [← hcs]; exact hflat
      simp only [byteIndexForCell, hs, hb, sub]
      have hw2 : sp.width - off = ws B := by rw [← hws, hcs, ws_append]; omega
      rw [hw2, hA]
      rw [htx, flat_append, List.take_left' rfl, List.drop_left' rfl]
    · right
      rw [← hflat] at hs
      simp only [Nat.zero_add] at hA1 hA2 hs
      refine ⟨A, p, B, hcs, hA1, hA2, ?_⟩
      have htx : sp.text = flat (A ++ p :: B) := by rw [← hcs]; exact hflat
      simp only [hs, sub]
      have hw2 : sp.width - (ws A + p.2) = ws B := by rw [← hws, hcs, ws_append, ws_cons]; omega
      rw [hw2]
      rw [htx, flat_append, flat_cons, List.take_left' rfl, List.drop_left' rfl,
        ← List.append_assoc, List.drop_left' (by simp), List.take_left' rfl]
      simp

/-- `splitSpan` strictly inside a run: the column is a character boundary and the run's characters
    are those of `l` and `r`, or it lies inside the character `p`, which is `wd`, between those of
    `l` and `r` -/
theorem splitSpan_spec {cw : Nat → Nat} {sp : Span} {off : Nat} (hwf : spanWF cw sp = true)
    (h0 : 0 < off) (h1 : off < sp.width) :
    ∃ l r wd, splitSpan cw sp off = (l, r, wd) ∧ l.sty = sp.sty ∧ r.sty = sp.sty ∧
      SpanG cw l ∧ SpanG cw r ∧ l.width + wd.width + r.width = sp.width ∧
      ((wd = Span.empty ∧ l.width = off ∧ spanK cw sp = spanK cw l ++ spanK cw r) ∨
       (∃ A p B, Toks cw (A ++ p :: B) ∧ l = sub sp A ∧ wd = sub sp [p] ∧ r = sub sp B ∧
          wd.width = p.2 ∧ l.width < off ∧ off < l.width + p.2 ∧
          spanK cw sp = spanK cw l ++ (p, sp.sty) :: spanK cw r)) := by
  cases ht : sp.text.isEmpty
  · obtain ⟨htok, hflat, hws⟩ := spanWF_text hwf ht
    rcases splitSpan_text hwf ht h0 h1 with ⟨A, B, hcs, hA, hs⟩ | ⟨A, p, B, hcs, hA1, hA2, hs⟩
    · rw [hcs] at htok hws
      refine ⟨_, _, _, hs, rfl, rfl, spanG_sub sp htok.left, spanG_sub sp htok.right, ?_, ?_⟩
      · simp [Span.empty] at hws ⊢; omega
      · left
        refine ⟨rfl, hA, ?_⟩
        rw [spanK_text ht, hcs, spanK_sub sp htok.left, spanK_sub sp htok.right, List.map_append]
    · rw [hcs] at htok hws
      have htB : Toks cw B := htok.right.tail
      refine ⟨_, _, _, hs, rfl, rfl, spanG_sub sp htok.left, spanG_sub sp htB, ?_, ?_⟩
      · simp at hws ⊢; omega
      · right
        refine ⟨A, p, B, htok, rfl, rfl, rfl, by simp, hA1, hA2, ?_⟩
        rw [spanK_text ht, hcs, spanK_sub sp htok.left, spanK_sub sp htB, List.map_append,
          List.map_cons]
  · have e0 : ¬ off = 0 := by omega
    have e1 : ¬ off ≥ sp.width := by omega
    have hs : splitSpan cw sp off =
        ({ sp with width := off }, { sp with width := sp.width - off }, Span.empty) := by
      unfold splitSpan; simp only [e0, e1, if_false, ht, if_true]
    have hrune : cw sp.rune ≤ 1 := by
      unfold spanWF at hwf; simp [ht] at hwf; exact hwf.2
    have hg : ∀ w, SpanG cw { sp with width := w } := by
      intro w
      have hcl : spanCl cw { sp with width := w } = List.replicate w (encodeRune sp.rune, 1) := by
        simp [spanCl, ht]
      refine ⟨by rw [hcl, ws_replicate1], ?_, fun hw => ?_⟩
      · rw [hcl]; intro p hp; rw [(List.mem_replicate.1 hp).2]; exact Nat.le_refl _
      · simp only [spanWF, ht, if_true, Bool.and_eq_true, decide_eq_true_eq]; exact ⟨hw, hrune⟩
    refine ⟨_, _, _, hs, rfl, rfl, hg _, hg _, by simp [Span.empty]; omega, Or.inl ⟨rfl, rfl, ?_⟩⟩
    simp only [spanK, spanCl, ht, if_true]
    rw [← List.map_append, List.replicate_append_replicate]
    congr 2; omega

theorem splitSpan_trivial (cw : Nat → Nat) (sp : Span) (off : Nat) (h : off = 0 ∨ sp.width ≤ off) :
    splitSpan cw sp off = if off = 0 then (Span.empty, sp, Span.empty) else (sp, Span.empty, Span.empty) := by
  unfold splitSpan
  rcases h with h | h
  · simp [h]
  · by_cases h0 : off = 0
    · simp [h0]
    · simp [h0, h]

/-- `splitSpan` at every offset up to the width; at `0` and at the width one part is the empty run -/
theorem splitSpan_total {cw : Nat → Nat} {sp : Span} (hwf : spanWF cw sp = true) {off : Nat}
    (hoff : off ≤ sp.width) :
    ∃ l r wd, splitSpan cw sp off = (l, r, wd) ∧ (off < sp.width → r.sty = sp.sty) ∧
      SpanG cw l ∧ SpanG cw r ∧ l.width + wd.width + r.width = sp.width ∧
      ((wd.width = 0 ∧ l.width = off ∧ spanK cw sp = spanK cw l ++ spanK cw r) ∨
       (∃ p : Cl, wd.width = p.2 ∧ l.width < off ∧ off < l.width + p.2 ∧
          spanK cw sp = spanK cw l ++ (p, sp.sty) :: spanK cw r)) := by
  have hG := SpanG.of_wf hwf
  by_cases h0 : off = 0
  · subst h0
    exact ⟨_, _, _, splitSpan_trivial cw sp 0 (Or.inl rfl), fun _ => rfl, spanG_empty cw, hG, by simp [Span.empty],
      Or.inl ⟨rfl, rfl, by rw [spanK_empty]; rfl⟩⟩
  by_cases h1 : off = sp.width
  · subst h1
    exact ⟨_, _, _, by rw [splitSpan_trivial cw sp _ (Or.inr (Nat.le_refl _)), if_neg h0],
      fun h => absurd h (Nat.lt_irrefl _), hG, spanG_empty cw, by simp [Span.empty],
      Or.inl ⟨rfl, rfl, by rw [spanK_empty, List.append_nil]⟩⟩
  · obtain ⟨l, r, wd, hs, _, hr1, hgl, hgr, hwsum, hcase⟩ :=
      splitSpan_spec hwf (off := off) (by omega) (by omega)
    refine ⟨l, r, wd, hs, fun _ => hr1, hgl, hgr, hwsum, ?_⟩
    rcases hcase with ⟨hwd, hlw, hK⟩ | ⟨A, p, B, _, _, _, _, hwdw, hlt1, hlt2, hK⟩
    · exact Or.inl ⟨by rw [hwd]; rfl, hlw, hK⟩
    · exact Or.inr ⟨p, hwdw, hlt1, hlt2, hK⟩

theorem splitSpan_cells {cw : Nat → Nat} {sp : Span} {off : Nat} (hwf : spanWF cw sp = true)
    (h0 : 0 < off) (h1 : off < sp.width) :
    let C := spanCells cw sp
    let l := (splitSpan cw sp off).1
    let r := (splitSpan cw sp off).2.1
    let wd := (splitSpan cw sp off).2.2
    (wd.width = 0 ↔ contAt C off = false) ∧
    (wd.width = 0 → spanCells cw l ++ spanCells cw r = C ∧ l.width = off ∧ r.width = sp.width - off ∧
      spanWF cw l = true ∧ spanWF cw r = true) ∧
    (wd.width > 0 → C = spanCells cw l ++ spanCells cw wd ++ spanCells cw r ∧
      l.width = headOf C off ∧ wd.width = widthAt C l.width ∧ wd.width > 1 ∧ l.width < off ∧
      off < l.width + wd.width ∧ spanWF cw wd = true ∧
      (spanWF cw l = true ∨ l.width = 0) ∧ (spanWF cw r = true ∨ r.width = 0)) := by
  intro C l r wd
  obtain ⟨l', r', wd', hs, hl1, hr1, hgl, hgr, hwsum, hcase⟩ := splitSpan_spec hwf h0 h1
  have el : l = l' := by simp only [l, hs]
  have er : r = r' := by simp only [r, hs]
  have ewd : wd = wd' := by simp only [wd, hs]
  rw [el, er, ewd]
  have hG := SpanG.of_wf hwf
  have hposK := hG.posK
  have hor : ∀ s : Span, SpanG cw s → (spanWF cw s = true ∨ s.width = 0) := by
    intro s hg
    rcases Nat.eq_zero_or_pos s.width with h | h
    · exact Or.inr h
    · exact Or.inl (hg.wf h)
  rcases hcase with ⟨hwd, hlw, hK⟩ | ⟨A, p, B, htok, hl, hwd, hr, hwdw, hlt1, hlt2, hK⟩
  · have hpos : PosK (spanK cw l' ++ spanK cw r') := by rw [← hK]; exact hposK
    obtain ⟨b1, _, _, _, _⟩ := at_boundary hpos rfl rfl default
    rw [hgl.wk, hlw, ← hK, ← spanCells_eq] at b1
    have hw0 : wd'.width = 0 := by rw [hwd]; rfl
    refine ⟨⟨fun _ => b1, fun _ => hw0⟩, fun _ => ?_, fun h => by omega⟩
    refine ⟨?_, hlw, by rw [hw0] at hwsum; omega, hgl.wf (by omega), hgr.wf (by rw [hw0] at hwsum; omega)⟩
    simp only [C, spanCells_eq, hK, cellsK_append]
  · have hpos : PosK (spanK cw l' ++ (p, sp.sty) :: spanK cw r') := by rw [← hK]; exact hposK
    obtain ⟨b1, b2, b3, _, _, _⟩ := at_inside (k := (p, sp.sty)) hpos rfl (x := off)
      (by rw [hgl.wk]; exact hlt1) (by rw [hgl.wk]; exact hlt2) default
    have c3 := widthAt_head hpos
    rw [← hK, ← spanCells_eq] at b1 b2 c3
    rw [hgl.wk] at b2 c3
    have hp2 : 1 < p.2 := by omega
    have hsingle : Toks cw [p] := Toks.single htok.right.head
    have hKwd : spanK cw wd' = [(p, sp.sty)] := by rw [hwd, spanK_sub sp hsingle]; rfl
    refine ⟨⟨fun h => by omega, fun h => by rw [b1] at h; cases h⟩, fun h => by omega, fun _ => ?_⟩
    refine ⟨?_, b2.symm, by rw [c3, hwdw], by omega, hlt1, by omega, ?_, hor _ hgl, hor _ hgr⟩
    · simp only [C, spanCells_eq, hK, hKwd, cellsK_append, cellsK_cons, cellsK_nil, List.append_nil,
        List.append_assoc]
    · rw [hwd]; exact (spanG_sub sp hsingle).wf (by simp; omega)

/-! ## rows as character lists, the scans -/

def lineK (cw : Nat → Nat) (S : List Span) : List K := S.flatMap (spanK cw)

def AllWF (cw : Nat → Nat) (S : List Span) : Prop := ∀ sp ∈ S, spanWF cw sp = true

@[simp] theorem lineK_nil (cw : Nat → Nat) : lineK cw [] = [] := rfl
@[simp] theorem lineK_cons (cw : Nat → Nat) (sp : Span) (S : List Span) :
    lineK cw (sp :: S) = spanK cw sp ++ lineK cw S := by simp [lineK]
@[simp] theorem lineK_append (cw : Nat → Nat) (A B : List Span) :
    lineK cw (A ++ B) = lineK cw A ++ lineK cw B := by simp [lineK]
@[simp] theorem sumWidths_nil : sumWidths [] = 0 := rfl
@[simp] theorem sumWidths_cons (sp : Span) (S : List Span) :
    sumWidths (sp :: S) = sp.width + sumWidths S := by simp [sumWidths]
@[simp] theorem sumWidths_append (A B : List Span) :
    sumWidths (A ++ B) = sumWidths A + sumWidths B := by simp [sumWidths]

theorem flatMap_spanCells (cw : Nat → Nat) (S : List Span) :
    S.flatMap (spanCells cw) = cellsK (lineK cw S) := by
  induction S with
  | nil => rfl
  | cons sp r ih => simp [spanCells_eq, ih]

theorem lineCells_eq (cw : Nat → Nat) (l : SLine) : lineCells cw l = cellsK (lineK cw l.spans) :=
  flatMap_spanCells cw l.spans

theorem AllWF.append {cw : Nat → Nat} {A B : List Span} (ha : AllWF cw A) (hb : AllWF cw B) :
    AllWF cw (A ++ B) := List.forall_mem_append.2 ⟨ha, hb⟩
theorem AllWF.left {cw : Nat → Nat} {A B : List Span} (h : AllWF cw (A ++ B)) : AllWF cw A :=
  fun k hk => h k (List.mem_append_left _ hk)
theorem AllWF.right {cw : Nat → Nat} {A B : List Span} (h : AllWF cw (A ++ B)) : AllWF cw B :=
  fun k hk => h k (List.mem_append_right _ hk)
theorem AllWF.tail {cw : Nat → Nat} {k : Span} {B : List Span} (h : AllWF cw (k :: B)) : AllWF cw B :=
  fun q hq => h q (List.mem_cons_of_mem _ hq)
theorem AllWF.head {cw : Nat → Nat} {k : Span} {B : List Span} (h : AllWF cw (k :: B)) :
    spanWF cw k = true := h k (List.mem_cons_self ..)
theorem AllWF.nil (cw : Nat → Nat) : AllWF cw [] := fun _ h => nomatch h
theorem AllWF.cons {cw : Nat → Nat} {k : Span} {B : List Span} (hk : spanWF cw k = true)
    (h : AllWF cw B) : AllWF cw (k :: B) := List.forall_mem_cons.2 ⟨hk, h⟩

theorem mem_lineK {cw : Nat → Nat} {S : List Span} {k : K} (h : k ∈ lineK cw S) :
    ∃ sp ∈ S, k.2 = sp.sty ∧ k.1 ∈ spanCl cw sp := by
  unfold lineK at h
  obtain ⟨sp, hsp, hk⟩ := List.mem_flatMap.1 h
  unfold spanK at hk
  obtain ⟨c, hc, rfl⟩ := List.mem_map.1 hk
  exact ⟨sp, hsp, rfl, hc⟩

theorem head_mem_lineCells {cw : Nat → Nat} {l : SLine} {sp : Span} (hsp : sp ∈ l.spans)
    {p : Cl} (hp : p ∈ spanCl cw sp) : (⟨.ch p.1 p.2, sp.sty⟩ : Cell) ∈ lineCells cw l := by
  unfold lineCells
  rw [List.mem_flatMap]
  refine ⟨sp, hsp, ?_⟩
  rw [spanCells_eq]
  unfold cellsK spanK
  rw [List.mem_flatMap]
  exact ⟨(p, sp.sty), List.mem_map.2 ⟨p, hp, rfl⟩, by simp [charCells]⟩

theorem posK_lineK {cw : Nat → Nat} {S : List Span} (h : AllWF cw S) : PosK (lineK cw S) := by
  induction S with
  | nil => exact PosK.nil
  | cons sp r ih => rw [lineK_cons]; exact (SpanG.of_wf h.head).posK.append (ih h.tail)

theorem wk_lineK {cw : Nat → Nat} {S : List Span} (h : AllWF cw S) : wk (lineK cw S) = sumWidths S := by
  induction S with
  | nil => rfl
  | cons sp r ih => rw [lineK_cons, wk_append, (SpanG.of_wf h.head).wk, ih h.tail, sumWidths_cons]

theorem sumWidths_zero {cw : Nat → Nat} {S : List Span} (h : AllWF cw S) (h0 : sumWidths S = 0) :
    S = [] := by
  cases S with
  | nil => rfl
  | cons sp r => have := spanWF_pos h.head; simp at h0; omega

theorem spanCells_length {cw : Nat → Nat} {sp : Span} (h : SpanG cw sp) : (spanCells cw sp).length = sp.width := by
  rw [spanCells_eq, cellsK_length h.posK, h.wk]

theorem flatMap_spanCells_length {cw : Nat → Nat} {S : List Span} (h : AllWF cw S) :
    (S.flatMap (spanCells cw)).length = sumWidths S := by
  rw [flatMap_spanCells, cellsK_length (posK_lineK h), wk_lineK h]

theorem lineCells_length {cw : Nat → Nat} {l : SLine} (h : AllWF cw l.spans) :
    (lineCells cw l).length = sumWidths l.spans := flatMap_spanCells_length h

theorem rowWF_lineCells {cw : Nat → Nat} {l : SLine} (hwf : AllWF cw l.spans) :
    rowWF (lineCells cw l) = true := by rw [lineCells_eq]; exact rowWF_cellsK (posK_lineK hwf)

theorem lineCellWidth_mk (sp : List Span) : lineCellWidth ⟨sp, sumWidths sp⟩ = sumWidths sp := by
  unfold lineCellWidth; split <;> rfl

theorem lineWF_iff {cw : Nat → Nat} {W : Nat} {l : SLine} :
    lineWF cw W l = true ↔ AllWF cw l.spans ∧ sumWidths l.spans = W ∧ l.width = W := by
  simp [lineWF, AllWF, and_assoc]

theorem lineWF_length {cw : Nat → Nat} {W : Nat} {l : SLine} (hl : lineWF cw W l = true) :
    (lineCells cw l).length = W := by
  obtain ⟨hwf, hsum, _⟩ := lineWF_iff.1 hl
  rw [lineCells_length hwf, hsum]

theorem lineCellWidth_of_lineWF {cw : Nat → Nat} {W : Nat} {l : SLine} (h : lineWF cw W l = true) :
    lineCellWidth l = W := by
  obtain ⟨h1, h2, h3⟩ := lineWF_iff.1 h
  unfold lineCellWidth
  split
  · exact h3
  · rename_i hc
    simp only [not_or, Decidable.not_not] at hc
    rw [h2]

theorem scanStart_some (x : Nat) : ∀ (S : List Span) (i0 pos0 : Nat),
    pos0 ≤ x → x < pos0 + sumWidths S →
    ∃ S1 sp S2, S = S1 ++ sp :: S2 ∧
      scanStart x S i0 pos0 = (some (i0 + S1.length, pos0 + sumWidths S1), pos0 + sumWidths S1) ∧
      pos0 + sumWidths S1 ≤ x ∧ x < pos0 + sumWidths S1 + sp.width := by
  intro S
  induction S with
  | nil => intro i0 pos0 h1 h2; simp at h2; omega
  | cons sp r ih =>
    intro i0 pos0 h1 h2
    by_cases hc : x < pos0 + sp.width
    · exact ⟨[], sp, r, rfl, by simp [scanStart, hc], by simpa using h1, by simpa using hc⟩
    · simp only [sumWidths_cons] at h2
      obtain ⟨S1, q, S2, hS, hsc, h3, h4⟩ := ih (i0 + 1) (pos0 + sp.width) (by omega) (by omega)
      refine ⟨sp :: S1, q, S2, by rw [hS]; rfl, ?_, ?_, ?_⟩
      · simp only [scanStart, hc, if_false, hsc, List.length_cons, sumWidths_cons]
        simp only [Nat.add_assoc, Nat.add_comm 1]
      · simp only [sumWidths_cons]; omega
      · simp only [sumWidths_cons]; omega

theorem scanStart_none (x : Nat) : ∀ (S : List Span) (i0 pos0 : Nat),
    pos0 + sumWidths S ≤ x → scanStart x S i0 pos0 = (none, pos0 + sumWidths S) := by
  intro S
  induction S with
  | nil => intro i0 pos0 _; rfl
  | cons sp r ih =>
    intro i0 pos0 h
    simp only [sumWidths_cons] at h
    have hc : ¬ x < pos0 + sp.width := by omega
    simp only [scanStart, hc, if_false, sumWidths_cons]
    rw [ih _ _ (by omega), Nat.add_assoc]

theorem scanEnd_some (xn : Nat) : ∀ (T : List Span) (i0 pos0 : Nat),
    T ≠ [] → xn ≤ pos0 + sumWidths T →
    ∃ T1 esp T2, T = T1 ++ esp :: T2 ∧
      scanEnd xn T i0 pos0 = (some (i0 + T1.length, xn - (pos0 + sumWidths T1)),
        pos0 + sumWidths T1 + esp.width) ∧
      (T1 = [] ∨ pos0 + sumWidths T1 < xn) ∧ xn ≤ pos0 + sumWidths T1 + esp.width := by
  intro T
  induction T with
  | nil => intro i0 pos0 h; exact absurd rfl h
  | cons sp r ih =>
    intro i0 pos0 _ h2
    by_cases hc : xn ≤ pos0 + sp.width
    · exact ⟨[], sp, r, rfl, by simp [scanEnd, hc], Or.inl rfl, by simpa using hc⟩
    · simp only [sumWidths_cons] at h2
      have hr : r ≠ [] := by
        intro hr; subst hr; simp at h2; omega
      obtain ⟨T1, q, T2, hS, hsc, h3, h4⟩ := ih (i0 + 1) (pos0 + sp.width) hr (by omega)
      refine ⟨sp :: T1, q, T2, by rw [hS]; rfl, ?_, Or.inr ?_, ?_⟩
      · simp only [scanEnd, hc, if_false, hsc, List.length_cons, sumWidths_cons]
        simp only [Nat.add_assoc, Nat.add_comm 1]
      · simp only [sumWidths_cons]
        rcases h3 with h3 | h3
        · subst h3; simp; omega
        · omega
      · simp only [sumWidths_cons]; omega

theorem scanEnd_none (xn : Nat) : ∀ (T : List Span) (i0 pos0 : Nat),
    pos0 + sumWidths T < xn → scanEnd xn T i0 pos0 = (none, pos0 + sumWidths T) := by
  intro T
  induction T with
  | nil => intro i0 pos0 _; rfl
  | cons sp r ih =>
    intro i0 pos0 h
    simp only [sumWidths_cons] at h
    have hc : ¬ xn ≤ pos0 + sp.width := by omega
    simp only [scanEnd, hc, if_false, sumWidths_cons]
    rw [ih _ _ (by omega), Nat.add_assoc]

/-! ### the splice, unfolded -/

/-- the left boundary run of the splice: `(left, shift, startFill)` -/
def leftPart (cw : Nat → Nat) (sp : Span) (so : Nat) (keep : Bool) : Span × Nat × Nat :=
  if so > 0 then
    let (l, _, wide) := splitSpan cw sp so
    if wide.width > 0 then
      if keep then
        let l' := if l.width > 0 then { l with text := l.text ++ wide.text, width := l.width + wide.width } else wide
        (l', l'.width - so, 0)
      else (l, 0, so - l.width)
    else (l, 0, 0)
  else (Span.empty, 0, 0)

/-- the right boundary run of the splice: `(right, endFill)` -/
def rightPart (cw : Nat → Nat) (esp : Span) (eo : Nat) : Span × Nat :=
  if eo < esp.width then
    let (_, r, wide) := splitSpan cw esp eo
    (r, if wide.width > 0 then esp.width - eo - r.width else 0)
  else (Span.empty, 0)

def midOf (left : Span) (startFill : Nat) (ins : Span) (endFill : Nat) (right : Span) : List Span :=
  (if decide (left.width > 0) then [left] else []) ++
  (if startFill > 0 then [blankSpan ins.sty startFill] else []) ++
  (if ins.width > 0 then [ins] else []) ++
  (if endFill > 0 then [blankSpan ins.sty endFill] else []) ++
  (if decide (right.width > 0) then [right] else [])

/-- the general path of the splice: the boundary runs `sp` and `esp` are split -/
def rrsGen (cw : Nat → Nat) (S : List Span) (x : Nat) (ins : Span) (keep : Bool)
    (i pos j eo : Nat) (sp esp : Span) : List Span × SpliceInfo :=
  (S.take i ++ midOf (leftPart cw sp (x - pos) keep).1 (leftPart cw sp (x - pos) keep).2.2 ins
      (rightPart cw esp eo).2 (rightPart cw esp eo).1 ++ S.drop (j + 1),
   { shift := (leftPart cw sp (x - pos) keep).2.1, startFill := (leftPart cw sp (x - pos) keep).2.2,
     endFill := (rightPart cw esp eo).2 })

/-- the splice once the boundary runs are located: start run `sp` with index `i` (starting at
    column `pos`), end run `esp` with index `j`, end offset `eo` -/
def rrsBody (cw : Nat → Nat) (S : List Span) (x n : Nat) (ins : Span) (keep : Bool)
    (i pos j eo : Nat) (sp esp : Span) : List Span × SpliceInfo :=
  if x = 0 ∧ j = S.length - 1 ∧ eo = esp.width then ((if ins.width > 0 then [ins] else []), {})
  else if i = S.length then ((if ins.width > 0 then S ++ [ins] else S), {})
  else if i = j ∧ x - pos = 0 ∧ eo = sp.width ∧ ins.width > 0 then (S.set i ins, {})
  else if i = j ∧ ins.width = n ∧ sp.sty = ins.sty ∧ sp.text.isEmpty ∧ ins.text.isEmpty ∧
      sp.rune = ins.rune then (S, {})
  else if i = j ∧ ins.width = n ∧ sp.sty = ins.sty ∧ !sp.text.isEmpty ∧ !ins.text.isEmpty ∧
      oneCellPerByte sp ∧ oneCellPerByte ins then
    (S.set i { sp with text := sp.text.take (x - pos) ++ ins.text ++ sp.text.drop (x - pos + n) }, {})
  else rrsGen cw S x ins keep i pos j eo sp esp

theorem rrs_unfold (cw : Nat → Nat) (S : List Span) (x n : Nat) (ins : Span) (keep : Bool)
    (i pos j eo pos2 : Nat)
    (hne : ¬ (n = 0 ∧ ins.width = 0)) (hS : S.isEmpty = false)
    (hs : scanStart x S 0 0 = (some (i, pos), pos))
    (he : scanEnd (x + n) (S.drop i) i pos = (some (j, eo), pos2))
    (hx : x + n ≤ pos2) :
    replaceRangeSpans cw S x n ins keep =
      rrsBody cw S x n ins keep i pos j eo (S.getD i Span.empty) (S.getD j Span.empty) := by
  have c1 : ¬ x > pos2 := by omega
  have c2 : ¬ x + n > pos2 := by omega
  unfold replaceRangeSpans
  simp only [hne, hS, hs, he, c1, c2, if_false, Bool.false_eq_true, decide_false, leftPart,
    rightPart, midOf, rrsBody, rrsGen]

/-- the same when the second scan runs off the row: the range is cut back to the row and ends with
    the last run -/
theorem rrs_unfold_over (cw : Nat → Nat) (S : List Span) (x n : Nat) (ins : Span) (keep : Bool)
    (i pos : Nat) (hS : S.isEmpty = false)
    (hs : scanStart x S 0 0 = (some (i, pos), pos))
    (he : scanEnd (x + n) (S.drop i) i pos = (none, sumWidths S))
    (hx : x < sumWidths S) (hxn : x + n > sumWidths S) :
    replaceRangeSpans cw S x n ins keep =
      rrsBody cw S x (sumWidths S - x) ins keep i pos (S.length - 1)
        (S.getD (S.length - 1) Span.empty).width (S.getD i Span.empty)
        (S.getD (S.length - 1) Span.empty) := by
  have c1 : ¬ x > sumWidths S := by omega
  have hne : ¬ (n = 0 ∧ ins.width = 0) := by omega
  unfold replaceRangeSpans
  simp only [hne, hS, hs, he, c1, hxn, if_false, if_true, Bool.false_eq_true, decide_true, leftPart,
    rightPart, midOf, rrsBody, rrsGen]

/-! ### the cell-level result of the splice -/

theorem getD_mid (A : List Span) (a : Span) (B : List Span) (d : Span) :
    (A ++ a :: B).getD A.length d = a := by simp [List.getD_eq_getElem?_getD]
theorem drop_mid (A : List Span) (a : Span) (B : List Span) : (A ++ a :: B).drop (A.length + 1) = B := by
  have : A ++ a :: B = (A ++ [a]) ++ B := by simp
  rw [this]; exact List.drop_left' (by simp)
theorem set_mid (A : List Span) (a c : Span) (B : List Span) :
    (A ++ a :: B).set A.length c = A ++ c :: B := by simp

theorem leftPart_spec {cw : Nat → Nat} {S1 S2 : List Span} {sp : Span} (hwf : AllWF cw (S1 ++ sp :: S2))
    {so : Nat} (hso : so < sp.width) (keep : Bool) (st : Style) :
    let x := sumWidths S1 + so
    let R := cellsK (lineK cw (S1 ++ sp :: S2))
    let lp := leftPart cw sp so keep
    cellsK (lineK cw S1) ++ cellsK (spanK cw lp.1) ++ List.replicate lp.2.2 (blank st) =
      (if keep = true ∧ contAt R x = true then R.take (endOf R x) else takeB R x st) ∧
    SpanG cw lp.1 ∧
    lp.2.1 = (if keep = true ∧ contAt R x = true then endOf R x - x else 0) ∧
    lp.2.2 = (if keep = true ∧ contAt R x = true then 0 else x - headOf R x) := by
  intro x R lp
  have hsp := hwf.right.head
  have hw1 := wk_lineK hwf.left
  by_cases h0 : so = 0
  · have hlp : lp = (Span.empty, 0, 0) := by simp [lp, leftPart, h0]
    obtain ⟨b1, b2, b3, b4, b5⟩ := at_boundary (posK_lineK hwf) (lineK_append ..) (c := x)
      (by subst h0; exact hw1) st
    simp only [R, b1, b2, b4, hlp, spanK_empty, Bool.false_eq_true, and_false, if_false]
    exact ⟨by simp, spanG_empty cw, trivial, by simp⟩
  · have hpos := Nat.pos_of_ne_zero h0
    obtain ⟨l, r, wd, hs, hl1, hr1, hgl, hgr, hwsum, hcase⟩ := splitSpan_spec hsp (off := so) hpos hso
    have hwP : wk (lineK cw S1 ++ spanK cw l) = sumWidths S1 + l.width := by
      rw [wk_append, hw1, hgl.wk]
    rcases hcase with ⟨hwd, hlw, hK⟩ | ⟨A, p, B, htok, hl, hwd, hr, hwdw, hlt1, hlt2, hK⟩
    · have hlp : lp = (l, 0, 0) := by simp [lp, leftPart, hs, hwd, Span.empty, hpos]
      obtain ⟨b1, b2, b3, b4, b5⟩ := at_boundary (posK_lineK hwf) (P := lineK cw S1 ++ spanK cw l)
        (Q := spanK cw r ++ lineK cw S2) (by simp [hK]) (c := x) (by rw [hwP, hlw]) st
      simp only [R, b1, b2, b4, hlp, Bool.false_eq_true, and_false, if_false]
      exact ⟨by simp, hgl, trivial, by simp⟩
    · obtain ⟨b1, b2, b3, b4, b5, b6⟩ := at_inside (posK_lineK hwf) (P := lineK cw S1 ++ spanK cw l)
        (k := (p, sp.sty)) (Q := spanK cw r ++ lineK cw S2) (by simp [hK]) (x := x)
        (by rw [hwP]; exact Nat.add_lt_add_left hlt1 _)
        (by rw [hwP, Nat.add_assoc]; exact Nat.add_lt_add_left hlt2 _) st
      simp only [hwP] at b2 b3 b4 b5 b6
      have hp2 : 0 < p.2 := by omega
      cases keep
      · have hlp : lp = (l, 0, so - l.width) := by simp [lp, leftPart, hs, hwdw, hpos, hp2]
        simp only [R, b2, b4, hlp, Bool.false_eq_true, false_and, if_false]
        exact ⟨by simp only [x, cellsK_append, List.append_assoc, Nat.add_sub_add_left], hgl, trivial,
          (Nat.add_sub_add_left ..).symm⟩
      · -- with `keep` the left run takes the cut character in: `sub sp (A ++ [p])`, also for `A = []`
        have hAp : Toks cw (A ++ [p]) := htok.left.append (Toks.single htok.right.head)
        have hl' : (if l.width > 0 then
            { l with text := l.text ++ wd.text, width := l.width + wd.width } else wd) = sub sp (A ++ [p]) := by
          subst hl hwd
          by_cases hA : ws A > 0
          · simp [sub, hA]
          · have hA0 : A = [] := ws_zero_nil (fun q hq => (htok.left.pos q hq).2) (by omega)
            subst hA0; simp [sub]
        have hlp : lp = (sub sp (A ++ [p]), ws (A ++ [p]) - so, 0) := by
          simp only [lp, leftPart, hs]
          rw [if_pos hpos, if_pos (hwdw ▸ hp2), if_pos trivial, hl']
          rfl
        have hKl' : spanK cw (sub sp (A ++ [p])) = spanK cw l ++ [(p, sp.sty)] := by
          rw [spanK_sub sp hAp, hl, spanK_sub sp htok.left, List.map_append]; rfl
        simp only [R, b1, b3, b6, hlp, and_self, if_true, hKl']
        refine ⟨by simp, spanG_sub sp hAp, ?_, trivial⟩
        rw [hl]; simp [x, Nat.add_assoc, Nat.add_sub_add_left]

/-- the test of `rightPart` is redundant: splitting at the full width leaves the empty run -/
theorem rightPart_eq (cw : Nat → Nat) {esp : Span} (hpos : 0 < esp.width) {eo : Nat} (h : eo ≤ esp.width) :
    rightPart cw esp eo = ((splitSpan cw esp eo).2.1,
      if (splitSpan cw esp eo).2.2.width > 0 then esp.width - eo - (splitSpan cw esp eo).2.1.width
      else 0) := by
  unfold rightPart
  by_cases hlt : eo < esp.width
  · rw [if_pos hlt]
  · have he : eo = esp.width := by omega
    subst he
    rw [if_neg hlt, splitSpan_trivial cw esp _ (Or.inr (Nat.le_refl _)), if_neg (by omega)]
    simp [Span.empty]

theorem rightPart_spec {cw : Nat → Nat} {U1 T2 : List Span} {esp : Span} (hwf : AllWF cw (U1 ++ esp :: T2))
    {eo : Nat} (heo : eo ≤ esp.width) (st : Style) :
    let b := sumWidths U1 + eo
    let R := cellsK (lineK cw (U1 ++ esp :: T2))
    let rp := rightPart cw esp eo
    List.replicate rp.2 (blank st) ++ cellsK (spanK cw rp.1) ++ cellsK (lineK cw T2) = dropB R b st ∧
    SpanG cw rp.1 ∧ rp.2 = endOf R b - b := by
  intro b R rp
  have hw1 := wk_lineK hwf.left
  obtain ⟨l, r, wd, hs, _, hgl, hgr, hwsum, hcase⟩ := splitSpan_total hwf.right.head heo
  have hwP : wk (lineK cw U1 ++ spanK cw l) = sumWidths U1 + l.width := by
    rw [wk_append, hw1, hgl.wk]
  have hrp : rp = (r, if wd.width > 0 then esp.width - eo - r.width else 0) := by
    simp only [rp, rightPart_eq cw (spanWF_pos hwf.right.head) heo, hs]
  rcases hcase with ⟨hwd, hlw, hK⟩ | ⟨p, hwdw, hlt1, hlt2, hK⟩
  · obtain ⟨_, _, b3, _, b5⟩ := at_boundary (posK_lineK hwf) (P := lineK cw U1 ++ spanK cw l)
      (Q := spanK cw r ++ lineK cw T2) (by simp [hK]) (c := b) (by rw [hwP, hlw]) st
    simp only [R, b3, b5, hrp, hwd, Nat.lt_irrefl, if_false]
    exact ⟨by simp, hgr, by simp⟩
  · obtain ⟨_, _, b3, _, b5, _⟩ := at_inside (posK_lineK hwf) (P := lineK cw U1 ++ spanK cw l)
      (k := (p, esp.sty)) (Q := spanK cw r ++ lineK cw T2) (by simp [hK]) (x := b)
      (by rw [hwP]; exact Nat.add_lt_add_left hlt1 _)
      (by rw [hwP, Nat.add_assoc]; exact Nat.add_lt_add_left hlt2 _) st
    simp only [hwP] at b3 b5
    have he : esp.width - eo - r.width = sumWidths U1 + l.width + p.2 - b := by
      rw [← hwsum, hwdw, Nat.sub_right_comm, Nat.add_sub_cancel, Nat.add_assoc, Nat.add_sub_add_left]
    simp only [R, b3, b5, hrp, if_pos (show wd.width > 0 by omega), he]
    exact ⟨by simp only [cellsK_append, List.append_assoc], hgr, trivial⟩

theorem lineK_opt {cw : Nat → Nat} {sp : Span} (hg : SpanG cw sp) :
    lineK cw (if sp.width > 0 then [sp] else []) = spanK cw sp := by
  by_cases h : sp.width > 0
  · simp [h]
  · simp [h, hg.nil (by omega)]

theorem allWF_opt {cw : Nat → Nat} {sp : Span} (hg : SpanG cw sp) :
    AllWF cw (if sp.width > 0 then [sp] else []) := by
  by_cases h : sp.width > 0
  · simp only [h, if_true]; exact AllWF.cons (hg.wf h) (AllWF.nil cw)
  · simp only [h, if_false]; exact AllWF.nil cw

theorem lineK_midOf {cw : Nat → Nat} {left right ins : Span} (sf ef : Nat)
    (hl : SpanG cw left) (hr : SpanG cw right) (hi : SpanG cw ins) :
    lineK cw (midOf left sf ins ef right) =
      spanK cw left ++ blanksK sf ins.sty ++ spanK cw ins ++ blanksK ef ins.sty ++ spanK cw right := by
  have eb : ∀ k, lineK cw (if k > 0 then [blankSpan ins.sty k] else []) = blanksK k ins.sty := by
    intro k
    by_cases h : k > 0
    · simp [h, spanK_blankSpan]
    · have : k = 0 := by omega
      subst this; simp [blanksK]
  simp only [midOf, lineK_append, decide_eq_true_eq, lineK_opt hl, lineK_opt hr, lineK_opt hi, eb]

theorem allWF_midOf {cw : Nat → Nat} {left right ins : Span} (sf ef : Nat) (hb : cw 0x20 ≤ 1)
    (hl : SpanG cw left) (hr : SpanG cw right) (hi : SpanG cw ins) :
    AllWF cw (midOf left sf ins ef right) := by
  have eb : ∀ k, AllWF cw (if k > 0 then [blankSpan ins.sty k] else []) := by
    intro k
    by_cases h : k > 0
    · simp only [h, if_true]; exact AllWF.cons (spanWF_blankSpan hb _ h) (AllWF.nil cw)
    · simp only [h, if_false]; exact AllWF.nil cw
  simp only [midOf, decide_eq_true_eq]
  exact ((((allWF_opt hl).append (eb sf)).append (allWF_opt hi)).append (eb ef)).append (allWF_opt hr)

/-- the cell-level specification of the splice: cells left of the range (or up to the end of a
    kept wide character), the insert, cells right of the range; shift and fills of `SpliceInfo` -/
def SpliceSpec (cw : Nat → Nat) (S : List Span) (x n : Nat) (ins : Span) (keep : Bool)
    (out : List Span × SpliceInfo) : Prop :=
  let R := cellsK (lineK cw S)
  cellsK (lineK cw out.1) =
    (if keep = true ∧ contAt R x = true then R.take (endOf R x) else takeB R x ins.sty) ++
      cellsK (spanK cw ins) ++ dropB R (x + n) ins.sty ∧
  out.2.shift = (if keep = true ∧ contAt R x = true then endOf R x - x else 0) ∧
  out.2.startFill = (if keep = true ∧ contAt R x = true then 0 else x - headOf R x) ∧
  out.2.endFill = endOf R (x + n) - (x + n) ∧
  (cw 0x20 ≤ 1 → AllWF cw out.1)

/-- fast paths: both ends of the range are character boundaries -/
theorem spliceSpec_boundaries {cw : Nat → Nat} {S : List Span} {x n : Nat} {ins : Span} {keep : Bool}
    {out : List Span × SpliceInfo} {P M Q : List K} (hL : lineK cw S = P ++ (M ++ Q))
    (hpos : PosK (lineK cw S)) (hx : wk P = x) (hn : wk M = n) (hinfo : out.2 = {})
    (hcells : cellsK (lineK cw out.1) = cellsK P ++ cellsK (spanK cw ins) ++ cellsK Q)
    (hall : cw 0x20 ≤ 1 → AllWF cw out.1) : SpliceSpec cw S x n ins keep out := by
  unfold SpliceSpec
  obtain ⟨b1, b2, b3, b4, b5⟩ := at_boundary hpos hL hx ins.sty
  obtain ⟨c1, c2, c3, c4, c5⟩ := at_boundary hpos (hL.trans (List.append_assoc ..).symm)
    (show wk (P ++ M) = x + n by rw [wk_append, hx, hn]) ins.sty
  simp only [b1, b2, b4, c3, c5, hinfo, hcells, Bool.false_eq_true, and_false, if_false]
  exact ⟨trivial, trivial, by simp, by simp, hall⟩

theorem replaceRangeSpans_beyond {cw : Nat → Nat} {S : List Span} (hwf : AllWF cw S) (hS : S ≠ []) {x : Nat}
    (hx : sumWidths S ≤ x) (n : Nat) (ins : Span) (keep : Bool) :
    replaceRangeSpans cw S x n ins keep = ((if ins.width > 0 then S ++ [ins] else S), {}) := by
  have hSe : S.isEmpty = false := by
    cases S with
    | nil => exact absurd rfl hS
    | cons _ _ => rfl
  have hW : 0 < sumWidths S := by
    rcases Nat.eq_zero_or_pos (sumWidths S) with h | h
    · exact absurd (sumWidths_zero hwf h) hS
    · exact h
  have hs : scanStart x S 0 0 = (none, sumWidths S) := by
    have := scanStart_none x S 0 0 (by omega); simpa using this
  unfold replaceRangeSpans
  by_cases hg : n = 0 ∧ ins.width = 0
  · simp [hg]
  · have c3 : ¬ (if x > sumWidths S then sumWidths S else x) = 0 := by split <;> omega
    simp only [hg, hSe, hs, c3, if_false, Bool.false_eq_true, false_and, if_true]

/-- The splice of a range that starts inside the row, with its boundary runs located: `sp`, after
    `S1`, holds column `x`; `esp`, after `T1` more runs, holds the end `x + m` of the range, where
    `m = min n (W - x)` is the count cut back to the row.  The code reaches the same runs whether
    its second scan finds the end (`n = m`) or runs off the row (`n > m`, then `esp` is the last
    run). -/
theorem rrs_located {cw : Nat → Nat} {S : List Span} (hwf : AllWF cw S) {x m : Nat}
    (hx : x < sumWidths S) (hxm : x + m ≤ sumWidths S) (ins : Span) (keep : Bool) :
    ∃ S1 sp S2 T1 esp T2, S = S1 ++ sp :: S2 ∧ sp :: S2 = T1 ++ esp :: T2 ∧
      sumWidths S1 ≤ x ∧ x < sumWidths S1 + sp.width ∧
      (T1 = [] ∨ sumWidths S1 + sumWidths T1 < x + m) ∧
      x + m ≤ sumWidths S1 + sumWidths T1 + esp.width ∧
      ∀ n, min n (sumWidths S - x) = m → ¬ (n = 0 ∧ ins.width = 0) →
        replaceRangeSpans cw S x n ins keep =
          rrsBody cw S x m ins keep S1.length (sumWidths S1) (S1.length + T1.length)
            (x + m - (sumWidths S1 + sumWidths T1)) sp esp := by
  obtain ⟨S1, sp, S2, hSeq, hscan, hp1, hp2⟩ := scanStart_some x S 0 0 (Nat.zero_le _) (by omega)
  simp only [Nat.zero_add] at hscan hp1 hp2
  have hsum : sumWidths S = sumWidths S1 + sumWidths (sp :: S2) := by rw [hSeq, sumWidths_append]
  obtain ⟨T1, esp, T2, hTeq, hscanE, hq1, hq2⟩ :=
    scanEnd_some (x + m) (sp :: S2) S1.length (sumWidths S1) (List.cons_ne_nil _ _) (hsum ▸ hxm)
  refine ⟨S1, sp, S2, T1, esp, T2, hSeq, hTeq, hp1, hp2, hq1, hq2, fun n hn hne => ?_⟩
  have hSe : S.isEmpty = false := by rw [hSeq]; cases S1 <;> rfl
  have hdrop : S.drop S1.length = sp :: S2 := by rw [hSeq]; exact List.drop_left' rfl
  have hgi : S.getD S1.length Span.empty = sp := by rw [hSeq]; exact getD_mid ..
  have hSeq2 : S = (S1 ++ T1) ++ esp :: T2 := by rw [hSeq, hTeq, List.append_assoc]
  have hgj : S.getD (S1.length + T1.length) Span.empty = esp := by
    rw [hSeq2, ← List.length_append]; exact getD_mid ..
  rcases Nat.lt_or_ge (sumWidths S - x) n with h | h
  · -- the range runs off the row: `x + m` is the end of the row, so `esp` is the last run
    rw [Nat.min_eq_right (Nat.le_of_lt h)] at hn
    subst hn
    have heL : scanEnd (x + n) (S.drop S1.length) S1.length (sumWidths S1) = (none, sumWidths S) := by
      rw [hdrop, hsum]; exact scanEnd_none _ _ _ _ (by omega)
    have hsw : sumWidths S = sumWidths S1 + sumWidths T1 + esp.width + sumWidths T2 := by
      rw [hSeq2]; simp; omega
    have hT2 : T2 = [] := sumWidths_zero (hSeq2 ▸ hwf).right.tail (by omega)
    subst hT2
    rw [rrs_unfold_over cw S x n ins keep S1.length (sumWidths S1) hSe hscan heL hx (by omega),
      show S.length - 1 = S1.length + T1.length by rw [hSeq2]; simp, hgi, hgj]
    congr 1
    rw [sumWidths_nil] at hsw; omega
  · rw [Nat.min_eq_left h] at hn
    subst hn
    rw [rrs_unfold cw S x n ins keep _ _ _ _ _ hne hSe hscan (hdrop ▸ hscanE) hq2, hgi, hgj]

/-! ### The outcomes of the splice, one by one

All but `splice_gen` are early exits or fast paths of the code; each of them is the general outcome
for a range whose two ends are character boundaries (`spliceSpec_boundaries`). -/

theorem splice_whole {cw : Nat → Nat} {S : List Span} {x n : Nat} {ins : Span} (keep : Bool)
    (hwf : AllWF cw S) (hins : SpanG cw ins) (hx : x = 0) (hn : n = sumWidths S) :
    SpliceSpec cw S x n ins keep ((if ins.width > 0 then [ins] else []), {}) :=
  spliceSpec_boundaries (P := []) (M := lineK cw S) (Q := []) (by simp) (posK_lineK hwf) (by rw [hx]; rfl)
    (by rw [wk_lineK hwf, hn]) rfl (by simp [lineK_opt hins]) (fun _ => allWF_opt hins)

theorem splice_end {cw : Nat → Nat} {S : List Span} {x n : Nat} {ins : Span} (keep : Bool)
    (hwf : AllWF cw S) (hins : SpanG cw ins) (hx : x = sumWidths S) (hn : n = 0) :
    SpliceSpec cw S x n ins keep (S ++ (if ins.width > 0 then [ins] else []), {}) :=
  spliceSpec_boundaries (P := lineK cw S) (M := []) (Q := []) (by simp) (posK_lineK hwf) (by rw [wk_lineK hwf, hx])
    (by rw [hn]; rfl) rfl (by simp [lineK_opt hins]) (fun _ => hwf.append (allWF_opt hins))

theorem splice_exact {cw : Nat → Nat} {S1 S2 : List Span} {sp : Span} {x n : Nat} {ins : Span}
    (keep : Bool) (hwf : AllWF cw (S1 ++ sp :: S2)) (hins : SpanG cw ins) (hx : x = sumWidths S1)
    (hn : n = sp.width) (hiw : 0 < ins.width) :
    SpliceSpec cw (S1 ++ sp :: S2) x n ins keep (S1 ++ ins :: S2, {}) :=
  spliceSpec_boundaries (P := lineK cw S1) (M := spanK cw sp) (Q := lineK cw S2) (by simp) (posK_lineK hwf)
    (by rw [wk_lineK hwf.left, hx]) (by rw [(SpanG.of_wf hwf.right.head).wk, hn]) rfl (by simp)
    (fun _ => hwf.left.append (AllWF.cons (hins.wf hiw) hwf.right.tail))

/-- same style, same repeated rune: nothing changes -/
theorem splice_same {cw : Nat → Nat} {S1 S2 : List Span} {sp : Span} {x n : Nat} {ins : Span}
    (keep : Bool) (hwf : AllWF cw (S1 ++ sp :: S2)) (hx1 : sumWidths S1 ≤ x)
    (hx2 : x + n ≤ sumWidths S1 + sp.width) (hwn : ins.width = n) (hsty : sp.sty = ins.sty)
    (hte : sp.text.isEmpty = true) (hie : ins.text.isEmpty = true) (hrune : sp.rune = ins.rune) :
    SpliceSpec cw (S1 ++ sp :: S2) x n ins keep (S1 ++ sp :: S2, {}) := by
  have hKsp : spanK cw sp = List.replicate sp.width ((encodeRune sp.rune, 1), sp.sty) := by
    simp [spanK, spanCl, hte]
  have hKins : spanK cw ins = List.replicate n ((encodeRune sp.rune, 1), sp.sty) := by
    simp [spanK, spanCl, hie, hwn, hsty, hrune]
  have hsplit : sp.width = (x - sumWidths S1) + (n + (sp.width - (x - sumWidths S1) - n)) := by omega
  have hL : lineK cw (S1 ++ sp :: S2) =
      (lineK cw S1 ++ List.replicate (x - sumWidths S1) ((encodeRune sp.rune, 1), sp.sty)) ++
      (List.replicate n ((encodeRune sp.rune, 1), sp.sty) ++
        (List.replicate (sp.width - (x - sumWidths S1) - n) ((encodeRune sp.rune, 1), sp.sty) ++ lineK cw S2)) := by
    rw [lineK_append, lineK_cons, hKsp]
    conv => lhs; rw [hsplit]
    simp only [← List.replicate_append_replicate, List.append_assoc]
  refine spliceSpec_boundaries hL (posK_lineK hwf) (by rw [wk_append, wk_lineK hwf.left, wk_replicate1 _ _ _ rfl]; omega)
    (wk_replicate1 _ _ _ rfl) rfl ?_ (fun _ => hwf)
  rw [hL, hKins]; simp

/-- both runs one cell per byte: the text is patched -/
theorem splice_ascii {cw : Nat → Nat} {S1 S2 : List Span} {sp : Span} {x n : Nat} {ins : Span}
    (keep : Bool) (hwf : AllWF cw (S1 ++ sp :: S2)) (hins : SpanG cw ins) (hx1 : sumWidths S1 ≤ x)
    (hx2 : x + n ≤ sumWidths S1 + sp.width) (hwn : ins.width = n) (hsty : sp.sty = ins.sty)
    (hte : sp.text.isEmpty = false) (hie : ins.text.isEmpty = false)
    (ha1 : oneCellPerByte sp = true) (ha2 : oneCellPerByte ins = true) :
    SpliceSpec cw (S1 ++ sp :: S2) x n ins keep
      (S1 ++ { sp with text := (sp.text.take (x - sumWidths S1) ++ ins.text ++
          sp.text.drop (x - sumWidths S1 + n)) } :: S2, {}) := by
  have hwfsp := hwf.right.head
  have htok := (spanWF_text hwfsp hte).1
  have hiw : 0 < ins.width := by
    rcases Nat.eq_zero_or_pos ins.width with h | h
    · have hz := ((oneCellPerByte_iff ins).1 ha2).1
      rw [h] at hz
      rw [List.eq_nil_of_length_eq_zero hz.symm] at hie; cases hie
    · exact h
  obtain ⟨itok, iflat, iws⟩ := spanWF_text (hins.wf hiw) hie
  have hlen := ((oneCellPerByte_iff sp).1 ha1).1
  have hK := spanK_text (cw := cw) hte
  rw [oneCellPerByte_clusters hwfsp hte ha1] at htok hK
  generalize hso : x - sumWidths S1 = so
  replace hso : sumWidths S1 + so = x := by omega
  have hson : so + n ≤ sp.text.length := by omega
  -- the text in three parts: left of the range, the range, right of it
  have hsplit : sp.text = sp.text.take so ++ ((sp.text.drop so).take n ++ sp.text.drop (so + n)) := by
    rw [← List.drop_drop, List.take_append_drop, List.take_append_drop]
  have htokN : Toks cw ((sp.text.take so).map (fun b => ([b], 1)) ++ clusters cw ins.text ++
      (sp.text.drop (so + n)).map fun b => ([b], 1)) := by
    rw [List.map_take, List.map_drop]
    exact (Toks.append (Toks.append (fun q hq => htok q (List.mem_of_mem_take hq)) itok)
      (fun q hq => htok q (List.mem_of_mem_drop hq)))
  have hnew : ({ sp with text := sp.text.take so ++ ins.text ++ sp.text.drop (so + n) } : Span) =
      sub sp ((sp.text.take so).map (fun b => ([b], 1)) ++ clusters cw ins.text ++
        (sp.text.drop (so + n)).map fun b => ([b], 1)) := by
    simp only [sub, flat_append, ws_append, flat_map1, ws_map1, ← iflat, iws, List.length_take,
      List.length_drop]
    congr 1
    rw [Nat.min_eq_left (by omega)]; omega
  rw [hnew]
  have hL : lineK cw (S1 ++ sp :: S2) =
      (lineK cw S1 ++ ((sp.text.take so).map fun b => ([b], 1)).map (fun c => (c, sp.sty))) ++
      ((((sp.text.drop so).take n).map fun b => ([b], 1)).map (fun c => (c, sp.sty)) ++
        (((sp.text.drop (so + n)).map fun b => ([b], 1)).map (fun c => (c, sp.sty)) ++ lineK cw S2)) := by
    rw [lineK_append, lineK_cons, hK]
    conv => lhs; rw [hsplit]
    simp only [List.map_append, List.append_assoc]
  refine spliceSpec_boundaries hL (posK_lineK hwf) ?_ ?_ rfl ?_ (fun _ => ?_)
  · rw [wk_append, wk_lineK hwf.left, wk_map, ws_map1, List.length_take, Nat.min_eq_left (by omega)]
    omega
  · rw [wk_map, ws_map1, List.length_take, List.length_drop, Nat.min_eq_left (by omega)]
  · rw [lineK_append, lineK_cons, spanK_sub sp htokN, spanK_text hie]
    simp only [List.map_append, hsty, cellsK_append, List.append_assoc]
  · exact hwf.left.append (AllWF.cons ((spanG_sub sp htokN).wf (by
      simp only [sub_width, ws_append]; rw [iws]; omega)) hwf.right.tail)

theorem splice_gen {cw : Nat → Nat} {S S1 S2 T1 T2 : List Span} {sp esp : Span} {x n : Nat} {ins : Span}
    (keep : Bool) (hwf : AllWF cw S) (hSeq : S = S1 ++ sp :: S2) (hSeq2 : S = (S1 ++ T1) ++ esp :: T2)
    (hins : SpanG cw ins) (hp1 : sumWidths S1 ≤ x) (hp2 : x < sumWidths S1 + sp.width)
    (hb1 : sumWidths S1 + sumWidths T1 ≤ x + n) (hb2 : x + n ≤ sumWidths S1 + sumWidths T1 + esp.width) :
    SpliceSpec cw S x n ins keep
      (rrsGen cw S x ins keep S1.length (sumWidths S1) (S1.length + T1.length)
        (x + n - (sumWidths S1 + sumWidths T1)) sp esp) := by
  have hsumU : sumWidths (S1 ++ T1) = sumWidths S1 + sumWidths T1 := sumWidths_append ..
  have hx : sumWidths S1 + (x - sumWidths S1) = x := Nat.add_sub_cancel' hp1
  have hxn : sumWidths S1 + sumWidths T1 + (x + n - (sumWidths S1 + sumWidths T1)) = x + n :=
    Nat.add_sub_cancel' hb1
  have hL := leftPart_spec (cw := cw) (S1 := S1) (S2 := S2) (sp := sp) (hSeq ▸ hwf)
    (Nat.sub_lt_left_of_lt_add hp1 hp2) keep ins.sty
  have hR := rightPart_spec (cw := cw) (U1 := S1 ++ T1) (T2 := T2) (esp := esp) (hSeq2 ▸ hwf)
    (eo := x + n - (sumWidths S1 + sumWidths T1)) (by omega) ins.sty
  simp only [← hSeq, ← hSeq2, hsumU, hx, hxn] at hL hR
  obtain ⟨hL1, hL2, hL3, hL4⟩ := hL
  obtain ⟨hR1, hR2, hR3⟩ := hR
  have htake : S.take S1.length = S1 := by rw [hSeq]; exact List.take_left' rfl
  have hdropj : S.drop (S1.length + T1.length + 1) = T2 := by
    rw [hSeq2, ← List.length_append]; exact drop_mid ..
  unfold rrsGen SpliceSpec
  simp only [htake, hdropj, lineK_append, lineK_midOf _ _ hL2 hR2 hins, cellsK_append, cellsK_blanksK]
  refine ⟨?_, hL3, hL4, hR3, fun hb => ?_⟩
  · rw [← hL1, ← hR1]; simp only [List.append_assoc]
  · exact ((hSeq ▸ hwf).left.append (allWF_midOf _ _ hb hL2 hR2 hins)).append (hSeq2 ▸ hwf).right.tail

theorem splice_spec {cw : Nat → Nat} {S : List Span} {x n : Nat} {ins : Span} (keep : Bool)
    (hwf : AllWF cw S) (hxn : x + n ≤ sumWidths S) (hins : SpanG cw ins)
    (hne : ¬ (n = 0 ∧ ins.width = 0)) :
    SpliceSpec cw S x n ins keep (replaceRangeSpans cw S x n ins keep) := by
  by_cases hS : S = []
  · subst hS
    have hrr : replaceRangeSpans cw [] x n ins keep = ((if ins.width > 0 then [ins] else []), {}) := by
      unfold replaceRangeSpans; simp only [hne, List.isEmpty_nil, if_false, if_true]
    rw [hrr]
    simp only [sumWidths_nil] at hxn
    exact splice_whole keep hwf hins (by omega) (by rw [sumWidths_nil]; omega)
  by_cases hxW : x = sumWidths S
  · have hn : n = 0 := by omega
    have hiw : ins.width > 0 := by omega
    rw [replaceRangeSpans_beyond hwf hS (Nat.le_of_eq hxW.symm)]
    have := splice_end keep hwf hins hxW hn
    simpa only [hiw, if_true] using this
  -- the range starts inside the row: run `sp` after `S1`, and ends in run `esp` after `S1 ++ T1`
  obtain ⟨S1, sp, S2, T1, esp, T2, hSeq, hTeq, hp1, hp2, hq1, hq2, hrr⟩ :=
    rrs_located hwf (x := x) (m := n) (by omega) hxn ins keep
  rw [hrr n (Nat.min_eq_left (by omega)) hne]
  subst hSeq
  have hlen : (S1 ++ sp :: S2).length = S1.length + T1.length + 1 + T2.length := by
    simp only [hTeq, List.length_append, List.length_cons]; omega
  have hb1 : sumWidths S1 + sumWidths T1 ≤ x + n := by
    rcases hq1 with h | h
    · subst h; simp only [sumWidths_nil]; omega
    · omega
  -- a range inside a single run
  have hsame : S1.length = S1.length + T1.length → T1 = [] ∧ esp = sp ∧ T2 = S2 := by
    intro h
    have : T1 = [] := List.eq_nil_of_length_eq_zero (by omega)
    subst this
    rw [List.nil_append, List.cons.injEq] at hTeq
    exact ⟨rfl, hTeq.1.symm, hTeq.2.symm⟩
  have hwfS1 : sumWidths S1 = 0 → S1 = [] := sumWidths_zero hwf.left
  clear hrr hS hxW
  unfold rrsBody
  -- the conditions of `rrsBody` in its order (whole row, append, exact, same rune, ASCII patch, else
  -- the general path); `split` on this cascade is dear, so they are taken by hand
  refine iteInduction (fun hc => ?_) fun _ => iteInduction (fun hc => ?_) fun _ =>
    iteInduction (fun hc => ?_) fun _ => iteInduction (fun hc => ?_) fun _ =>
    iteInduction (fun hc => ?_) fun _ => ?_
  · obtain ⟨hx0, hj, heo⟩ := hc
    have hT2 : T2 = [] := List.eq_nil_of_length_eq_zero (by omega)
    refine splice_whole keep hwf hins hx0 ?_
    have hsw : sumWidths (S1 ++ sp :: S2) = sumWidths S1 + sumWidths T1 + esp.width := by
      simp only [hTeq, hT2, sumWidths_append, sumWidths_cons, sumWidths_nil]; omega
    omega
  · omega
  · obtain ⟨hij, hso, heo, hiw⟩ := hc
    obtain ⟨hT1, hesp, hT2⟩ := hsame hij
    subst hT1 hesp hT2
    have hx : x = sumWidths S1 := Nat.le_antisymm (Nat.le_of_sub_eq_zero hso) hp1
    rw [sumWidths_nil, Nat.add_zero, hx, Nat.add_sub_cancel_left] at heo
    rw [set_mid]
    exact splice_exact keep hwf hins hx heo hiw
  · obtain ⟨hij, hwn, hsty, hte, hie, hrune⟩ := hc
    obtain ⟨hT1, hesp, hT2⟩ := hsame hij
    subst hT1 hesp hT2
    simp only [sumWidths_nil, Nat.add_zero] at hq2
    exact splice_same keep hwf hp1 hq2 hwn hsty hte hie hrune
  · obtain ⟨hij, hwn, hsty, hte, hie, ha1, ha2⟩ := hc
    obtain ⟨hT1, hesp, hT2⟩ := hsame hij
    subst hT1 hesp hT2
    simp only [sumWidths_nil, Nat.add_zero] at hq2
    rw [set_mid]
    exact splice_ascii keep hwf hins hp1 hq2 hwn hsty (by simpa only [Bool.not_eq_true'] using hte)
      (by simpa only [Bool.not_eq_true'] using hie) ha1 ha2
  · exact splice_gen keep hwf rfl (by rw [hTeq, List.append_assoc]) hins hp1 hp2 hb1 hq2

/-! ### a range that reaches beyond the row is clamped -/

/-- the splice with `x + n > W` is the splice with `x := min x W`, `n := W - min x W` -/
theorem replaceRangeSpans_clamp {cw : Nat → Nat} {S : List Span} (hwf : AllWF cw S) {x n : Nat}
    (hxn : x + n > sumWidths S) (ins : Span) (keep : Bool) :
    replaceRangeSpans cw S x n ins keep =
      replaceRangeSpans cw S (min x (sumWidths S)) (sumWidths S - min x (sumWidths S)) ins keep := by
  by_cases hS : S = []
  · subst hS
    unfold replaceRangeSpans
    by_cases hi : ins.width = 0 <;> simp [hi]
  by_cases hx : sumWidths S ≤ x
  · rw [Nat.min_eq_right hx, replaceRangeSpans_beyond hwf hS hx, replaceRangeSpans_beyond hwf hS (Nat.le_refl _)]
  · obtain ⟨_, _, _, _, _, _, _, _, _, _, _, _, hrr⟩ :=
      rrs_located hwf (x := x) (m := sumWidths S - x) (by omega) (by omega) ins keep
    rw [Nat.min_eq_left (by omega), hrr n (Nat.min_eq_right (by omega)) (by omega),
      hrr _ (Nat.min_self _) (by omega)]

theorem replaceRangeWide_clamp {cw : Nat → Nat} {l : SLine} (hwf : AllWF cw l.spans) {x n : Nat}
    (hxn : x + n > sumWidths l.spans) (ins : Span) (keep : Bool) :
    replaceRangeWide cw l x n ins keep =
      replaceRangeWide cw l (min x (sumWidths l.spans))
        (sumWidths l.spans - min x (sumWidths l.spans)) ins keep := by
  unfold replaceRangeWide
  rw [replaceRangeSpans_clamp hwf hxn]

/-! ## the splice on `SLine`, in the terms of `TM.Screen` -/

/-- an inserted run is a well-formed run, or the empty run of width 0 -/
def InsOK (cw : Nat → Nat) (ins : Span) : Prop :=
  spanWF cw ins = true ∨ (ins.width = 0 ∧ ins.text = [])

theorem InsOK.spanG {cw : Nat → Nat} {ins : Span} (h : InsOK cw ins) : SpanG cw ins := by
  rcases h with h | ⟨h1, h2⟩
  · exact SpanG.of_wf h
  · have : spanCl cw ins = [] := by simp [spanCl, h1, h2]
    refine ⟨?_, ?_, ?_⟩
    · rw [this, h1]; rfl
    · rw [this]; intro p hp; cases hp
    · omega

/-- The splice on a whole row, in the terms of `TM.Screen`; every caller goes through this.
    With `keep`, a wide character that `x` cuts stays and the insert lands after it, `shift` cells
    further right; otherwise the range is replaced between the cuts at `x` and `x + n`. -/
theorem replaceRangeWide_spec {cw : Nat → Nat} {l : SLine} {x n : Nat} {ins : Span}
    (hwf : AllWF cw l.spans) (hxn : x + n ≤ sumWidths l.spans) (hins : InsOK cw ins)
    (hne : 0 < n ∨ 0 < ins.width) (keep : Bool) :
    let R := lineCells cw l
    let out := replaceRangeWide cw l x n ins keep
    lineCells cw out.1 = (if keep = true ∧ contAt R x = true
      then R.take (endOf R x) ++ spanCells cw ins ++ dropB R (x + n) ins.sty
      else rowIns R x (spanCells cw ins) n ins.sty) ∧
    out.2.shift = (if keep = true ∧ contAt R x = true then endOf R x - x else 0) ∧
    out.2.startFill = (if keep = true ∧ contAt R x = true then 0 else x - headOf R x) ∧
    out.2.endFill = endOf R (x + n) - (x + n) ∧
    (cw 0x20 ≤ 1 → lineWF cw (sumWidths l.spans - n + ins.width + out.2.shift) out.1 = true) := by
  intro R out
  obtain ⟨h1, h2, h3, h4, h5⟩ := splice_spec keep hwf hxn hins.spanG (by omega)
  rw [← lineCells_eq cw l] at h1 h2 h3 h4
  refine ⟨?_, h2, h3, h4, fun hb => ?_⟩
  · show lineCells cw ⟨(replaceRangeSpans cw l.spans x n ins keep).1, _⟩ = _
    rw [lineCells_eq, h1, ← spanCells_eq]; unfold rowIns; split <;> rfl
  · -- the width after the splice: `n` cells go, the insert and the shift come
    have hR := rowWF_lineCells hwf
    have hW := lineCells_length hwf
    have hlen := congrArg List.length h1
    rw [cellsK_length (posK_lineK (h5 hb)), wk_lineK (h5 hb)] at hlen
    have hsw : sumWidths (replaceRangeSpans cw l.spans x n ins keep).1 =
        sumWidths l.spans - n + ins.width + (replaceRangeSpans cw l.spans x n ins keep).2.shift := by
      rw [hlen, h2]
      simp only [List.length_append, dropB_length hR, hW, ← spanCells_eq, spanCells_length hins.spanG]
      split
      · next hc =>
        have := endOf_bounds hR hc.2
        rw [List.length_take, hW]; omega
      · rw [takeB_length hR (by omega)]; omega
    exact lineWF_iff.2 ⟨h5 hb, hsw, hsw⟩

/-- `keep = false` or the range starts on a character boundary: the new row is the old one
    with the wide characters cut by either end blanked, and the range replaced by the insert. -/
theorem replaceRangeWide_cells {cw : Nat → Nat} {l : SLine} {x n : Nat} {ins : Span} {keep : Bool}
    (hwf : AllWF cw l.spans) (hxn : x + n ≤ sumWidths l.spans) (hins : InsOK cw ins)
    (hne : 0 < n ∨ 0 < ins.width) (hk : keep = false ∨ contAt (lineCells cw l) x = false) :
    let R := lineCells cw l
    let R₁ := blankStraddlers R x (x + n) ins.sty
    let out := replaceRangeWide cw l x n ins keep
    lineCells cw out.1 = R₁.take x ++ spanCells cw ins ++ R₁.drop (x + n) ∧
    out.2.shift = 0 ∧
    out.2.startFill = (if contAt R x then x - headOf R x else 0) ∧
    out.2.endFill = (if contAt R (x + n) then
      headOf R (x + n) + widthAt R (headOf R (x + n)) - (x + n) else 0) := by
  intro R R₁ out
  obtain ⟨h1, h2, h3, h4, _⟩ := replaceRangeWide_spec hwf hxn hins hne keep
  have hc : ¬ (keep = true ∧ contAt (lineCells cw l) x = true) := by rcases hk with h | h <;> simp [h]
  rw [if_neg hc] at h1 h2 h3
  obtain ⟨s1, s2⟩ := blankStraddlers_cut (rowWF_lineCells hwf) (Nat.le_add_right x n)
    (by rw [lineCells_length hwf]; exact hxn) ins.sty
  refine ⟨by rw [h1, s1, s2]; rfl, h2, ?_, ?_⟩
  · rw [h3]
    split
    · rfl
    · next hnc => rw [headOf_of_not_cont (by simpa using hnc)]; omega
  · rw [h4]; unfold endOf; split <;> simp [R]

/-- `keep = true` and the range starts inside a wide character: that character is kept and
    the insert lands after it. -/
theorem replaceRangeWide_cells_keep {cw : Nat → Nat} {l : SLine} {x n : Nat} {ins : Span}
    (hwf : AllWF cw l.spans) (hxn : x + n ≤ sumWidths l.spans) (hins : InsOK cw ins)
    (hne : 0 < n ∨ 0 < ins.width) (hk : contAt (lineCells cw l) x = true) :
    let R := lineCells cw l
    let e := headOf R x + widthAt R (headOf R x)
    let b := x + n
    let tail := if b < e then List.replicate (e - b) (blank ins.sty) ++ R.drop e
                else (if contAt R b then blankCharAt R b ins.sty else R).drop b
    let out := replaceRangeWide cw l x n ins true
    lineCells cw out.1 = R.take e ++ spanCells cw ins ++ tail ∧ out.2.shift = e - x ∧
    out.2.startFill = 0 ∧
    out.2.endFill = (if contAt R b then headOf R b + widthAt R (headOf R b) - b else 0) := by
  intro R e b tail out
  obtain ⟨h1, h2, h3, h4, _⟩ := replaceRangeWide_spec hwf hxn hins hne true
  have he : endOf (lineCells cw l) x = e := by simp only [endOf, hk, if_true, e, R]
  rw [if_pos ⟨rfl, hk⟩] at h1 h2 h3
  rw [he] at h1 h2
  refine ⟨?_, h2, h3, ?_⟩
  · rw [h1, ← dropB_keepTail (rowWF_lineCells hwf) hk (Nat.le_add_right x n)]
  · rw [h4]; unfold endOf; split <;> simp [R, b]

/-- the splice keeps the row invariant (blank runs are well formed when a space is at most one
    cell wide), the cached width is the sum of the run widths and the number of cells -/
theorem replaceRangeWide_wf {cw : Nat → Nat} {l : SLine} {x n : Nat} {ins : Span} (keep : Bool)
    (hwf : AllWF cw l.spans) (hxn : x + n ≤ sumWidths l.spans) (hins : InsOK cw ins)
    (hne : 0 < n ∨ 0 < ins.width) (hb : cw 0x20 ≤ 1) :
    let out := replaceRangeWide cw l x n ins keep
    AllWF cw out.1.spans ∧ out.1.width = sumWidths out.1.spans ∧
    (lineCells cw out.1).length = sumWidths out.1.spans := by
  intro out
  obtain ⟨hall, hsum, hwid⟩ := lineWF_iff.1 ((replaceRangeWide_spec hwf hxn hins hne keep).2.2.2.2 hb)
  exact ⟨hall, hwid.trans hsum.symm, lineCells_length hall⟩

theorem replaceRangeWide_noop (cw : Nat → Nat) (l : SLine) (x : Nat) (ins : Span) (keep : Bool)
    (h0 : ins.width = 0) :
    replaceRangeWide cw l x 0 ins keep = ({ spans := l.spans, width := sumWidths l.spans }, {}) := by
  simp [replaceRangeWide, replaceRangeSpans, h0]

/-- without `keep` the range is replaced between the two cuts and nothing is shifted -/
theorem replaceRangeWide_false {cw : Nat → Nat} {W : Nat} {l : SLine} (hl : lineWF cw W l = true) (hb : cw 0x20 ≤ 1)
    {x n : Nat} {ins : Span} (hxn : x + n ≤ W) (hins : InsOK cw ins) (hne : 0 < n ∨ 0 < ins.width) :
    lineCells cw (replaceRangeWide cw l x n ins false).1 =
      rowIns (lineCells cw l) x (spanCells cw ins) n ins.sty ∧
    lineWF cw (W - n + ins.width) (replaceRangeWide cw l x n ins false).1 = true := by
  obtain ⟨hwf, rfl, _⟩ := lineWF_iff.1 hl
  obtain ⟨h1, h2, _, _, h5⟩ := replaceRangeWide_spec hwf hxn hins hne false
  simp only [Bool.false_eq_true, false_and, if_false] at h1 h2
  rw [h2] at h5
  exact ⟨h1, h5 hb⟩

/-! ## the callers refine the cell-level operations of `TM.Screen` -/

theorem spanCells_blankSpan (cw : Nat → Nat) (st : Style) (w : Nat) :
    spanCells cw (blankSpan st w) = List.replicate w (blank st) := by
  rw [spanCells_eq, spanK_blankSpan, cellsK_blanksK]

theorem insOK_blankSpan {cw : Nat → Nat} (hb : cw 0x20 ≤ 1) (st : Style) (w : Nat) :
    InsOK cw (blankSpan st w) := by
  by_cases h : 0 < w
  · exact Or.inl (spanWF_blankSpan hb st h)
  · exact Or.inr ⟨by simp [blankSpan]; omega, rfl⟩

theorem insOK_empty (cw : Nat → Nat) (st : Style) : InsOK cw ⟨st, [], 0, 0⟩ := Or.inr ⟨rfl, rfl⟩

theorem spanCells_emptyIns (cw : Nat → Nat) (st : Style) : spanCells cw ⟨st, [], 0, 0⟩ = [] := by
  simp [spanCells]

/-- a spliced row of the screen's width is not cut back by `writeSpanAt` -/
theorem writeSpanLine_fit {cw : Nat → Nat} {W : Nat} (cur : Style) {l : SLine} {x : Nat} (sp : Span)
    {keep : Bool} (h : lineWF cw W (replaceRangeWide cw l x sp.width sp keep).1 = true) :
    writeSpanLine cw W cur l x sp keep =
      ((replaceRangeWide cw l x sp.width sp keep).1, (replaceRangeWide cw l x sp.width sp keep).2.shift,
        x - (replaceRangeWide cw l x sp.width sp keep).2.startFill,
        x + sp.width + (replaceRangeWide cw l x sp.width sp keep).2.endFill) := by
  simp only [writeSpanLine, lineCellWidth_of_lineWF h, Nat.lt_irrefl, if_false]

theorem lineCells_blankSpanLine (cw : Nat → Nat) (w : Nat) (st : Style) :
    lineCells cw (blankSpanLine w st) = blankRow w st := by
  simp [lineCells, blankSpanLine, spanCells_blankSpan, blankRow]

theorem blankSpanLine_refines {cw : Nat → Nat} (hb : cw 0x20 ≤ 1) {w : Nat} (hw : 0 < w) (st : Style) :
    lineCells cw (blankSpanLine w st) = blankRow w st ∧ lineWF cw w (blankSpanLine w st) = true :=
  ⟨lineCells_blankSpanLine cw w st, lineWF_iff.2
    ⟨AllWF.cons (spanWF_blankSpan hb st hw) (AllWF.nil cw), by simp [blankSpanLine, blankSpan], rfl⟩⟩

theorem eraseLine_empty (cw : Nat → Nat) (W : Nat) (cur : Style) (l : SLine) {a b : Nat} (h : b ≤ a) :
    eraseLine cw W cur l a b = l := by
  simp [eraseLine, h]

/-- `eraseRegion` on one row is `Row.erase` -/
theorem eraseLine_refines {cw : Nat → Nat} {W : Nat} {l : SLine} (hl : lineWF cw W l = true)
    (hb : cw 0x20 ≤ 1) (cur : Style) {a b : Nat} (hab : a < b) (hbW : b ≤ W) :
    lineCells cw (eraseLine cw W cur l a b) = Row.erase (lineCells cw l) a b cur ∧
    lineWF cw W (eraseLine cw W cur l a b) = true := by
  obtain ⟨h1, h2⟩ := replaceRangeWide_false hl hb (x := a) (n := b - a) (by omega) (insOK_blankSpan hb cur (b - a))
    (Or.inl (by omega))
  have hW : W - (b - a) + (blankSpan cur (b - a)).width = W := by
    show W - (b - a) + (b - a) = W; omega
  rw [hW] at h2
  have he : eraseLine cw W cur l a b =
      (replaceRangeWide cw l a (b - a) (blankSpan cur (b - a)) false).1 := by
    unfold eraseLine
    rw [if_neg (by omega), writeSpanLine_fit cur _ h2]; rfl
  rw [he, h1, spanCells_blankSpan]
  exact ⟨(erase_rowIns (rowWF_lineCells (lineWF_iff.1 hl).1) hab
    (by rw [lineWF_length hl]; exact hbW) cur).symm, h2⟩

/-- `deleteChars` on one row is `Row.dch` -/
theorem deleteCharsLine_refines {cw : Nat → Nat} {W : Nat} {l : SLine} (hl : lineWF cw W l = true)
    (hb : cw 0x20 ≤ 1) (cur : Style) {x n : Nat} (hx : x < W) (hn : 0 < n) :
    lineCells cw (deleteCharsLine cw W cur l x n).1 = Row.dch (lineCells cw l) x n cur ∧
    lineWF cw W (deleteCharsLine cw W cur l x n).1 = true := by
  have hn' : (if x + n > W then W - x else n) = min n (W - x) := by split <;> omega
  obtain ⟨h1, h2⟩ := replaceRangeWide_false hl hb (x := x) (n := min n (W - x)) (by omega) (insOK_empty cw cur)
    (Or.inl (by omega))
  obtain ⟨w1, w2, w3⟩ := lineWF_iff.1 h2
  simp only [Nat.add_zero] at w2 w3
  -- the splice leaves a row `min n (W - x)` cells short; a blank run is appended
  have hd : (deleteCharsLine cw W cur l x n).1 =
      { spans := (replaceRangeWide cw l x (min n (W - x)) ⟨cur, [], 0, 0⟩ false).1.spans ++
          [blankSpan cur (min n (W - x))], width := W } := by
    unfold deleteCharsLine
    simp only [hn', lineCellWidth_of_lineWF h2, Nat.add_zero,
      show W - min n (W - x) < W by omega, if_true, show W - (W - min n (W - x)) = min n (W - x) by omega]
  rw [hd, dch_rowIns (rowWF_lineCells (lineWF_iff.1 hl).1) (by rw [lineWF_length hl]; exact hx) hn,
    lineWF_length hl, ← spanCells_emptyIns cw cur, ← h1]
  constructor
  · simp [lineCells, spanCells_blankSpan]
  · rw [lineWF_iff]
    refine ⟨w1.append (AllWF.cons (spanWF_blankSpan hb cur (by omega)) (AllWF.nil cw)), ?_, rfl⟩
    simp only [sumWidths_append, sumWidths_cons, sumWidths_nil, w2, blankSpan]; omega

/-- `truncateLine` is `cutRow` -/
theorem truncateLine_refines {cw : Nat → Nat} {W : Nat} {l : SLine} (hl : lineWF cw W l = true)
    (hb : cw 0x20 ≤ 1) (st : Style) {w : Nat} (hw : 0 < w) (hwW : w ≤ W) :
    lineCells cw (truncateLine cw l w st) = cutRow (lineCells cw l) w st ∧
    lineWF cw w (truncateLine cw l w st) = true := by
  obtain ⟨hwf, hsum, _⟩ := lineWF_iff.1 hl
  have hR := rowWF_lineCells hwf
  have hlen := lineWF_length hl
  have ht : truncateLine cw l w st = (replaceRangeWide cw l w (W - w) ⟨st, [], 0, 0⟩ false).1 := by
    unfold truncateLine; simp only [show ¬ w = 0 by omega, if_false, lineCellWidth_of_lineWF hl]
  rw [ht]
  by_cases he : w = W
  · subst he
    rw [Nat.sub_self, replaceRangeWide_noop cw l w ⟨st, [], 0, 0⟩ false rfl,
      cutRow_eq_fitRow st (by omega), fitRow_self st hlen]
    exact ⟨rfl, lineWF_iff.2 ⟨hwf, hsum, hsum⟩⟩
  · obtain ⟨h1, h2⟩ := replaceRangeWide_false hl hb (x := w) (n := W - w) (by omega) (insOK_empty cw st)
      (Or.inl (by omega))
    have hend := rowIns_end hR (w := w) (by omega) st
    rw [hlen] at hend
    rw [h1, spanCells_emptyIns, hend, cutRow_takeB hR (by omega)]
    exact ⟨rfl, by rw [show W - (W - w) + 0 = w by omega] at h2; exact h2⟩

/-- `resizeLine` is `fitRow`, for every new width -/
theorem resizeLine_refines {cw : Nat → Nat} {W : Nat} {l : SLine} (hl : lineWF cw W l = true)
    (hb : cw 0x20 ≤ 1) (st : Style) (w : Nat) :
    lineCells cw (resizeLine cw l w st) = fitRow (lineCells cw l) w st ∧
    lineWF cw w (resizeLine cw l w st) = true := by
  obtain ⟨hwf, hsum, hwid⟩ := lineWF_iff.1 hl
  have hlen := lineCells_length hwf
  have hcw := lineCellWidth_of_lineWF hl
  unfold resizeLine
  simp only [hcw]
  by_cases h1 : W > w
  · simp only [h1, if_true]
    have hf : fitRow (lineCells cw l) w st = cutRow (lineCells cw l) w st := by
      unfold fitRow cutRow; simp only [hlen, hsum, show W ≥ w by omega, if_true]
    by_cases h0 : w = 0
    · subst h0
      rw [hf]
      simp [truncateLine, cutRow, lineCells, lineWF, sumWidths]
    · rw [hf]; exact truncateLine_refines hl hb st (by omega) (by omega)
  · simp only [h1, if_false]
    by_cases h2 : W < w
    · simp only [h2, if_true]
      constructor
      · unfold fitRow
        simp only [hlen, hsum, show ¬ W ≥ w by omega, if_false]
        simp [lineCells, spanCells_blankSpan]
      · rw [lineWF_iff]
        refine ⟨hwf.append (AllWF.cons (spanWF_blankSpan hb st (by omega)) (AllWF.nil cw)), ?_, rfl⟩
        simp only [sumWidths_append, sumWidths_cons, sumWidths_nil, blankSpan]; omega
    · simp only [h2, if_false]
      have he : w = W := by omega
      subst he
      exact ⟨(fitRow_self (r := lineCells cw l) st (hlen.trans hsum)).symm, lineWF_iff.2 ⟨hwf, hsum, rfl⟩⟩

/-- one character written by `writeSpanAt(…, CRText)` is `Row.put`, or `Row.putKeep` when the
    cursor stands inside a wide character (which is kept; the text lands after it). The hypothesis
    `hsp` follows from `hcl` (`C02SpanScreen.spanWF_of_token`). -/
theorem writeChar_refines {cw : Nat → Nat} {W : Nat} {l : SLine} (hl : lineWF cw W l = true)
    (hb : cw 0x20 ≤ 1) (cur : Style) {x w : Nat} {bytes : Bytes}
    (hsp : spanWF cw ⟨cur, bytes, 0, w⟩ = true) (hcl : clusters cw bytes = [(bytes, w)])
    (hxw : x + w ≤ W) :
    let R := lineCells cw l
    let res := writeSpanLine cw W cur l x ⟨cur, bytes, 0, w⟩ true
    lineCells cw res.1 = (if contAt R x then Row.putKeep R x bytes w cur else Row.put R x bytes w cur) ∧
    lineWF cw W res.1 = true ∧
    res.2.1 = (if contAt R x then headOf R x + widthAt R (headOf R x) - x else 0) := by
  intro R res
  obtain ⟨hwf, hsum, _⟩ := lineWF_iff.1 hl
  have hw : 0 < w := spanWF_pos hsp
  have hR := rowWF_lineCells hwf
  have hlen := lineWF_length hl
  have hcc : spanCells cw ⟨cur, bytes, 0, w⟩ = charCells bytes w cur := by
    simp [spanCells, textCells, hcl, token_nonempty hcl]
  obtain ⟨k1, k2, _, _, k5⟩ := replaceRangeWide_spec hwf (x := x) (n := w) (by omega) (Or.inl hsp) (Or.inl hw) true
  replace k5 := k5 hb
  simp only [true_and, hcc, hsum, Nat.sub_add_cancel (show w ≤ W by omega)] at k1 k2 k5
  by_cases hc : contAt (lineCells cw l) x = true
  · -- the splice leaves the row `shift` cells too long: `writeSpanAt` cuts it back
    obtain ⟨e1, e2, _⟩ := endOf_bounds hR hc
    rw [if_pos hc] at k1 k2
    have hgt : W + (replaceRangeWide cw l x w ⟨cur, bytes, 0, w⟩ true).2.shift > W := by omega
    have hres : res = (truncateLine cw (replaceRangeWide cw l x w ⟨cur, bytes, 0, w⟩ true).1 W cur,
        (replaceRangeWide cw l x w ⟨cur, bytes, 0, w⟩ true).2.shift, 0, W) := by
      simp only [res, writeSpanLine, lineCellWidth_of_lineWF k5, hgt, if_true]
    obtain ⟨t1, t2⟩ := truncateLine_refines k5 hb cur (w := W) (by omega) (by omega)
    simp only [hres, R, hc, if_true]
    exact ⟨by rw [t1, k1, putKeep_rowIns hR hc, hlen], t2, by rw [k2]; simp [endOf, hc]⟩
  · rw [if_neg hc] at k1 k2
    rw [Bool.not_eq_true] at hc
    rw [k2, Nat.add_zero] at k5
    simp only [res, writeSpanLine_fit cur ⟨cur, bytes, 0, w⟩ k5, R, hc, Bool.false_eq_true, if_false]
    exact ⟨by rw [k1, put_rowIns hR hw (by omega)], k5, k2⟩

/-- the columns `writeSpanAt(…)` (not `CRText`) announces contain every changed cell, the row
    keeps its invariant and nothing is shifted -/
theorem writeSpanLine_false_announce {cw : Nat → Nat} {W : Nat} {l : SLine} (hl : lineWF cw W l = true)
    (hb : cw 0x20 ≤ 1) (cur : Style) {x : Nat} {sp : Span} (hsp : spanWF cw sp = true)
    (hxw : x + sp.width ≤ W) :
    let res := writeSpanLine cw W cur l x sp false
    lineWF cw W res.1 = true ∧ res.2.1 = 0 ∧
    lineCells cw res.1 =
      (blankStraddlers (lineCells cw l) x (x + sp.width) sp.sty).take x ++ spanCells cw sp ++
      (blankStraddlers (lineCells cw l) x (x + sp.width) sp.sty).drop (x + sp.width) ∧
    ∀ i, (i < res.2.2.1 ∨ res.2.2.2 ≤ i) → (lineCells cw res.1)[i]? = (lineCells cw l)[i]? := by
  intro res
  obtain ⟨hwf, hsum, _⟩ := lineWF_iff.1 hl
  have hR := rowWF_lineCells hwf
  have hlen := lineWF_length hl
  obtain ⟨k1, k2, k3, k4, k5⟩ := replaceRangeWide_spec hwf (x := x) (n := sp.width) (by omega) (Or.inl hsp)
    (Or.inl (spanWF_pos hsp)) false
  replace k5 := k5 hb
  simp only [Bool.false_eq_true, false_and, if_false, hsum,
    Nat.sub_add_cancel (show sp.width ≤ W by omega)] at k1 k2 k3 k4 k5
  rw [k2, Nat.add_zero] at k5
  have hres : res = ((replaceRangeWide cw l x sp.width sp false).1, 0,
      x - (x - headOf (lineCells cw l) x),
      x + sp.width + (endOf (lineCells cw l) (x + sp.width) - (x + sp.width))) := by
    simp only [res, writeSpanLine_fit cur sp k5, k2, k3, k4]
  obtain ⟨s1, s2⟩ := blankStraddlers_cut hR (Nat.le_add_right x sp.width) (by omega) sp.sty
  rw [hres]
  refine ⟨k5, rfl, by rw [k1, s1, s2]; rfl, fun i hi => ?_⟩
  -- the announced columns reach from the head of the character `x` cuts to the end of the one
  -- that `x + sp.width` cuts
  have h1 := headOf_le (lineCells cw l) x
  have h2 := le_endOf hR (x + sp.width)
  rw [k1]
  exact getElem?_rowIns_outside hR (by omega) (spanCells_length (SpanG.of_wf hsp)) _ (by
    simp only [] at hi; omega)

/-! ### `Line(y)` -/

/-- the text a cell contributes to `Line(y)` -/
def cellText (c : Cell) : Bytes :=
  match c.g with
  | .ch t _ => t
  | .cont => []

theorem cellText_charCells (b : Bytes) (w : Nat) (st : Style) :
    (charCells b w st).flatMap cellText = b := by
  have : ∀ n, (List.replicate n (⟨.cont, st⟩ : Cell)).flatMap cellText = [] := by
    intro n; induction n with
    | zero => rfl
    | succ n ih => simp [List.replicate_succ, cellText, ih]
  simp [charCells, cellText, this]

theorem cellText_cellsK (L : List K) : (cellsK L).flatMap cellText = L.flatMap (·.1.1) := by
  induction L with
  | nil => rfl
  | cons k r ih => simp [List.flatMap_append, cellText_charCells, ih]

/-- the bytes `Line(y)` and `ANSILine(y)` write for a run are the bytes of its characters -/
theorem spanText_flat {cw : Nat → Nat} {sp : Span} (h : spanWF cw sp = true) :
    (if sp.text.isEmpty then (List.replicate sp.width (encodeRune sp.rune)).flatten else sp.text) =
      flat (spanCl cw sp) := by
  unfold spanCl
  cases ht : sp.text.isEmpty
  · simp only [Bool.false_eq_true, if_false]; exact (spanWF_text h ht).2.1
  · simp only [if_true, flat_replicate1]

theorem flatMap_spanK (cw : Nat → Nat) (sp : Span) :
    (spanK cw sp).flatMap (·.1.1) = flat (spanCl cw sp) := by
  unfold spanK
  induction spanCl cw sp with
  | nil => rfl
  | cons c cs ih => simp [ih]

/-- `Line(y)` is the text of the cells -/
theorem lineText_refines {cw : Nat → Nat} {W : Nat} {l : SLine} (hl : lineWF cw W l = true) :
    lineText W l = (lineCells cw l).flatMap cellText := by
  obtain ⟨hwf, hsum, _⟩ := lineWF_iff.1 hl
  unfold lineText
  simp only [hsum, Nat.sub_self, List.replicate_zero, List.append_nil]
  rw [lineCells_eq, cellText_cellsK]
  clear hsum hl
  revert hwf
  generalize l.spans = S
  intro hwf
  induction S with
  | nil => rfl
  | cons sp r ih =>
    simp only [List.flatMap_cons, lineK_cons, List.flatMap_append]
    rw [ih hwf.tail, spanText_flat hwf.head, flatMap_spanK]

/-! ### the length of a row from `spanOK` alone

`lineCells_length` goes through `cellsK` and so asks for `spanWF`. The number of cells is fixed by
the weaker `spanOK` already (which the operations do not keep, `lineOK_not_preserved`): `stepRune`
gives no character the width 0. -/

theorem textCells_length (cw : Nat → Nat) (t : Bytes) (st : Style) :
    (textCells cw t st).length = ((clusters cw t).map (·.2)).sum := by
  have := cellsK_length (posK_map st (clustersAux_width_pos cw t.length t))
  rwa [cellsK_map, wk_map] at this

theorem spanCells_length_spanOK {cw : Nat → Nat} {sp : Span} (h : spanOK cw sp = true) :
    (spanCells cw sp).length = sp.width := by
  unfold spanOK at h
  unfold spanCells
  cases ht : sp.text.isEmpty
  · simp only [ht, Bool.false_eq_true, if_false, Bool.and_eq_true, textOK, decide_eq_true_eq] at h ⊢
    rw [textCells_length]; exact h.2.2
  · simp

theorem length_lineCells_spanOK {cw : Nat → Nat} {l : SLine} (h : l.spans.all (spanOK cw) = true) :
    (lineCells cw l).length = sumWidths l.spans := by
  unfold lineCells
  revert h
  generalize l.spans = S
  intro h
  induction S with
  | nil => rfl
  | cons sp r ih =>
    simp only [List.all_cons, Bool.and_eq_true] at h
    simp only [List.flatMap_cons, List.length_append, sumWidths_cons, ih h.2,
      spanCells_length_spanOK h.1]

/-! ## the finding about `lineOK`, non-vacuity, axioms -/

/-- `lineOK` of `TM/SpanLine.lean` is NOT preserved by `eraseLine`: the text `[0xE4, 0x41]` (a
    three-byte lead without its continuation bytes, and an `A`) is accepted as two one-cell
    characters, but after erasing the second cell the run `[0xE4]` (width 1) is left, which
    tokenises to nothing. -/
theorem lineOK_not_preserved :
    ∃ (cw : Nat → Nat) (W : Nat) (cur : Style) (l : SLine) (a b : Nat),
      lineOK cw W l = true ∧ a < b ∧ b ≤ W ∧ lineOK cw W (eraseLine cw W cur l a b) = false ∧
      (lineCells cw (eraseLine cw W cur l a b)).length ≠ W :=
  ⟨fun _ => 1, 2, ⟨0#32, 0#32, 0#32⟩, ⟨[⟨⟨0#32, 0#32, 0#32⟩, [0xE4, 0x41], 0, 2⟩], 2⟩, 1, 2,
    by decide, by decide, by decide, by decide, by decide⟩

/-- a width function for the examples: CJK and beyond are two cells wide -/
def cwEx : Nat → Nat := fun c => if c ≥ 0x1100 then 2 else 1
def stEx : Style := ⟨0#32, 0#32, 0#32⟩
/-- a row with a wide character and ASCII in one run, a one-cell-per-byte run and a blank run -/
def rowEx : SLine :=
  ⟨[⟨stEx, [0xe4, 0xb8, 0xad, 0x61, 0x62], 0, 4⟩, ⟨stEx, [0x78, 0x79], 0, 2⟩, blankSpan stEx 3], 9⟩

example : lineWF cwEx 9 rowEx = true := by decide
example : cwEx 0x20 ≤ 1 := by decide
example : contAt (lineCells cwEx rowEx) 1 = true := by decide
-- the hypotheses of `writeChar_refines` for a wide character written inside the wide character
example : spanWF cwEx ⟨stEx, [0xe4, 0xb8, 0xad], 0, 2⟩ = true ∧
    clusters cwEx [0xe4, 0xb8, 0xad] = [([0xe4, 0xb8, 0xad], 2)] ∧ 1 + 2 ≤ 9 := by decide
-- erasing from inside the wide character
example : lineCells cwEx (eraseLine cwEx 9 stEx rowEx 1 3) = Row.erase (lineCells cwEx rowEx) 1 3 stEx := by
  decide +kernel
example : InsOK cwEx (blankSpan stEx 2) := Or.inl (by decide)

#print axioms TM.C02Span.stepRune_append
#print axioms TM.C02Span.clustersAux_fuel_irrel
#print axioms TM.C02Span.clusters_flat
#print axioms TM.C02Span.clusters_ascii
#print axioms TM.C02Span.clusters_append_textOK
#print axioms TM.C02Span.length_lineCells_spanOK
#print axioms TM.C02Span.splitSpan_trivial
#print axioms TM.C02Span.splitSpan_cells
#print axioms TM.C02Span.splitSpan_spec
#print axioms TM.C02Span.oneCellPerByte_clusters
#print axioms TM.C02Span.splice_spec
#print axioms TM.C02Span.straddle
#print axioms TM.C02Span.replaceRangeWide_cells
#print axioms TM.C02Span.replaceRangeWide_cells_keep
#print axioms TM.C02Span.replaceRangeWide_wf
#print axioms TM.C02Span.replaceRangeWide_noop
#print axioms TM.C02Span.replaceRangeWide_clamp
#print axioms TM.C02Span.blankSpanLine_refines
#print axioms TM.C02Span.eraseLine_refines
#print axioms TM.C02Span.eraseLine_empty
#print axioms TM.C02Span.deleteCharsLine_refines
#print axioms TM.C02Span.truncateLine_refines
#print axioms TM.C02Span.resizeLine_refines
#print axioms TM.C02Span.writeChar_refines
#print axioms TM.C02Span.writeSpanLine_false_announce
#print axioms TM.C02Span.lineText_refines
#print axioms TM.C02Span.lineOK_not_preserved

end TM.C02Span
