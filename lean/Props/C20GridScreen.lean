import Props.C20GridRow
import Props.C02
/-!
# C20GridScreen — the screen of the cell-grid buffer shows the model's screen

`GScr.abs` reads a stored screen as a `TM.Scr`. Every operation of `TM/GridScreen.lean` (`scroll`,
`lineDown`, `lineUp`, `eraseRegion`, `dch`, `setCursor`, margins and saved cursor, `resize`, `put`)
commutes with `abs` and keeps `GScr.inv`: as many rows as the height, every row `w` consistent
cells that show a well-formed row (`RowInv`), and the geometry of the screen shown (`Geo`). That
is the model's `Scr.inv` of the screen shown together with the consistency of every cell
(`inv_iff_abs`): the first is kept because the model keeps it, the second because what holds of
every stored cell (`Cells P` for a `CellClosed P`) holds after each operation (`refines_of`).
The bounds that the row theorems of `Props/C20GridRow.lean` ask for are the guards of the Go code, met
here: the region of `eraseRegion` is clamped to the width (`eraseRow_abs`), `dch` deletes
`min n (w - cx)` cells, and before `put` writes the character fits (`preG_refines`, third part).
`put_refines'`: for any bytes, the screen shows the model's `put` of the re-encoded rune;
`put_refines`: of the bytes themselves for a token of the tokeniser.
-/
namespace TM.C20Grid
open TM

/-! ## the invariant and the fields through `abs` -/

theorem inv_iff {s : GScr} :
    GScr.inv s = true ↔ s.rows.length = s.h ∧ (∀ r ∈ s.rows, RowInv s.w r) ∧ Geo s.abs := by
  have e : GScr.inv s = true ↔
      1 ≤ s.w ∧ 1 ≤ s.h ∧ s.rows.length = s.h ∧ (∀ r ∈ s.rows, RowInv s.w r) ∧
      s.cx < s.w ∧ s.cy < s.h ∧ s.sx < s.w ∧ s.sy < s.h ∧ s.top ≤ s.bot ∧ s.bot < s.h := by
    simp [GScr.inv, RowInv, and_assoc]
  rw [e]
  constructor
  · rintro ⟨h1, h2, h3, h4, h5, h6, h7, h8, h9, h10⟩; exact ⟨h3, h4, h1, h2, h5, h6, h7, h8, h9, h10⟩
  · rintro ⟨h3, h4, g⟩
    exact ⟨g.w_pos, g.h_pos, h3, h4, g.cx_lt, g.cy_lt, g.sx_lt, g.sy_lt, g.top_le, g.bot_lt⟩

theorem inv_geo {s : GScr} (hs : GScr.inv s = true) : Geo s.abs := (inv_iff.1 hs).2.2

@[simp] theorem abs_w (s : GScr) : s.abs.w = s.w := rfl
@[simp] theorem abs_h (s : GScr) : s.abs.h = s.h := rfl
@[simp] theorem abs_cx (s : GScr) : s.abs.cx = s.cx := rfl
@[simp] theorem abs_cy (s : GScr) : s.abs.cy = s.cy := rfl
@[simp] theorem abs_sx (s : GScr) : s.abs.sx = s.sx := rfl
@[simp] theorem abs_sy (s : GScr) : s.abs.sy = s.sy := rfl
@[simp] theorem abs_top (s : GScr) : s.abs.top = s.top := rfl
@[simp] theorem abs_bot (s : GScr) : s.abs.bot = s.bot := rfl
@[simp] theorem abs_wrap (s : GScr) : s.abs.wrap = s.wrap := rfl
@[simp] theorem abs_sty (s : GScr) : s.abs.sty = s.sty := rfl
@[simp] theorem abs_grid (s : GScr) : s.abs.grid = s.rows.map (fun r => r.map GCell.abs) := rfl
theorem abs_inRegion (s : GScr) : s.abs.inRegion = s.inRegion := rfl

theorem abs_row (s : GScr) (y : Nat) : s.abs.row y = (s.row y).map GCell.abs := by
  simp only [Scr.row, GScr.abs, GScr.row, List.getD_eq_getElem?_getD, List.getElem?_map]
  cases s.rows[y]? <;> rfl

theorem abs_setRow (s : GScr) (y : Nat) (r : GRow) :
    (s.setRow y r).abs = s.abs.setRow y (r.map GCell.abs) := by
  simp [GScr.setRow, Scr.setRow, GScr.abs, List.map_set]

theorem row_mem {s : GScr} {y : Nat} (h : y < s.rows.length) : s.row y ∈ s.rows := getD_mem h _

theorem abs_init (w h : Nat) : (GScr.init w h).abs = Scr.init w h := by
  simp [GScr.init, Scr.init, GScr.abs, abs_gBlankRow]

theorem inv_init {w h : Nat} (hw : 1 ≤ w) (hh : 1 ≤ h) : GScr.inv (GScr.init w h) = true := by
  refine inv_iff.2 ⟨by simp [GScr.init], ?_, hw, hh, hw, hh, hw, hh, Nat.zero_le _,
    by show h - 1 < h; omega⟩
  intro l hl
  simp only [GScr.init, List.mem_replicate] at hl
  rw [hl.2]
  exact rowInv_gBlankRow _ _

theorem scroll_eq_rows (s : GScr) (a b : Nat) (d : Int) :
    s.scroll a b d = if a > b ∨ b ≥ s.h then s
      else { s with rows := scrollRows (gBlankRow s.w s.sty) s.rows a b d } := rfl

theorem setMargins_rows (s : GScr) (t b : Int) :
    (s.setMargins t b).rows = s.rows ∧ (s.setMargins t b).w = s.w ∧ (s.setMargins t b).h = s.h := by
  unfold GScr.setMargins
  simp only []
  split
  · exact ⟨rfl, rfl, rfl⟩
  · split <;> exact ⟨rfl, rfl, rfl⟩

/-! ## what the screen operations keep of the cells -/

def Cells (P : GCell → Prop) (s : GScr) : Prop := ∀ r ∈ s.rows, ∀ c ∈ r, P c

namespace Cells
variable {P : GCell → Prop} {s : GScr}

theorem of_rows {s' : GScr} (h : Cells P s) (e : s'.rows = s.rows) : Cells P s' :=
  fun r hr => h r (e ▸ hr)

theorem row (h : Cells P s) (y : Nat) : ∀ c ∈ s.row y, P c := by
  unfold GScr.row
  rw [List.getD_eq_getElem?_getD]
  cases hy : s.rows[y]? with
  | none => intro c hc; cases hc
  | some r => exact h r (List.mem_of_getElem? hy)

theorem setRow (h : Cells P s) (y : Nat) {l : GRow} (hl : ∀ c ∈ l, P c) : Cells P (s.setRow y l) := by
  intro r hr
  rcases List.mem_or_eq_of_mem_set hr with hr | rfl
  · exact h r hr
  · exact hl

variable (hP : CellClosed P)
include hP

theorem init (w h : Nat) : Cells P (GScr.init w h) :=
  fun _ hr => (List.mem_replicate.1 hr).2 ▸ hP.blankRow w _

theorem scroll (h : Cells P s) (a b : Nat) (d : Int) : Cells P (s.scroll a b d) := by
  rw [scroll_eq_rows]
  split
  · exact h
  · intro r hr
    rcases scrollRows_mem hr with hr | rfl
    · exact h r hr
    · exact hP.blankRow _ _

theorem lineDown (h : Cells P s) : Cells P s.lineDown := by
  unfold GScr.lineDown
  split
  · exact h.scroll hP _ _ _
  · split
    · exact h
    · exact h

theorem lineUp (h : Cells P s) : Cells P s.lineUp := by
  unfold GScr.lineUp
  split
  · exact h.scroll hP _ _ _
  · split
    · exact h
    · exact h

theorem eraseRegion (h : Cells P s) (x1 y1 x2 y2 : Nat) : Cells P (s.eraseRegion x1 y1 x2 y2) :=
  mem_mapIdx_cases fun y r hr => by
    split
    · exact hP.writeBlanks (h r hr) _ _ _
    · exact h r hr

theorem eraseRegionI (h : Cells P s) (a b c d : Int) : Cells P (s.eraseRegionI a b c d) :=
  h.eraseRegion hP _ _ _ _

theorem dch (h : Cells P s) (n : Nat) : Cells P (s.dch n) := by
  unfold GScr.dch
  split
  · exact h
  · exact h.setRow _ (hP.deleteChars (h.row _) _ _ _)

theorem resize (h : Cells P s) (w hh : Nat) : Cells P (s.resize w hh) := by
  intro r hr
  rcases List.mem_append.1 hr with hr | hr
  · obtain ⟨l, hl, rfl⟩ := List.mem_map.1 hr
    exact hP.resize (h l (List.mem_of_mem_take hl)) w s.sty
  · exact (List.mem_replicate.1 hr).2 ▸ hP.blankRow w s.sty

end Cells

/-! ## the invariant is the model's and consistent cells; scroll and line feeds -/

theorem inv_iff_abs {s : GScr} :
    GScr.inv s = true ↔ s.abs.inv = true ∧ Cells (fun c => c.ok = true) s := by
  rw [inv_iff, inv_iff_geo, abs_grid, List.length_map]
  constructor
  · rintro ⟨h3, h4, hg⟩
    refine ⟨⟨h3, fun r hr => ?_, hg⟩, fun r hr => List.all_eq_true.1 (h4 r hr).2.1⟩
    obtain ⟨l, hl, rfl⟩ := List.mem_map.1 hr
    exact ⟨by rw [List.length_map]; exact (h4 l hl).1, (h4 l hl).2.2⟩
  · rintro ⟨⟨h3, h4, hg⟩, hk⟩
    refine ⟨h3, fun r hr => ?_, hg⟩
    obtain ⟨hl, hwf⟩ := h4 _ (List.mem_map_of_mem hr)
    exact ⟨by rw [List.length_map] at hl; exact hl, List.all_eq_true.2 (hk r hr), hwf⟩

theorem abs_inv {s : GScr} (hs : GScr.inv s = true) : s.abs.inv = true := (inv_iff_abs.1 hs).1

/-- so an operation that commutes with `abs` keeps the invariant: the model keeps its own (`hc`:
    `C02.scr_ops_inv`), and the cells stay consistent (`hk`: `Cells` at `closed_ok`) -/
theorem refines_of {s s' : GScr} (hs : GScr.inv s = true) {c : Scr} (e : s'.abs = c)
    (hc : s.abs.inv = true → c.inv = true)
    (hk : Cells (fun c => c.ok = true) s → Cells (fun c => c.ok = true) s') :
    s'.abs = c ∧ GScr.inv s' = true :=
  ⟨e, inv_iff_abs.2 ⟨e ▸ hc (abs_inv hs), hk (inv_iff_abs.1 hs).2⟩⟩

/-- `ite_rel` for "shows" -/
theorem ite_abs {c : Prop} [Decidable c] {a a' : GScr} {b b' : Scr} (ht : c → a.abs = b)
    (he : ¬c → a'.abs = b') : (if c then a else a').abs = if c then b else b' :=
  ite_rel (R := fun (a : GScr) b => a.abs = b) ht he

theorem abs_scroll (s : GScr) (y1 y2 : Nat) (d : Int) : (s.scroll y1 y2 d).abs = s.abs.scroll y1 y2 d := by
  rw [scroll_eq_rows, TM.scroll_eq_rows]
  exact ite_abs (fun _ => rfl) fun _ => by simp only [GScr.abs, map_scrollRows, abs_gBlankRow]

theorem inv_scroll {s : GScr} (hs : GScr.inv s = true) (y1 y2 : Nat) (d : Int) :
    GScr.inv (s.scroll y1 y2 d) = true :=
  (refines_of hs (abs_scroll s y1 y2 d) (fun h => let ⟨scroll, _⟩ := C02.scr_ops_inv _ h; scroll y1 y2 d)
    fun h => h.scroll closed_ok y1 y2 d).2

theorem abs_lineDown (s : GScr) : s.lineDown.abs = s.abs.lineDown := by
  unfold GScr.lineDown Scr.lineDown
  exact ite_abs (fun _ => abs_scroll ..) fun _ => ite_abs (fun _ => rfl) fun _ => rfl

theorem abs_lineUp (s : GScr) : s.lineUp.abs = s.abs.lineUp := by
  unfold GScr.lineUp Scr.lineUp
  exact ite_abs (fun _ => abs_scroll ..) fun _ => ite_abs (fun _ => rfl) fun _ => rfl

theorem inv_lineDown {s : GScr} (hs : GScr.inv s = true) : GScr.inv s.lineDown = true :=
  (refines_of hs (abs_lineDown s) (fun h => let ⟨_, lineDown, _⟩ := C02.scr_ops_inv _ h; lineDown)
    fun h => h.lineDown closed_ok).2

theorem inv_lineUp {s : GScr} (hs : GScr.inv s = true) : GScr.inv s.lineUp = true :=
  (refines_of hs (abs_lineUp s) (fun h => let ⟨_, _, lineUp, _⟩ := C02.scr_ops_inv _ h; lineUp)
    fun h => h.lineUp closed_ok).2

/-! ## `eraseRegion` -/

/-- `C02.scr_ops_inv` has `eraseRegionI`; for the region already clamped, `C02`'s
    `keeps_eraseRegion` at the trivial row predicate, where `SOk` is `Scr.inv` -/
theorem scr_eraseRegion_inv {s : Scr} (h : s.inv = true) (x1 y1 x2 y2 : Nat) :
    (s.eraseRegion x1 y1 x2 y2).inv = true :=
  ((C02.Lemmas.sok_iff _ _).1 (C02.Lemmas.keeps_eraseRegion (C02.Lemmas.rowInv_ok .blank (fun _ => True) trivial)
    (C02.Lemmas.keeps_refl ((C02.Lemmas.sok_iff _ s).2 ⟨h, fun _ _ _ _ _ _ => trivial⟩) trivial)
    x1 y1 x2 y2).1).1

theorem eraseRegion_refines {s : GScr} (hs : GScr.inv s = true) (x1 y1 x2 y2 : Nat) :
    (s.eraseRegion x1 y1 x2 y2).abs = s.abs.eraseRegion x1 y1 x2 y2 ∧
    GScr.inv (s.eraseRegion x1 y1 x2 y2) = true := by
  obtain ⟨_, h4, _⟩ := inv_iff.1 hs
  refine refines_of hs ?_ (fun h => scr_eraseRegion_inv h x1 y1 x2 y2)
    fun h => h.eraseRegion closed_ok x1 y1 x2 y2
  unfold GScr.eraseRegion Scr.eraseRegion
  simp only [GScr.abs, Scr.mk.injEq, true_and, and_true]
  refine map_mapIdx_comm fun i hi => ?_
  split
  · exact eraseRow_abs (h4 _ (List.getElem_mem hi)) s.sty x1 x2
  · rfl

theorem eraseRegionI_refines {s : GScr} (hs : GScr.inv s = true) (x1 y1 x2 y2 : Int) :
    (s.eraseRegionI x1 y1 x2 y2).abs = s.abs.eraseRegionI x1 y1 x2 y2 ∧
    GScr.inv (s.eraseRegionI x1 y1 x2 y2) = true := by
  unfold GScr.eraseRegionI Scr.eraseRegionI
  simp only [abs_w, abs_h]
  exact eraseRegion_refines hs ..

/-! ## dch, cursor, margins, rendition, resize -/

theorem upd_geo {s s' : GScr} (hs : GScr.inv s = true) (hr : s'.rows = s.rows) (hw : s'.w = s.w)
    (hh : s'.h = s.h) (hg : Geo s'.abs) : GScr.inv s' = true := by
  obtain ⟨h3, h4, _⟩ := inv_iff.1 hs
  exact inv_iff.2 ⟨by rw [hr, hh]; exact h3, by rw [hr, hw]; exact h4, hg⟩

theorem dch_refines {s : GScr} (hs : GScr.inv s = true) (n : Nat) :
    (s.dch n).abs = s.abs.dch n ∧ GScr.inv (s.dch n) = true := by
  refine refines_of hs ?_ (fun h => let ⟨_, _, _, _, dch, _⟩ := C02.scr_ops_inv _ h; dch n)
    fun h => h.dch closed_ok n
  obtain ⟨h3, h4, _⟩ := inv_iff.1 hs
  have h5 : s.cx < s.w := (inv_geo hs).cx_lt
  have h6 : s.cy < s.h := (inv_geo hs).cy_lt
  have hmem : s.row s.cy ∈ s.rows := row_mem (by omega)
  have hl := h4 _ hmem
  have hlen : ((s.row s.cy).map GCell.abs).length = s.w := by rw [List.length_map]; exact hl.1
  by_cases hc : s.cx ≥ s.w ∨ n = 0
  · rw [show s.dch n = s from if_pos hc]
    exact (dch_noop (s := s.abs) (by show s.cy < (s.rows.map _).length; rw [List.length_map]; omega)
      (by show s.cx ≥ (s.abs.row s.cy).length ∨ _; rw [abs_row, hlen]; exact hc)).symm
  · unfold GScr.dch Scr.dch
    simp only [abs_cx, abs_cy, abs_sty, abs_row, hc, if_false]
    have hx : s.cx < (s.row s.cy).length := by rw [hl.1]; exact h5
    have hxn : s.cx + min n (s.w - s.cx) ≤ (s.row s.cy).length := by rw [hl.1]; omega
    rw [abs_setRow, deleteChars_abs hl.ok _ _ _ hx (by omega) hxn]
    congr 1
    unfold Row.dch
    simp only [hlen]
    rw [if_neg (by omega), if_neg (by omega), Nat.min_assoc, Nat.min_self]

theorem setCursor_refines {s : GScr} (hs : GScr.inv s = true) (x y : Int) :
    (s.setCursor x y).abs = s.abs.setCursor x y ∧ GScr.inv (s.setCursor x y) = true :=
  ⟨rfl, upd_geo hs rfl rfl rfl ((inv_iff.1 hs).2.2.setCursor x y)⟩

theorem setMargins_refines {s : GScr} (hs : GScr.inv s = true) (t b : Int) :
    (s.setMargins t b).abs = s.abs.setMargins t b ∧ GScr.inv (s.setMargins t b) = true := by
  have e : (s.setMargins t b).abs = s.abs.setMargins t b := by
    unfold GScr.setMargins Scr.setMargins
    exact ite_abs (fun _ => rfl) fun _ => ite_abs (fun _ => rfl) fun _ => rfl
  obtain ⟨f1, f2, f3⟩ := setMargins_rows s t b
  exact ⟨e, upd_geo hs f1 f2 f3 (e ▸ (inv_iff.1 hs).2.2.setMargins t b)⟩

theorem saveCursor_refines {s : GScr} (hs : GScr.inv s = true) :
    s.saveCursor.abs = s.abs.saveCursor ∧ GScr.inv s.saveCursor = true :=
  ⟨rfl, upd_geo hs rfl rfl rfl (inv_iff.1 hs).2.2.saveCursor⟩

theorem restoreCursor_refines {s : GScr} (hs : GScr.inv s = true) :
    s.restoreCursor.abs = s.abs.restoreCursor ∧ GScr.inv s.restoreCursor = true :=
  ⟨rfl, upd_geo hs rfl rfl rfl (inv_iff.1 hs).2.2.restoreCursor⟩

theorem setCx_refines {s : GScr} (hs : GScr.inv s = true) {x : Nat} (hx : x < s.w) :
    ({ s with cx := x } : GScr).abs = { s.abs with cx := x } ∧
    GScr.inv { s with cx := x } = true :=
  ⟨rfl, upd_geo hs rfl rfl rfl ((inv_iff.1 hs).2.2.cx hx)⟩

theorem setSty_refines {s : GScr} (hs : GScr.inv s = true) (st : Style) :
    ({ s with sty := st } : GScr).abs = { s.abs with sty := st } ∧
    GScr.inv { s with sty := st } = true := ⟨rfl, hs⟩

theorem setWrap_refines {s : GScr} (hs : GScr.inv s = true) (v : Bool) :
    ({ s with wrap := v } : GScr).abs = { s.abs with wrap := v } ∧
    GScr.inv { s with wrap := v } = true := ⟨rfl, hs⟩

theorem resize_refines {s : GScr} (hs : GScr.inv s = true) {w h : Nat} (hw : 1 ≤ w) (hh : 1 ≤ h) :
    (s.resize w h).abs = s.abs.resize w h ∧ GScr.inv (s.resize w h) = true := by
  obtain ⟨_, h4, _⟩ := inv_iff.1 hs
  refine refines_of hs ?_
    (fun hi => let ⟨_, _, _, _, _, _, _, _, _, _, resize⟩ := C02.scr_ops_inv _ hi; resize w h hw hh)
    fun hk => hk.resize closed_ok w h
  unfold GScr.resize Scr.resize
  simp only [GScr.abs, Scr.mk.injEq, true_and, and_true, List.map_append, List.map_replicate,
    abs_gBlankRow, List.length_map, List.length_take, List.map_map, ← List.map_take]
  refine ⟨?_, rfl, rfl, rfl, rfl⟩
  congr 1
  apply List.map_congr_left
  intro l hl
  exact resize_abs (h4 l (List.mem_of_mem_take hl)).ok w s.sty

/-! ## `put` -/

/-- the step of `put` before the write, wrap or pin at the right edge: the model's `Scr.putPre`
    (`preG_refines`) -/
def preG (s : GScr) (w : Nat) : GScr :=
  if s.cx + w > s.w then
    (if s.wrap then ({ s with cx := 0 } : GScr).lineDown else { s with cx := s.w - w })
  else s

/-- the step of `put` after the write, the cursor moves to column `x`: the model's `Scr.putFinish`
    (`abs_postG`) -/
def postG (s : GScr) (x : Nat) : GScr :=
  if x < s.w then { s with cx := x }
  else if s.wrap then ({ s with cx := x - s.w } : GScr).lineDown
  else { s with cx := s.w - 1 }

/-- the write and the step after it, on a screen where the character fits (`put_eqG`) -/
def coreG (s : GScr) (rune : Nat) (w : Nat) : GScr :=
  postG (s.setRow s.cy ((s.row s.cy).writeRune s.cx rune w s.sty)) (s.cx + w)

/-- the same two steps of the model's `put` under the grid policy (`put_eqC`); `abs_coreG` relates the two -/
def coreC (s : Scr) (text : Bytes) (w : Nat) : Scr :=
  Scr.putFinish (s.setRow s.cy ((s.row s.cy).put s.cx text w s.sty)) (s.cx + w)

theorem put_eqG (s : GScr) (text0 : Bytes) (w0 : Nat) :
    s.put text0 w0 =
      coreG (preG s (if max w0 1 > s.w then 1 else max w0 1))
        (if max w0 1 > s.w then 0xFFFD else (decodeRune text0).1) (if max w0 1 > s.w then 1 else max w0 1) := by
  -- unfolded first: `rfl` on the folded statement compares the `let`s of `GScr.put` the slow way
  unfold GScr.put coreG preG postG
  rfl

theorem put_eqC (s : Scr) (text0 : Bytes) (w0 : Nat) :
    s.put .blank text0 w0 = coreC (Scr.putPre s (Scr.effW s w0)) (Scr.effText s text0 w0) (Scr.effW s w0) := by
  rw [put_eq, putRow_plain (.inl rfl), putX_plain (.inl rfl)]
  rfl

theorem preG_refines {s : GScr} (hs : GScr.inv s = true) {w : Nat} (hw : 1 ≤ w) (hws : w ≤ s.w) :
    (preG s w).abs = Scr.putPre s.abs w ∧ GScr.inv (preG s w) = true ∧
    (preG s w).cx + w ≤ (preG s w).w := by
  have h1 : 1 ≤ s.w := (inv_geo hs).w_pos
  have hs0 : GScr.inv ({ s with cx := 0 } : GScr) = true := (setCx_refines hs (x := 0) h1).2
  have e : (preG s w).abs = Scr.putPre s.abs w ∧ GScr.inv (preG s w) = true := by
    unfold preG Scr.putPre
    exact ite_rel (R := fun (a : GScr) c => a.abs = c ∧ GScr.inv a = true)
      (fun hc => ite_rel (R := fun (a : GScr) c => a.abs = c ∧ GScr.inv a = true)
        (fun _ => ⟨abs_lineDown _, inv_lineDown hs0⟩)
        (fun _ => ⟨rfl, (setCx_refines hs (x := s.w - w) (by omega)).2⟩))
      (fun _ => ⟨rfl, hs⟩)
  -- that the character fits is a fact about the screen shown
  have := ((inv_iff.1 hs).2.2.putPre hws).2
  rw [← e.1] at this
  exact ⟨e.1, e.2, this⟩

theorem abs_postG (s : GScr) (x : Nat) : (postG s x).abs = Scr.putFinish s.abs x := by
  unfold postG Scr.putFinish
  exact ite_abs (fun _ => rfl) fun _ => ite_abs (fun _ => abs_lineDown _) fun _ => rfl

theorem abs_coreG {s : GScr} (hs : GScr.inv s = true) (rune : Nat) {w : Nat} (hw : 1 ≤ w)
    (hxw : s.cx + w ≤ s.w) : (coreG s rune w).abs = coreC s.abs (encodeRune rune) w := by
  obtain ⟨h3, h4, _⟩ := inv_iff.1 hs
  have h6 : s.cy < s.h := (inv_geo hs).cy_lt
  have hl := h4 _ (row_mem (s := s) (y := s.cy) (by omega))
  have hm : max w 1 = w := Nat.max_eq_left hw
  have hx : s.cx + max w 1 ≤ (s.row s.cy).length := by rw [hm, hl.1]; exact hxw
  unfold coreG coreC
  rw [abs_postG, abs_setRow, writeRune_abs hl.ok _ _ _ _ hx, hm]
  simp only [abs_row, abs_cx, abs_cy, abs_sty]

namespace Cells
variable {P : GCell → Prop} {s : GScr} (hP : CellClosed P)
include hP

theorem preG (h : Cells P s) (w : Nat) : Cells P (preG s w) := by
  unfold C20Grid.preG
  split
  · split
    · exact lineDown hP (s := { s with cx := 0 }) h
    · exact h
  · exact h

theorem postG (h : Cells P s) (x : Nat) : Cells P (postG s x) := by
  unfold C20Grid.postG
  split
  · exact h
  · split
    · exact lineDown hP (s := { s with cx := x - s.w }) h
    · exact h

/-- `hh`: the head cells of the two runes `put` may store (U+FFFD when the character is wider than
    the screen) satisfy `P` -/
theorem put (h : Cells P s) (text : Bytes) (w0 : Nat)
    (hh : ∀ rune, rune = 0xFFFD ∨ rune = (decodeRune text).1 → ∀ w st, P (gHead rune (max w 1) st)) :
    Cells P (s.put text w0) := by
  rw [put_eqG]
  unfold coreG
  have hp := h.preG hP (if max w0 1 > s.w then 1 else max w0 1)
  refine (hp.setRow _ (hP.writeRune (hp.row _) _ _ (hh _ ?_ _ _))).postG hP _
  split
  · exact .inl rfl
  · exact .inr rfl

end Cells

/-- `put` (the single-rune path of `writeTokens`): the array-level screen after the write shows
    the cell-level screen after writing the encoding of the decoded rune — no hypothesis on the
    bytes of the token -/
theorem put_refines' {s : GScr} (hs : GScr.inv s = true) (text : Bytes) (w0 : Nat) :
    (s.put text w0).abs = s.abs.put .blank (encodeRune (decodeRune text).1) w0 ∧
    GScr.inv (s.put text w0) = true := by
  refine refines_of hs ?_ (C02.put_inv .blank _ _ _) fun h =>
    h.put closed_ok text w0 fun _ _ => ok_gHead_max _
  have h1 : 1 ≤ s.w := (inv_geo hs).w_pos
  rw [put_eqG, put_eqC]
  simp only [Scr.effW, Scr.effText, abs_w]
  by_cases htw : max w0 1 > s.w
  · simp only [htw, if_true]
    obtain ⟨q1, q2, q3⟩ := preG_refines hs (w := 1) (Nat.le_refl 1) h1
    rw [← q1]
    exact abs_coreG q2 0xFFFD (Nat.le_refl 1) q3
  · simp only [htw, if_false]
    obtain ⟨q1, q2, q3⟩ := preG_refines hs (w := max w0 1) (by omega) (by omega)
    rw [← q1]
    exact abs_coreG q2 _ (by omega) q3

/-- `put` for a token of the tokeniser (its stored bytes are the encoding of its scalar) -/
theorem put_refines {s : GScr} (hs : GScr.inv s = true) {text : Bytes} {w0 : Nat}
    (htok : encodeRune (decodeRune text).1 = text) :
    (s.put text w0).abs = s.abs.put .blank text w0 ∧ GScr.inv (s.put text w0) = true := by
  have := put_refines' hs text w0
  rwa [htok] at this

end TM.C20Grid

#print axioms TM.C20Grid.Cells.put
#print axioms TM.C20Grid.inv_iff_abs
#print axioms TM.C20Grid.abs_init
#print axioms TM.C20Grid.inv_init
#print axioms TM.C20Grid.abs_scroll
#print axioms TM.C20Grid.inv_scroll
#print axioms TM.C20Grid.abs_lineDown
#print axioms TM.C20Grid.inv_lineDown
#print axioms TM.C20Grid.abs_lineUp
#print axioms TM.C20Grid.inv_lineUp
#print axioms TM.C20Grid.eraseRegion_refines
#print axioms TM.C20Grid.eraseRegionI_refines
#print axioms TM.C20Grid.dch_refines
#print axioms TM.C20Grid.setCursor_refines
#print axioms TM.C20Grid.resize_refines
#print axioms TM.C20Grid.put_refines'
#print axioms TM.C20Grid.put_refines
#print axioms TM.C20Grid.abs_inv
#print axioms TM.C20Grid.setMargins_refines
#print axioms TM.C20Grid.saveCursor_refines
#print axioms TM.C20Grid.restoreCursor_refines
#print axioms TM.C20Grid.setCx_refines
#print axioms TM.C20Grid.setSty_refines
#print axioms TM.C20Grid.setWrap_refines
