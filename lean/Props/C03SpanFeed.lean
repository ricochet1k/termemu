import Props.C03SpanWrite
import Props.C16Reader
import Props.C02SpanTerm
/-!
# C03SpanFeed — valid text through `replaceInvalidUTF8`, and `SScr.feedText`

`SScr.feedText` is what `ptyReadOne` does with a stretch of printable text that arrives in one
read: the token reader cuts it into runs limited to the rest of the row, `writeString` writes each
run as one span.

* Valid text is left alone by `replaceInvalidUTF8` (`replaceInvalidUTF8_valid`: a concatenation
  of complete characters that decode as a whole and encode back to themselves — `ValidChar`,
  `VCl` with the width), so the theorems of `C03SpanWrite` hold without that hypothesis:
  `writeString_token`, `writeString_validChar`, `writeString_validRun`.
* The reader, on a script without error flags, reports an error only when the script is
  exhausted (`readPrintable_noErr`); one call during a feed hands out a non-empty prefix of the
  characters still to come, within the limit or a single character (`readPrintable_feed`,
  `feed_step`).
* `feedTextAux` is `writeString` of the runs `feedRuns` (`feedTextAux_eq_runs`); they concatenate
  to the text, each is whole characters and respects the limit in force when it was cut or is one
  character (`feedText_runs`), so `writeString` never takes its `splitRunToFit` path
  (`writeString_feed_noSplit`).
* `feedText_refines`: under `CleanFeed` (no run of SEVERAL characters starts on the second cell
  of a wide character along the execution; a `Bool` function following `feedTextAux`) the fed
  screen shows the cell-level screen after the characters have been put one by one, autowrap on
  or off, and the invariant holds. `feedText_needs_clean`: the hypothesis cannot be dropped
  (`Props/C03SpanClean.lean`: it holds when the feed starts off a continuation cell).
-/
namespace TM.C03SpanFeed
open TM TM.C02Span TM.C02SpanScreen TM.C03SpanWrite TM.C16Reader

/-! ## valid text is left alone -/

/-- a complete, valid UTF-8 character -/
def ValidChar (b : Bytes) : Prop :=
  b ≠ [] ∧ ∃ r, decodeRune b = (r, b.length) ∧ encodeRune r = b

theorem validChar_scalar {b : Bytes} (h : ValidChar b) : ∃ cp, C11.validScalar cp ∧ b = encodeRune cp := by
  obtain ⟨_, r, _, he⟩ := h
  by_cases hv : C11.validScalar r
  · exact ⟨r, hv, he.symm⟩
  · -- `b` is what `encodeRune` writes for `r`: for an `r` that is no scalar value, U+FFFD
    refine ⟨0xFFFD, by decide, ?_⟩
    rw [← he, encodeRune_invalid hv]; decide

theorem validChar_encodeRune {cp : Nat} (h : C11.validScalar cp) : ValidChar (encodeRune cp) := by
  have hp := encodeRune_length_pos cp
  refine ⟨fun hc => by rw [hc] at hp; simp at hp, cp, decodeRune_encodeRune_self cp h, rfl⟩

theorem replaceInvalidAux_nil (fuel : Nat) : replaceInvalidAux fuel [] = [] := by
  cases fuel <;> rfl

theorem replaceInvalidAux_step {b : Bytes} (h : ValidChar b) (rest : Bytes) (fuel : Nat) :
    replaceInvalidAux (fuel + 1) (b ++ rest) = b ++ replaceInvalidAux fuel rest := by
  obtain ⟨cp, hv, rfl⟩ := validChar_scalar h
  have hd := decodeRune_encodeRune cp rest hv
  have hp := encodeRune_length_pos cp
  obtain ⟨b0, tl, he⟩ := List.exists_cons_of_ne_nil (encodeRune_ne_nil cp)
  have hm : max (encodeRune cp).length 1 = (encodeRune cp).length := by omega
  have hdrop : (encodeRune cp ++ rest).drop (encodeRune cp).length = rest := List.drop_left
  -- the encoding under a name, as a `cons`: `replaceInvalidAux` matches on the head byte
  generalize hE : encodeRune cp = E at *
  subst he
  rw [List.cons_append] at hd hdrop ⊢
  rw [replaceInvalidAux, hd]
  simp only [hm, hdrop, hE]

theorem replaceInvalidAux_valid : ∀ (bs : List Bytes), (∀ b ∈ bs, ValidChar b) →
    ∀ fuel, bs.flatten.length ≤ fuel → replaceInvalidAux fuel bs.flatten = bs.flatten := by
  intro bs
  induction bs with
  | nil => intro _ fuel _; exact replaceInvalidAux_nil fuel
  | cons b bs ih =>
    intro hv fuel hf
    have hb := hv b (List.mem_cons_self ..)
    have hne : 0 < b.length := List.length_pos_iff.2 hb.1
    rw [List.flatten_cons, List.length_append] at hf
    obtain ⟨f, rfl⟩ : ∃ f, fuel = f + 1 := ⟨fuel - 1, by omega⟩
    rw [List.flatten_cons, replaceInvalidAux_step hb,
      ih (fun x hx => hv x (List.mem_cons_of_mem _ hx)) f (by omega)]

/-- a text that is a concatenation of complete, valid characters is returned as it is -/
theorem replaceInvalidUTF8_valid (bs : List Bytes) (h : ∀ b ∈ bs, ValidChar b) :
    replaceInvalidUTF8 bs.flatten = bs.flatten :=
  replaceInvalidAux_valid bs h _ (Nat.le_refl _)

/-- a character with its width: valid, complete, as wide as the reader and the row code say -/
def VCl (cw : Nat → Nat) (c : Cl) : Prop :=
  ValidChar c.1 ∧ c.2 = max (cw (decodeRune c.1).1) 1

theorem vcl_step {cw : Nat → Nat} {c : Cl} (h : VCl cw c) : stepRune cw c.1 = some (c.1.length, c.2) := by
  obtain ⟨hv, hw⟩ := h
  obtain ⟨cp, hs, he⟩ := validChar_scalar hv
  have hd := decodeRune_encodeRune_self cp hs
  rw [← he] at hd
  rw [hw, hd, he]
  exact stepRune_encodeRune cw hs

theorem vcl_toks {cw : Nat → Nat} {cs : List Cl} (h : ∀ c ∈ cs, VCl cw c) : Toks cw cs :=
  fun p hp => vcl_step (h p hp)

theorem clusters_single {cw : Nat → Nat} {c : Cl} (h : VCl cw c) : clusters cw c.1 = [c] :=
  clusters_single_iff.2 (vcl_step h)

theorem replaceInvalidUTF8_flat {cw : Nat → Nat} {cs : List Cl} (h : ∀ c ∈ cs, VCl cw c) :
    replaceInvalidUTF8 (flat cs) = flat cs := by
  unfold flat
  exact replaceInvalidUTF8_valid _ (by
    intro b hb
    obtain ⟨c, hc, rfl⟩ := List.mem_map.1 hb
    exact (h c hc).1)

theorem replaceInvalidUTF8_token {stored : Bytes} {cp : Nat} (h : C11M.TokOK (.text stored cp)) :
    replaceInvalidUTF8 stored = stored := by
  obtain ⟨hv, _, _, rfl⟩ := h
  have := replaceInvalidUTF8_valid [encodeRune cp] (by
    intro b hb
    rw [List.mem_singleton] at hb
    subst hb
    exact validChar_encodeRune hv)
  simpa using this

theorem writeString_token {cw : Nat → Nat} (hb : cw 0x20 ≤ 1) (hr : cw 0xFFFD ≤ 1) {s : SScr}
    (hs : SScr.inv cw s = true) {stored : Bytes} {cp : Nat} (h : C11M.TokOK (.text stored cp)) (n : Nat) :
    s.writeString cw (n + 1) stored (cw cp) = s.put cw stored (cw cp) ∧
    (s.writeString cw (n + 1) stored (cw cp)).abs cw = (s.abs cw).put .keep stored (cw cp) ∧
    SScr.inv cw (s.writeString cw (n + 1) stored (cw cp)) = true := by
  have htok : clusters cw stored = [(stored, max (cw cp) 1)] := C02SpanTerm.tokWF_of_tokOK cw h
  have hval := replaceInvalidUTF8_token h
  exact ⟨writeString_char hb hr hs htok hval n, writeString_char_refines hb hr hs htok hval n⟩

theorem writeString_validChar {cw : Nat → Nat} (hb : cw 0x20 ≤ 1) (hr : cw 0xFFFD ≤ 1) {s : SScr}
    (hs : SScr.inv cw s = true) {c : Cl} (h : VCl cw c) (n : Nat) :
    s.writeString cw (n + 1) c.1 c.2 = s.put cw c.1 c.2 ∧
    (s.writeString cw (n + 1) c.1 c.2).abs cw = (s.abs cw).put .keep c.1 c.2 ∧
    SScr.inv cw (s.writeString cw (n + 1) c.1 c.2) = true := by
  have hw : max c.2 1 = c.2 := by have := h.2; omega
  have htok : clusters cw c.1 = [(c.1, max c.2 1)] := by rw [hw]; exact clusters_single h
  have hval : replaceInvalidUTF8 c.1 = c.1 := by
    have := replaceInvalidUTF8_flat (cs := [c]) (by intro x hx; rw [List.mem_singleton] at hx; subst hx; exact h)
    simpa using this
  exact ⟨writeString_char hb hr hs htok hval n, writeString_char_refines hb hr hs htok hval n⟩

theorem writeString_validRun {cw : Nat → Nat} (hb : cw 0x20 ≤ 1) {s : SScr} (hs : SScr.inv cw s = true)
    {cs : List Cl} (hv : ∀ c ∈ cs, VCl cw c) (hne : cs ≠ []) (hfit : s.cx + ws cs ≤ s.w)
    (hc : contAt (lineCells cw (s.line s.cy)) s.cx = false) (n : Nat) :
    (s.writeString cw (n + 1) (flat cs) (ws cs)).abs cw =
      cs.foldl (fun sc c => sc.put .keep c.1 c.2) (s.abs cw) ∧
    SScr.inv cw (s.writeString cw (n + 1) (flat cs) (ws cs)) = true :=
  writeString_run hb hs (vcl_toks hv) hne hfit hc (replaceInvalidUTF8_flat hv) n

/-! ## `feedText`: the reader side -/

/-- no entry of the script reports an error (the script of `feedText` is `[(text, false)]`) -/
def NoErr (r : Rdr) : Prop := ∀ p ∈ r.src, p.2 = false

def EndP (res : Rdr × RunOut) : Prop := NoErr res.1 ∧ (res.2.err = true → res.1.src = [])

theorem fill_noErr (r : Rdr) (h : NoErr r) : NoErr r.fill.1 ∧ (r.fill.2 = true → r.fill.1.src = []) := by
  unfold NoErr at *
  rw [Lemmas.rfill_eq]
  cases hs : r.src with
  | nil => simp
  | cons p rest =>
    obtain ⟨d, e⟩ := p
    have he : e = false := h (d, e) (by rw [hs]; exact List.mem_cons_self ..)
    subst he
    have hrest : ∀ q ∈ rest, q.2 = false := fun q hq => h q (by rw [hs]; exact List.mem_cons_of_mem _ hq)
    simp only
    split
    · exact ⟨hrest, fun hc => by cases hc⟩
    · refine ⟨?_, fun hc => by cases hc⟩
      intro q hq
      rcases List.mem_cons.1 hq with rfl | hq
      · rfl
      · exact hrest q hq

theorem kept_noErr : Kept NoErr := ⟨fun {r} _ hc => (fill_noErr r hc).1, fun _ hc => hc⟩

theorem readPrintable_noErr (cw : Nat → Nat) (r : Rdr) (maxW : Nat) (h : r.wf) (hc : NoErr r) :
    EndP (r.readPrintable cw maxW) := by
  obtain ⟨h1, h2⟩ := kept_noErr.readPrintable cw r maxW h hc
  refine ⟨h1, fun he => ?_⟩
  obtain ⟨rl, _, hl, hf⟩ := h2 he
  have := (fill_noErr rl hl).2
  rw [hf] at this
  exact this rfl

/-- the reader in the middle of a feed: the characters `rest` are still to be handed out -/
structure Feeding (cw : Nat → Nat) (r : Rdr) (rest : List Cl) : Prop where
  wf : r.wf
  noErr : NoErr r
  pending : r.pending = flat rest
  valid : ∀ c ∈ rest, VCl cw c
  printable : ∀ b ∈ flat rest, isPrintableByte b = true

/-- one call of the reader during a feed: it hands out a non-empty prefix `c1` of the characters
    still to come (as long as there are any), within the limit or a single character -/
theorem readPrintable_feed {cw : Nat → Nat} {r : Rdr} {rest : List Cl} (h : Feeding cw r rest) (maxW : Nat) :
    ∃ c1 rest', rest = c1 ++ rest' ∧ (r.readPrintable cw maxW).2.text = flat c1 ∧
      (r.readPrintable cw maxW).2.width = ws c1 ∧ Feeding cw (r.readPrintable cw maxW).1 rest' ∧
      (rest ≠ [] → c1 ≠ []) ∧ (0 < maxW → ws c1 ≤ maxW ∨ c1.length ≤ 1) := by
  obtain ⟨cs, hp⟩ := Lemmas.readPrintable_post cw r maxW h.wf
  obtain ⟨rest2, hr⟩ := Lemmas.heads_clustersAux cs r.pending r.pending.length hp.heads
    (Lemmas.heads_length cs _ hp.heads)
  have hr' : clusters cw r.pending = cs ++ rest2 := hr
  rw [h.pending, clusters_flat (vcl_toks h.valid)] at hr'
  have hE := readPrintable_noErr cw r maxW h.wf h.noErr
  have hpend : (r.readPrintable cw maxW).1.pending = flat rest2 := by
    have := hp.stream
    rw [hp.text, h.pending, hr', flat_append] at this
    exact (List.append_cancel_left this).symm
  have hsub2 : ∀ c ∈ rest2, c ∈ rest := fun c hc => by rw [hr']; exact List.mem_append_right _ hc
  refine ⟨cs, rest2, hr', hp.text, hp.width, ⟨hp.wf, hE.1, hpend, fun c hc => h.valid c (hsub2 c hc), ?_⟩, ?_, ?_⟩
  · intro b hb
    refine h.printable b ?_
    rw [hr', flat_append]; exact List.mem_append_right _ hb
  · intro hne hcs
    subst hcs
    have htext : (r.readPrintable cw maxW).2.text = [] := hp.text
    obtain ⟨c, tl, hrest⟩ : ∃ c tl, rest = c :: tl := by
      cases rest with
      | nil => exact absurd rfl hne
      | cons c tl => exact ⟨c, tl, rfl⟩
    have hc := h.valid c (by rw [hrest]; exact List.mem_cons_self ..)
    cases herr : (r.readPrintable cw maxW).2.err with
    | false =>
      -- no error and no text puts a control byte first, but everything pending is printable
      obtain ⟨b, v, hv, hnp, hpe⟩ := readPrintable_progress cw r maxW h.wf herr htext
      have hb : b ∈ flat rest := by
        rw [← h.pending, ← hpe, Lemmas.pending_eq, hv]
        exact List.mem_append_left _ (List.mem_cons_self ..)
      rw [h.printable b hb] at hnp
      cases hnp
    | true =>
      -- an error: the script is exhausted, so the buffer holds the whole valid character `c`,
      -- neither nothing nor the beginning of an incomplete character
      obtain ⟨_, _, hpe, _, hstop⟩ := readPrintable_error cw r maxW h.wf herr
      have hsrc := hE.2 herr
      have hview : (r.readPrintable cw maxW).1.buf.view = c.1 ++ flat tl := by
        have := hpe
        rw [Lemmas.pending_eq, hsrc, h.pending, hrest] at this
        simpa using this
      have hcl := (vcl_toks h.valid).pos c (by rw [hrest]; exact List.mem_cons_self ..)
      rcases hstop with hz | hz
      · have hl := Lemmas.view_len hp.wf
        rw [hz, hview, List.length_append] at hl
        omega
      · rw [hview, stepRune_append _ (vcl_step hc)] at hz
        cases hz
  · rw [← hp.width]; exact hp.limit

theorem feeding_init {cw : Nat → Nat} {cs : List Cl} (hv : ∀ c ∈ cs, VCl cw c)
    (hp : ∀ b ∈ flat cs, isPrintableByte b = true) : Feeding cw (Rdr.init [(flat cs, false)]) cs := by
  refine ⟨(init_wf _).1, ?_, ?_, hv, hp⟩
  · intro p hp
    rw [show (Rdr.init [(flat cs, false)]).src = [(flat cs, false)] from rfl, List.mem_singleton] at hp
    rw [hp]
  · rw [(init_wf _).2]; simp [srcBytes]

/-! ## `feedText`: the screen side -/

theorem feedTextAux_succ (cw : Nat → Nat) (fuel : Nat) (s : SScr) (r : Rdr) :
    SScr.feedTextAux cw (fuel + 1) s r =
      if (r.readPrintable cw (max (s.w - s.cx) 1)).2.text.isEmpty then s
      else SScr.feedTextAux cw fuel
        (SScr.writeString cw ((r.readPrintable cw (max (s.w - s.cx) 1)).2.text.length + 1) s
          (r.readPrintable cw (max (s.w - s.cx) 1)).2.text (r.readPrintable cw (max (s.w - s.cx) 1)).2.width)
        (r.readPrintable cw (max (s.w - s.cx) 1)).1 := rfl

/-- no run of several characters starts on the second cell of a wide character, along the
    execution of `feedTextAux` (a run of one character may: `writeString` then behaves as `put`) -/
def cleanFeed (cw : Nat → Nat) : Nat → SScr → Rdr → Bool
  | 0, _, _ => true
  | fuel+1, s, r =>
    let res := r.readPrintable cw (max (s.w - s.cx) 1)
    res.2.text.isEmpty ||
    ((decide ((clusters cw res.2.text).length = 1) || !contAt (lineCells cw (s.line s.cy)) s.cx) &&
      cleanFeed cw fuel (SScr.writeString cw (res.2.text.length + 1) s res.2.text res.2.width) res.1)

def CleanFeed (cw : Nat → Nat) (s : SScr) (text : Bytes) : Prop :=
  cleanFeed cw (text.length + 1) s (Rdr.init [(text, false)]) = true

/-- one round of the feed: nothing is left and the reader returns no text, or it hands over a
    non-empty run `c1` of the characters still to come, within the limit or a single character -/
theorem feed_step {cw : Nat → Nat} {r : Rdr} {rest : List Cl} (hF : Feeding cw r rest) (s : SScr) :
    (rest = [] ∧ (r.readPrintable cw (max (s.w - s.cx) 1)).2.text = []) ∨
    ∃ c1 rest', rest = c1 ++ rest' ∧ c1 ≠ [] ∧ (∀ c ∈ c1, VCl cw c) ∧
      (ws c1 ≤ max (s.w - s.cx) 1 ∨ c1.length ≤ 1) ∧
      (r.readPrintable cw (max (s.w - s.cx) 1)).2.text = flat c1 ∧
      (r.readPrintable cw (max (s.w - s.cx) 1)).2.width = ws c1 ∧
      (flat c1).isEmpty = false ∧ (flat rest').length < (flat rest).length ∧
      Feeding cw (r.readPrintable cw (max (s.w - s.cx) 1)).1 rest' := by
  obtain ⟨c1, rest', hsplit, htext, hwidth, hF', hne, hlim⟩ := readPrintable_feed hF (max (s.w - s.cx) 1)
  by_cases hrest : rest = []
  · subst hrest
    have hc1 : c1 = [] := (List.append_eq_nil_iff.1 hsplit.symm).1
    exact .inl ⟨rfl, by rw [htext, hc1]; rfl⟩
  · have hne1 := hne hrest
    have hv1 : ∀ c ∈ c1, VCl cw c := fun c hc => hF.valid c (by rw [hsplit]; exact List.mem_append_left _ hc)
    have hpos := flat_length_pos (fun p hp => ((vcl_toks hv1).pos p hp).1) hne1
    exact .inr ⟨c1, rest', hsplit, hne1, hv1, hlim (by omega), htext, hwidth,
      flat_isEmpty (vcl_toks hv1) hne1, by rw [hsplit, flat_append, List.length_append]; omega, hF'⟩

theorem writeString_feed_run {cw : Nat → Nat} (hb : cw 0x20 ≤ 1) (hr : cw 0xFFFD ≤ 1) {s : SScr}
    (hs : SScr.inv cw s = true) {c1 : List Cl} (hv : ∀ c ∈ c1, VCl cw c) (hne : c1 ≠ [])
    (hlim : ws c1 ≤ max (s.w - s.cx) 1 ∨ c1.length ≤ 1)
    (hc : c1.length ≠ 1 → contAt (lineCells cw (s.line s.cy)) s.cx = false) (n : Nat) :
    (s.writeString cw (n + 1) (flat c1) (ws c1)).abs cw =
      c1.foldl (fun sc c => sc.put .keep c.1 c.2) (s.abs cw) ∧
    SScr.inv cw (s.writeString cw (n + 1) (flat c1) (ws c1)) = true := by
  by_cases hlen : c1.length = 1
  · obtain ⟨c, rfl⟩ := List.length_eq_one_iff.1 hlen
    have := writeString_validChar hb hr hs (hv c (List.mem_singleton.2 rfl)) n
    simp only [flat_cons, flat_nil, List.append_nil, ws_cons, ws_nil, Nat.add_zero, List.foldl_cons,
      List.foldl_nil]
    exact this.2
  · have hcx := (geom_of_inv hs).cx
    have hl0 : 0 < c1.length := List.length_pos_iff.2 hne
    have hfit : s.cx + ws c1 ≤ s.w := by
      rcases hlim with h | h
      · omega
      · omega
    exact writeString_validRun hb hs hv hne hfit (hc hlen) n

theorem feedTextAux_refines {cw : Nat → Nat} (hb : cw 0x20 ≤ 1) (hr : cw 0xFFFD ≤ 1) :
    ∀ (fuel : Nat) (s : SScr) (r : Rdr) (rest : List Cl), SScr.inv cw s = true → Feeding cw r rest →
      (flat rest).length < fuel → cleanFeed cw fuel s r = true →
      (SScr.feedTextAux cw fuel s r).abs cw = rest.foldl (fun sc c => sc.put .keep c.1 c.2) (s.abs cw) ∧
      SScr.inv cw (SScr.feedTextAux cw fuel s r) = true := by
  intro fuel
  induction fuel with
  | zero => intro s r rest _ _ hf _; omega
  | succ f ih =>
    intro s r rest hs hF hf hcl
    rw [feedTextAux_succ]
    rw [cleanFeed] at hcl
    rcases feed_step hF s with ⟨rfl, ht⟩ | ⟨c1, rest', rfl, hne1, hv1, hlim, ht, hw, hemp, hlen, hF'⟩
    · rw [ht]; exact ⟨rfl, hs⟩
    · simp only [ht, hw, hemp, Bool.false_or, Bool.and_eq_true, Bool.or_eq_true, decide_eq_true_eq,
        Bool.not_eq_true', clusters_flat (vcl_toks hv1)] at hcl
      simp only [ht, hw, hemp, Bool.false_eq_true, if_false]
      obtain ⟨q1, q2⟩ := writeString_feed_run hb hr hs hv1 hne1 hlim
        (fun hl => hcl.1.resolve_left hl) (flat c1).length
      obtain ⟨i1, i2⟩ := ih _ _ rest' q2 hF' (by omega) hcl.2
      exact ⟨by rw [i1, q1, List.foldl_append], i2⟩

/-- a stretch of valid, printable text fed through the real reader's cutting and
    `writeString`'s one-span writes shows what the cell-level screen shows after the characters have
    been put one by one (`Scr.put`, span policy), and the invariant holds afterwards -/
theorem feedText_refines {cw : Nat → Nat} (hb : cw 0x20 ≤ 1) (hr : cw 0xFFFD ≤ 1) {s : SScr}
    (hs : SScr.inv cw s = true) {cs : List Cl} (hv : ∀ c ∈ cs, VCl cw c)
    (hp : ∀ b ∈ flat cs, isPrintableByte b = true) (hcl : CleanFeed cw s (flat cs)) :
    (s.feedText cw (flat cs)).abs cw = cs.foldl (fun sc c => sc.put .keep c.1 c.2) (s.abs cw) ∧
    SScr.inv cw (s.feedText cw (flat cs)) = true :=
  feedTextAux_refines hb hr _ s _ cs hs (feeding_init hv hp) (Nat.lt_succ_self _) hcl

/-! ## the runs handed to `writeString` -/

/-- the runs `feedTextAux` hands to `writeString`: text, width, and the limit in force when the
    run was cut (`max (w - cx) 1` of the screen at that moment) -/
def feedRuns (cw : Nat → Nat) : Nat → SScr → Rdr → List (Bytes × Nat × Nat)
  | 0, _, _ => []
  | fuel+1, s, r =>
    let res := r.readPrintable cw (max (s.w - s.cx) 1)
    if res.2.text.isEmpty then []
    else (res.2.text, res.2.width, max (s.w - s.cx) 1) ::
      feedRuns cw fuel (SScr.writeString cw (res.2.text.length + 1) s res.2.text res.2.width) res.1

theorem feedTextAux_eq_runs (cw : Nat → Nat) : ∀ (fuel : Nat) (s : SScr) (r : Rdr),
    SScr.feedTextAux cw fuel s r =
      (feedRuns cw fuel s r).foldl (fun s run => SScr.writeString cw (run.1.length + 1) s run.1 run.2.1) s := by
  intro fuel
  induction fuel with
  | zero => intro s r; rfl
  | succ f ih =>
    intro s r
    rw [feedTextAux_succ, feedRuns]
    split
    · rfl
    · rw [List.foldl_cons, ← ih]

theorem feedRuns_spec {cw : Nat → Nat} : ∀ (fuel : Nat) (s : SScr) (r : Rdr) (rest : List Cl),
    Feeding cw r rest → (flat rest).length < fuel →
    ∃ runs : List (List Cl × Nat), rest = (runs.map (·.1)).flatten ∧
      feedRuns cw fuel s r = runs.map (fun p => (flat p.1, ws p.1, p.2)) ∧
      ∀ p ∈ runs, p.1 ≠ [] ∧ 0 < p.2 ∧ (ws p.1 ≤ p.2 ∨ p.1.length = 1) := by
  intro fuel
  induction fuel with
  | zero => intro s r rest _ hf; omega
  | succ f ih =>
    intro s r rest hF hf
    rw [feedRuns]
    rcases feed_step hF s with ⟨rfl, ht⟩ | ⟨c1, rest', rfl, hne1, hv1, hlim, ht, hw, hemp, hlen, hF'⟩
    · rw [ht]; exact ⟨[], rfl, rfl, nofun⟩
    · simp only [ht, hw, hemp, Bool.false_eq_true, if_false]
      obtain ⟨runs, e1, e2, e3⟩ :=
        ih (SScr.writeString cw ((flat c1).length + 1) s (flat c1) (ws c1)) _ rest' hF' (by omega)
      refine ⟨(c1, max (s.w - s.cx) 1) :: runs, by rw [List.map_cons, List.flatten_cons, ← e1],
        by rw [e2]; rfl, fun p hp => ?_⟩
      rcases List.mem_cons.1 hp with rfl | hp
      · have hl0 : 0 < c1.length := List.length_pos_iff.2 hne1
        exact ⟨hne1, by show 0 < max (s.w - s.cx) 1; omega, hlim.imp id fun h => by show c1.length = 1; omega⟩
      · exact e3 p hp

/-- the runs `feedText` hands to `writeString` (`feedTextAux_eq_runs`) concatenate to
    the text; each run is a non-empty sequence of whole characters with the width of its
    characters, cut under a positive limit, and it respects the limit in force when it was cut or
    is a single character (which is handed over whatever its width) -/
theorem feedText_runs {cw : Nat → Nat} (s : SScr) {cs : List Cl} (hv : ∀ c ∈ cs, VCl cw c)
    (hp : ∀ b ∈ flat cs, isPrintableByte b = true) :
    ((feedRuns cw ((flat cs).length + 1) s (Rdr.init [(flat cs, false)])).map (·.1)).flatten = flat cs ∧
    ∀ run ∈ feedRuns cw ((flat cs).length + 1) s (Rdr.init [(flat cs, false)]),
      run.1 ≠ [] ∧ textWF cw run.1 run.2.1 = true ∧ 0 < run.2.2 ∧
      (run.2.1 ≤ run.2.2 ∨ clusters cw run.1 = [(run.1, run.2.1)]) := by
  obtain ⟨runs, e1, e2, e3⟩ := feedRuns_spec (cw := cw) _ s _ cs (feeding_init hv hp) (Nat.lt_succ_self _)
  have hvr : ∀ p ∈ runs, ∀ c ∈ p.1, VCl cw c := by
    intro p hp c hc
    refine hv c ?_
    rw [e1]
    exact List.mem_flatten.2 ⟨p.1, List.mem_map.2 ⟨p, hp, rfl⟩, hc⟩
  rw [e2]
  constructor
  · rw [e1]
    simp only [flat, List.map_map, List.map_flatten, List.flatten_flatten, Function.comp_def]
  · intro run hrun
    obtain ⟨p, hp, rfl⟩ := List.mem_map.1 hrun
    obtain ⟨k1, k2, k3⟩ := e3 p hp
    have ht := vcl_toks (hvr p hp)
    refine ⟨?_, textWF_flat ht, k2, ?_⟩
    · intro hc
      have := flat_isEmpty ht k1
      simp only at hc
      rw [hc] at this; cases this
    · rcases k3 with h | h
      · exact Or.inl h
      · right
        obtain ⟨c, hc⟩ := List.length_eq_one_iff.1 h
        simp only [hc, flat_cons, flat_nil, List.append_nil, ws_cons, ws_nil, Nat.add_zero]
        exact clusters_single (hvr p hp c (by rw [hc]; exact List.mem_singleton.2 rfl))

/-- the split path of `writeString` (`splitRunToFit`) is not taken for a run of the feed: the run
    fits in the rest of the row, or it is a single character -/
theorem writeString_feed_noSplit {cw : Nat → Nat} {s : SScr} (hcx : s.cx < s.w) {c1 : List Cl}
    (hv : ∀ c ∈ c1, VCl cw c) (hne : c1 ≠ []) (hlim : ws c1 ≤ max (s.w - s.cx) 1 ∨ c1.length = 1) (n : Nat) :
    s.writeString cw (n + 1) (flat c1) (ws c1) = wsNone cw s (flat c1) (ws c1) := by
  have ht := vcl_toks hv
  have hw := ws_pos (fun p hp => (ht.pos p hp).2) hne
  have hm : max (ws c1) 1 = ws c1 := by omega
  rw [writeString_nosplit cw s (flat_isEmpty ht hne) (replaceInvalidUTF8_flat hv) (fun h1 h2 => ?_) n, hm]
  rw [hm] at h1 h2
  have hlen : c1.length = 1 := by
    rcases hlim with h | h
    · omega
    · exact h
  obtain ⟨c, rfl⟩ := List.length_eq_one_iff.1 hlen
  have hcl := clusters_single (hv c (List.mem_singleton.2 rfl))
  simp only [flat_cons, flat_nil, List.append_nil]
  exact splitRunToFit_single (w := c.2) hcl _

/-! ## non-vacuity: the 6×2 screens of `C03SpanWrite` (`exW`: autowrap on, cursor at column 4) and
the text `ab中c` (`exCs`), which crosses the right edge -/

theorem exCs_valid : ∀ c ∈ exCs, VCl cwS c := by
  intro c hc
  simp only [exCs, List.mem_cons, List.not_mem_nil, or_false] at hc
  rcases hc with rfl | rfl | rfl | rfl
  · exact ⟨⟨by decide, 0x61, by decide, by decide⟩, by decide⟩
  · exact ⟨⟨by decide, 0x62, by decide, by decide⟩, by decide⟩
  · exact ⟨⟨by decide, 0x4E2D, by decide, by decide⟩, by decide⟩
  · exact ⟨⟨by decide, 0x63, by decide, by decide⟩, by decide⟩

example : ∀ b ∈ flat exCs, isPrintableByte b = true := by decide
set_option maxRecDepth 100000 in
example : SScr.inv cwS exW = true ∧ CleanFeed cwS exW (flat exCs) := by
  unfold CleanFeed; decide +kernel
-- the reader cuts `ab` (limit 2: the rest of the first row), then `中c` (limit 6: a whole row)
set_option maxRecDepth 100000 in
example : feedRuns cwS ((flat exCs).length + 1) exW (Rdr.init [(flat exCs, false)]) =
    [([0x61, 0x62], 2, 2), ([0xe4, 0xb8, 0xad, 0x63], 3, 6)] := by decide +kernel
set_option maxRecDepth 100000 in
example : (exW.feedText cwS (flat exCs)).abs cwS =
      exCs.foldl (fun sc c => sc.put .keep c.1 c.2) (exW.abs cwS) ∧
    (exW.feedText cwS (flat exCs)).cx = 3 ∧ (exW.feedText cwS (flat exCs)).cy = 1 := by
  decide +kernel

-- autowrap off (`exS`: cursor at column 1): `ab中c` fills the row, the cursor is pinned on the last
-- column, `d` and `e` arrive as runs of one character (limit 1) and overwrite it
set_option maxRecDepth 100000 in
example : SScr.inv cwS exS = true ∧ CleanFeed cwS exS (flat (exCs ++ [([0x64], 1), ([0x65], 1)])) ∧
    feedRuns cwS 9 exS (Rdr.init [(flat (exCs ++ [([0x64], 1), ([0x65], 1)]), false)]) =
      [(flat exCs, 5, 5), ([0x64], 1, 1), ([0x65], 1, 1)] ∧
    (exS.feedText cwS (flat (exCs ++ [([0x64], 1), ([0x65], 1)]))).abs cwS =
      (exCs ++ [([0x64], 1), ([0x65], 1)]).foldl (fun sc (c : Cl) => sc.put .keep c.1 c.2) (exS.abs cwS) := by
  unfold CleanFeed; decide +kernel
-- autowrap off, `abcd中e` from column 0: the cursor is pinned on the second cell of `中`; the next
-- run starts there, but it is a single character (limit 1), which `CleanFeed` allows
set_option maxRecDepth 100000 in
example :
    let t : List Cl := [([0x61], 1), ([0x62], 1), ([0x63], 1), ([0x64], 1), (zhong, 2), ([0x65], 1)]
    CleanFeed cwS (SScr.init 6 2) (flat t) ∧
    feedRuns cwS 9 (SScr.init 6 2) (Rdr.init [(flat t, false)]) =
      [([0x61, 0x62, 0x63, 0x64, 0xe4, 0xb8, 0xad], 6, 6), ([0x65], 1, 1)] ∧
    contAt (lineCells cwS (((SScr.init 6 2).writeString cwS 8 [0x61, 0x62, 0x63, 0x64, 0xe4, 0xb8, 0xad] 6).line 0)) 5 = true ∧
    ((SScr.init 6 2).feedText cwS (flat t)).abs cwS =
      t.foldl (fun sc (c : Cl) => sc.put .keep c.1 c.2) ((SScr.init 6 2).abs cwS) := by
  intro t
  unfold CleanFeed; decide +kernel

/-- the hypothesis `CleanFeed` of `feedText_refines` is needed (the state of
    `writeString_run_needs_boundary`): `中` in columns 3-4 of a 6-column row, the cursor moved onto
    column 4 (its second cell), autowrap off, text `ab`. The reader hands over `ab` as one run
    (limit 2), `writeString` inserts it after the kept wide character and the row is cut back:
    column 5 shows `a`; put one by one, column 5 shows `b`. -/
theorem feedText_needs_clean :
    let s0 := (((SScr.init 6 2).setCursor 3 0).put cwS zhong 2).setCursor 4 0
    let ab : List Cl := [([0x61], 1), ([0x62], 1)]
    SScr.inv cwS s0 = true ∧ ¬ CleanFeed cwS s0 (flat ab) ∧
    feedRuns cwS ((flat ab).length + 1) s0 (Rdr.init [(flat ab, false)]) = [([0x61, 0x62], 2, 2)] ∧
    (s0.feedText cwS (flat ab)).abs cwS ≠ ab.foldl (fun sc c => sc.put .keep c.1 c.2) (s0.abs cwS) := by
  intro s0 ab
  unfold CleanFeed
  decide +kernel

#print axioms TM.C03SpanFeed.replaceInvalidUTF8_valid
#print axioms TM.C03SpanFeed.replaceInvalidUTF8_flat
#print axioms TM.C03SpanFeed.replaceInvalidUTF8_token
#print axioms TM.C03SpanFeed.writeString_token
#print axioms TM.C03SpanFeed.writeString_validChar
#print axioms TM.C03SpanFeed.writeString_validRun
#print axioms TM.C03SpanFeed.readPrintable_noErr
#print axioms TM.C03SpanFeed.readPrintable_feed
#print axioms TM.C03SpanFeed.feedTextAux_eq_runs
#print axioms TM.C03SpanFeed.feedText_runs
#print axioms TM.C03SpanFeed.writeString_feed_noSplit
#print axioms TM.C03SpanFeed.feedTextAux_refines
#print axioms TM.C03SpanFeed.feedText_refines
#print axioms TM.C03SpanFeed.feedText_needs_clean

end TM.C03SpanFeed
