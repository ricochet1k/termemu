import TM.Mirror
import Props.C03
import Props.C11
import Props.C11Inner
import Proofs.SubCells
/-!
# C11 (second half) — what the painting of a region does to the outer terminal

`TTYFrontend` (`tty_frontend.go`) repaints a region of the inner terminal on an outer terminal by
writing cursor positioning, SGR sequences and text (`renderRows`, `renderRegion` of
`TM/Mirror.lean`; `subCells` is `StyledLine(a, b-a, y)`). This module says what an outer terminal
that reads those bytes holds afterwards; the frontend's state machine and the invariant it keeps
are in `Props/C11Mirror.lean`. The re-interpretation machinery (`exec_ansiEscape`, `next_text`,
`RowOK`, …) is that of `Props/C11.lean`. `Row.fixAt` and `TM.C03.Lemmas.fixAt` are one definition
(`Proofs/Row.lean` exports it under the first name).

How it goes: the painting of one row over an ARBITRARY well-formed outer row is described cell by
cell (`repaintedRow`; a wide outer character straddling an edge of the window becomes blanks) and,
to follow it `Row.put` by `Row.put`, as a list (`repaintedRow_eq`: the row up to the window, the
cells written, the row cut behind them); `exec_chars_stO` is the induction over the characters with
the exact outer state as invariant (`repaint_row_state`, `repaint_row`). Then the whole
`renderRegion` (`repaint_region_state`, `repaint_region`). A fresh outer terminal is the case
`o := Term.init …` (`mirror_row_fresh`, `mirror_region_fresh`).

The outer terminal is the model terminal again, of the inner screen's size (`OuterGrid`; the region
is painted at its own coordinates), and reads with the SAME width function `cw` as the inner one.

What remains assumed, and why:
* `cw 32 ≤ 1` — the blank that stands for a cell of a cut wide character is U+0020 with width 1 in
  the model, and the outer terminal measures it with `cw`. With `cw 32 ≥ 2` the statements are
  false (the outer terminal would write a two-cell character).
* sizes and coordinates below `paramMax`: CSI parameters saturate at `2^31 - 1`.
* an outer `.keep` terminal only when the column the painting starts on is not a continuation
  cell: there `Scr.put` inserts the text AFTER the kept wide character and the statements are
  false (example in `Examples`).
-/
namespace TM.C11M
open TM TM.C11 TM.C11.Lemmas TM.C02Span
open Lemmas

/-! ## `subCells` (`StyledLine` with a sub-range) -/

theorem subCells_length (r : Row) (a b : Nat) : (subCells r a b).length = b - a := TM.subCells_length r a b

theorem subCells_getElem? (r : Row) (a b k : Nat) (hk : k < b - a) :
    (subCells r a b)[k]? = some (cutCell r a b (a + k)) := TM.subCells_getElem? r a b k hk

theorem cutCell_inside (r : Row) (a b i : Nat) (hi : i < r.length) (h1 : a ≤ headOf r i)
    (h2 : headOf r i + widthAt r (headOf r i) ≤ b) : cutCell r a b i = r[i] :=
  TM.cutCell_inside r a b i hi h1 h2

theorem cutCell_cut (r : Row) (a b i : Nat) (hi : i < r.length)
    (h : headOf r i < a ∨ b < headOf r i + widthAt r (headOf r i)) :
    cutCell r a b i = blank (r[i]).sty := TM.cutCell_cut r a b i hi h

theorem subCells_full (r : Row) (w : Nat) (hlen : r.length = w) (hwf : rowWF r = true) :
    subCells r 0 w = r := by
  apply List.ext_getElem?
  intro i
  by_cases hi : i < w
  · rw [subCells_getElem? r 0 w i (by omega), Nat.zero_add]
    obtain ⟨t, w', st, hch, _, _, h4, _, _⟩ := wf_head hwf (show i < r.length by omega)
    have h5 := wf_widthAt hwf hch
    rw [cutCell_inside r 0 w i (by omega) (Nat.zero_le _) (by omega), List.getElem?_eq_getElem]
  · rw [List.getElem?_eq_none (by rw [subCells_length]; omega), List.getElem?_eq_none (by omega)]

/-- a window of a `RowOK` row is `RowOK`: the blanks standing for cut characters are U+0020, for
    which `RowOK.text` asks `1 = max (cw 32) 1` — hence `cw 32 ≤ 1` -/
theorem subCells_rowOK (cw : Nat → Nat) (r : Row) (a b : Nat) (hr : RowOK cw r) (hb : b ≤ r.length)
    (hsp : cw 32 ≤ 1) : RowOK cw (subCells r a b) :=
  closed_rowOK.subCells (txtOK_space hsp) hr hr.valid a hb

/-! ## Painting one row over an arbitrary outer row

Row level first: `paintChars F p cs` is the row after the characters `cs` have been written one
after the other with `Row.put`, starting at column `p`. -/

def paintChars (F : Row) (p : Nat) : List Ch → Row
  | [] => F
  | c :: cs => paintChars (F.put p c.t c.w c.st) (p + c.w) cs

/-- the style of cell `k` of a segment (default when there is none) -/
def styAt (cells : Row) (k : Nat) : Style := (cells.getD k (blank Style.default)).sty

/-- the outer row after the repaint, cell by cell: `R` is the outer row before (with the
    character straddling `x`, if any, already blanked: see `repaint_row_state`), `cells` the
    window written at `[x, x2)`. Left of `x` nothing has changed; `[x, x2)` holds `cells`; right of
    `x2`, the cells of an outer character that started before `x2` are blanks in the style of the
    written cell that stands on the character's first column, everything else is unchanged. -/
def repaintedRow (R : Row) (x x2 : Nat) (cells : Row) : Row :=
  (List.range R.length).map fun i =>
    if i < x then R.getD i (blank Style.default)
    else if i < x2 then cells.getD (i - x) (blank Style.default)
    else if headOf R i < x2 then blank (styAt cells (headOf R i - x))
    else R.getD i (blank Style.default)

namespace Lemmas

theorem styAt_append_left (a b : Row) (k : Nat) (hk : k < a.length) : styAt (a ++ b) k = styAt a k := by
  unfold styAt
  rw [List.getD_eq_getElem?_getD, List.getD_eq_getElem?_getD, List.getElem?_append_left hk]

theorem styAt_append_cells (a : Row) (t : Bytes) (w : Nat) (st : Style) (k : Nat)
    (h1 : a.length ≤ k) (h2 : k < a.length + w) : styAt (a ++ charCells t w st) k = st := by
  unfold styAt
  rw [List.getD_eq_getElem?_getD, List.getElem?_append_right h1, getElem?_charCells]
  split
  · rfl
  · rw [if_pos (by omega)]; rfl

theorem repaintedRow_length (R : Row) (x p : Nat) (done : Row) :
    (repaintedRow R x p done).length = R.length := by
  simp [repaintedRow]

theorem getElem?_repaintedRow (R : Row) {x p i : Nat} {done : Row} (hi : i < R.length) (hxp : x ≤ p)
    (hd : done.length = p - x) :
    (repaintedRow R x p done)[i]? =
      if i < x then R[i]?
      else if i < p then done[i - x]?
      else if headOf R i < p then some (blank (styAt done (headOf R i - x)))
      else R[i]? := by
  unfold repaintedRow
  rw [List.getElem?_map, List.getElem?_range hi, Option.map_some]
  split
  · rw [getD_lt hi, List.getElem?_eq_getElem hi]
  · split
    · rw [List.getD_eq_getElem?_getD, List.getElem?_eq_getElem (by omega)]; rfl
    · split
      · rfl
      · rw [getD_lt hi, List.getElem?_eq_getElem hi]

end Lemmas

/-! The same row as a list: the outer row up to `x`, the cells written, the outer row cut at `p`
(`dropB`: the rest of a character that `p` cuts is blanks). In this form one `Row.put` is one
`dropB_dropB`. -/

theorem repaintedRow_eq {R : Row} (hR : rowWF R = true) {x p : Nat} (hxp : x ≤ p) (hp : p ≤ R.length)
    {done : Row} (hd : done.length = p - x) :
    repaintedRow R x p done = R.take x ++ done ++ dropB R p (styAt done (headOf R p - x)) := by
  apply List.ext_getElem?
  intro i
  have hl : (R.take x).length = x := by rw [List.length_take]; omega
  by_cases hi : i < R.length
  · rw [getElem?_repaintedRow R hi hxp hd, getElem?_append3, hl, hd]
    by_cases h1 : i < x
    · rw [if_pos h1, if_pos h1, List.getElem?_take_of_lt h1]
    · rw [if_neg h1, if_neg h1]
      by_cases h2 : i < p
      · rw [if_pos h2, if_pos (show i < x + (p - x) by omega)]
      · rw [if_neg h2, if_neg (show ¬ i < x + (p - x) by omega), show i - x - (p - x) = i - p by omega,
          getElem?_dropB R (le_endOf hR p), show p + (i - p) = i by omega]
        have hiff := lt_endOf_iff hR (show p ≤ i by omega) hi
        by_cases h3 : headOf R i < p
        · rw [if_pos h3, if_pos (hiff.2 h3), headOf_eq_of_lt hR (by omega) hi h3]
        · rw [if_neg h3, if_neg (mt hiff.1 h3)]
  · rw [List.getElem?_eq_none (by rw [repaintedRow_length]; omega), List.getElem?_eq_none (by
      rw [List.length_append, List.length_append, hl, hd, dropB_length hR]; omega)]

theorem repaintedRow_nil {R : Row} (hR : rowWF R = true) {x : Nat} (hx : contAt R x = false)
    (hxl : x ≤ R.length) : repaintedRow R x x [] = R := by
  rw [repaintedRow_eq hR (Nat.le_refl x) hxl (by simp), dropB_of_not_cont hx, List.append_nil,
    List.take_append_drop]

theorem repaintedRow_wf {R cells : Row} (hR : rowWF R = true) {x x2 : Nat} (hx : contAt R x = false)
    (hxx : x ≤ x2) (hx2 : x2 ≤ R.length) (hcl : cells.length = x2 - x) (hc : rowWF cells = true) :
    rowWF (repaintedRow R x x2 cells) = true := by
  rw [repaintedRow_eq hR hxx hx2 hcl]
  exact rowWF_append (rowWF_append (rowWF_take hR hx) hc) (closed_wf.dropB trivial hR x2 trivial)

theorem put_repaintedRow {R : Row} (hR : rowWF R = true) {x p : Nat} (hx : contAt R x = false)
    (hxp : x ≤ p) {done : Row} (hd : done.length = p - x)
    (hwf : rowWF (repaintedRow R x p done) = true) (t : Bytes) {w : Nat} (st : Style) (hw : 1 ≤ w)
    (hfit : p + w ≤ R.length) :
    (repaintedRow R x p done).put p t w st = repaintedRow R x (p + w) (done ++ charCells t w st) := by
  have hdw : (done ++ charCells t w st).length = p + w - x := by
    rw [List.length_append, length_charCells _ _ _ hw, hd]; omega
  have hF := repaintedRow_eq hR hxp (by omega) hd
  have hl : (R.take x ++ done).length = p := by rw [List.length_append, List.length_take, hd]; omega
  have hD0 : contAt (dropB R p (styAt done (headOf R p - x))) 0 = false :=
    wf_cont0 (closed_wf.dropB trivial hR p trivial)
  have hcp : contAt (repaintedRow R x p done) p = false := by
    rw [hF, contAt_append, if_neg (by omega), hl, Nat.sub_self]; exact hD0
  have e1 : (repaintedRow R x p done).take p = R.take x ++ done := by rw [hF]; exact List.take_left' hl
  -- behind the prefix the painted row is `dropB R p …`; cut again at `p + w` it is one cut of `R`
  have e2 : dropB (repaintedRow R x p done) (p + w) st =
      dropB R (p + w) (if p + w < endOf R p then styAt done (headOf R p - x) else st) := by
    have := dropB_append (R.take x ++ done) hD0 w st
    rwa [hl, ← hF, dropB_dropB hR (by omega)] at this
  rw [put_rowIns hwf hw (by rw [repaintedRow_length]; omega), repaintedRow_eq hR (by omega) hfit hdw]
  unfold rowIns
  rw [takeB_of_not_cont hcp, e1, e2, List.append_assoc (R.take x)]
  congr 1
  -- the style of the blanks, when `p + w` cuts a character of `R`
  cases hc : contAt R (p + w)
  · rw [dropB_of_not_cont hc, dropB_of_not_cont hc]
  · have hge := le_headOf (i := p + w) hx (by omega)
    have hiff := lt_endOf_iff hR (Nat.le_add_right p w) (contAt_lt hc)
    congr 1
    by_cases h : p + w < endOf R p
    · -- still the character that `p` cuts: its first column holds a cell written before
      have hlt := hiff.1 h
      rw [if_pos h, headOf_eq_of_lt hR (Nat.le_add_right p w) (contAt_lt hc) hlt,
        styAt_append_left _ _ _ (by omega)]
    · -- a character that starts under the cells just written
      have hlt := (endOf_bounds hR hc).2.2
      rw [if_neg h, styAt_append_cells _ _ _ _ _ (by have := mt hiff.2 h; omega) (by omega)]

theorem paintChars_repaintedRow {R : Row} (hR : rowWF R = true) {x : Nat} (hx : contAt R x = false) :
    ∀ (cs : List Ch) (done : Row) (p : Nat), x ≤ p → done.length = p - x →
    rowWF (repaintedRow R x p done) = true →
    (∀ c ∈ cs, 1 ≤ c.w) → p + (ofChars cs).length ≤ R.length →
    paintChars (repaintedRow R x p done) p cs =
      repaintedRow R x (p + (ofChars cs).length) (done ++ ofChars cs) := by
  intro cs
  induction cs with
  | nil =>
    intro done p _ _ _ _ _
    simp [ofChars, paintChars]
  | cons c cs ih =>
    intro done p hxp hd hwf hw hfit
    have hcw := hw c (by simp)
    have hcl : c.cells.length = c.w := length_charCells _ _ _ hcw
    rw [ofChars_cons, List.length_append, hcl] at hfit
    have hput := put_repaintedRow hR hx hxp hd hwf c.t c.st hcw (by omega)
    have h := ih (done ++ c.cells) (p + c.w) (by omega) (by rw [List.length_append, hcl, hd]; omega)
      (hput ▸ TM.C03.Row.put_wf _ p c.t c.w c.st hwf hcw (by rw [repaintedRow_length]; omega))
      (fun q hq => hw q (by simp [hq])) (by omega)
    rw [ofChars_cons, List.length_append, hcl, ← List.append_assoc done, ← Nat.add_assoc,
      show paintChars (repaintedRow R x p done) p (c :: cs) = _ from
        congrArg (paintChars · (p + c.w) cs) hput]
    exact h

namespace Lemmas

/-- a write that starts on a continuation cell first blanks that character whole (grid policy):
    it is the write on the row with that character already blanked -/
theorem put_fix (r : Row) (a : Nat) (t : Bytes) (w : Nat) (st : Style) (hwf : rowWF r = true) :
    r.put a t w st = (Row.fixAt r a st).put a t w st := by
  unfold Row.put
  rw [blankStraddlers_eq_fixAt, blankStraddlers_eq_fixAt,
    Row.fixAt_of_not_cont (Row.contAt_fixAt_self hwf a st)]

theorem styAt_zero_ofChars (c : Ch) (cs : List Ch) : styAt (ofChars (c :: cs)) 0 = c.st := by
  rw [ofChars_cons]
  simp [styAt, Ch.cells, charCells]

end Lemmas

/-! ### the outer terminal reads one painted row -/

/-- an arbitrary outer terminal `o` with grid, cursor and current style of its main screen
    replaced -/
def stO (o : Term) (G : List Row) (cx cy : Nat) (sty : Style) : Term :=
  { o with main := { o.main with grid := G, cx := cx, cy := cy, sty := sty } }

/-- what the repaint assumes about the outer terminal: main screen active, autowrap off (the
    mirror sends `ESC [ ? 7 l` first), width `W`, row `y` on the screen -/
structure OuterOK (o : Term) (W y : Nat) : Prop where
  main : o.onAlt = false
  nowrap : o.main.wrap = false
  width : o.main.w = W
  hy : y < o.main.h
  hyG : y < o.main.grid.length

/-- the current style after a row segment has been written: the style of its last cell (the
    style before, when the segment is empty) -/
def segSty (sty : Style) (cells : Row) : Style := (cells.getLast?.map Cell.sty).getD sty

namespace Lemmas

theorem charCells_sty (t : Bytes) (w : Nat) (st : Style) : ∀ c ∈ charCells t w st, c.sty = st := by
  intro c hc
  rcases mem_charCells hc with rfl | rfl <;> rfl

theorem segSty_cons (sty : Style) (c : Ch) (r : Row) : segSty sty (c.cells ++ r) = segSty c.st r := by
  unfold segSty
  rw [List.getLast?_append]
  cases h : r.getLast? with
  | some d => rfl
  | none =>
    simp only [Option.map_none, Option.getD_none, Option.none_or]
    cases h2 : c.cells.getLast? with
    | none => rw [List.getLast?_eq_none_iff] at h2; simp [Ch.cells, charCells] at h2
    | some d => simp [charCells_sty c.t c.w c.st d (List.mem_of_getLast? h2)]

theorem stO_self (o : Term) : stO o o.main.grid o.main.cx o.main.cy o.main.sty = o := rfl

theorem withSty_stO (o : Term) (ho : o.onAlt = false) (G : List Row) (cx cy : Nat) (sty s : Style) :
    withSty (stO o G cx cy sty) s = stO o G cx cy s := by
  simp [withSty, stO, Term.setScr, Term.scr, ho]

theorem apply_cup_stO (cw : Nat → Nat) (o : Term) (ho : o.onAlt = false) (G : List Row)
    (cx cy : Nat) (sty : Style) (x y : Nat) (hx : x < o.main.w) (hy : y < o.main.h) :
    ((stO o G cx cy sty).apply cw (cupTokXY x y)).1 = stO o G x y sty :=
  apply_cup_any cw (stO o G cx cy sty) ho x y (Nat.le_sub_one_of_lt hx) hy

theorem apply_text_stO (cw : Nat → Nat) (o : Term) (W y : Nat) (ok : OuterOK o W y) (G : List Row)
    (F : Row) (p : Nat) (sty : Style) (t : Bytes) (cp w : Nat) (hy : y < G.length)
    (hw0 : max (cw cp) 1 = w) (hfit : p + w ≤ W) (hpol : o.pol = .blank ∨ contAt F p = false) :
    ((stO o (G.set y F) p y sty).apply cw (.text t cp)).1 =
      stO o (G.set y (F.put p t w sty)) (min (p + w) (W - 1)) y sty := by
  have := put_fits o.pol o.main W G y F p sty t (cw cp) w ok.width ok.nowrap hy hw0 hfit hpol
  simp only [Term.apply, Term.scr, Term.setScr, stO, ok.main, Bool.false_eq_true, if_false, this]

theorem exec_chars_stO (cw : Nat → Nat) (o : Term) (W y : Nat) (ok : OuterOK o W y) (G : List Row)
    (hy : y < G.length) (rest : Bytes) (cs : List Ch) :
    ∀ (F : Row) (p : Nat) (prev : Option Style) (sty : Style),
    (∀ c ∈ cs, ChOK cw c) → p + (ofChars cs).length ≤ W → F.length = W → rowWF F = true →
    (o.pol = .blank ∨ contAt F p = false) → (∀ st, prev = some st → sty = st) →
    (run cw (stO o (G.set y F) (min p (W - 1)) y sty) (renderCells prev (ofChars cs) ++ rest)).1 =
      (run cw (stO o (G.set y (paintChars F p cs)) (min (p + (ofChars cs).length) (W - 1)) y
        (segSty sty (ofChars cs))) rest).1 := by
  induction cs with
  | nil =>
    intro F p prev sty _ _ _ _ _ _
    simp [ofChars, renderCells, segSty, paintChars]
  | cons c cs ih =>
    intro F p prev sty hok hlen hFl hwf hpol hprev
    obtain ⟨hw, hvalid, cp, hcp, h32, h127, ht, hwid⟩ := hok c (by simp)
    rw [ofChars_cons] at hlen ⊢
    have hclen : c.cells.length = c.w := length_charCells _ _ _ hw
    rw [List.length_append, hclen] at hlen ⊢
    have hmin : min p (W - 1) = p := by omega
    have hE := ih (F.put p c.t c.w c.st) (p + c.w) (some c.st) c.st
      (fun q hq => hok q (by simp [hq])) (by omega)
      (by rw [put_length]; exact hFl)
      (TM.C03.Row.put_wf F p c.t c.w c.st hwf hw (by omega))
      (Or.inr (contAt_put_end hwf p c.t hw c.st)) (fun st h => by cases h; rfl)
    rw [Nat.add_assoc] at hE
    rw [renderCells_char, hmin, segSty_cons]
    -- with or without the escape, the text is read in the style `c.st`
    have hesc : (run cw (stO o (G.set y F) p y sty) ((if prev = some c.st then [] else c.st.ansiEscape) ++
          (c.t ++ renderCells (some c.st) (ofChars cs)) ++ rest)).1 =
        (run cw (stO o (G.set y F) p y c.st) (c.t ++ (renderCells (some c.st) (ofChars cs) ++ rest))).1 := by
      by_cases hp : prev = some c.st
      · rw [if_pos hp, List.nil_append, hprev _ hp, List.append_assoc]
      · rw [if_neg hp, List.append_assoc, exec_ansiEscape cw c.st hvalid, withSty_stO o ok.main,
          List.append_assoc]
    rw [hesc, ht, run_tok (next_text cp hcp h32 h127 _), ← ht,
      apply_text_stO cw o W y ok G F p c.st c.t cp c.w hy hwid (by omega) hpol]
    exact hE

/-- Painting the cells of a `RowOK` window over any well-formed row: the characters written and
    the row that results. The row painted over is `R0` with the character straddling column `x`,
    if any, blanked whole in the style of the first written cell (`put_fix`). -/
theorem paint_window (cw : Nat → Nat) (R0 cells : Row) (x x2 : Nat) (hRwf : rowWF R0 = true)
    (hx : x < x2) (hx2 : x2 ≤ R0.length) (hcl : cells.length = x2 - x) (hok : RowOK cw cells) :
    ∃ cs, cells = ofChars cs ∧ (∀ c ∈ cs, ChOK cw c) ∧
      paintChars R0 x cs = repaintedRow (Row.fixAt R0 x (styAt cells 0)) x x2 cells := by
  obtain ⟨cs, hcs, hch⟩ := rowOK_chars cw cells.length cells (Nat.le_refl _) hok
  -- the segment is not empty
  obtain ⟨c, cs', rfl⟩ : ∃ c cs', cs = c :: cs' := by
    cases cs with
    | nil => rw [hcs] at hcl; simp [ofChars] at hcl; omega
    | cons c cs' => exact ⟨c, cs', rfl⟩
  have hst0 : styAt cells 0 = c.st := by rw [hcs]; exact styAt_zero_ofChars c cs'
  have hRwf' : rowWF (Row.fixAt R0 x c.st) = true := rowWF_fixAt hRwf x c.st
  have hclean : contAt (Row.fixAt R0 x c.st) x = false := Row.contAt_fixAt_self hRwf x c.st
  have hRl' : x2 ≤ (Row.fixAt R0 x c.st).length := by
    rw [Row.fixAt_length]; exact hx2
  have hlen' : x + (ofChars (c :: cs')).length = x2 := by rw [← hcs, hcl]; omega
  have hpaint : paintChars R0 x (c :: cs') = paintChars (Row.fixAt R0 x c.st) x (c :: cs') := by
    show paintChars (R0.put x c.t c.w c.st) _ _ = paintChars ((Row.fixAt R0 x c.st).put x c.t c.w c.st) _ _
    rw [put_fix R0 x c.t c.w c.st hRwf]
  have h2 := paintChars_repaintedRow hRwf' hclean (c :: cs') [] x (Nat.le_refl _) (by simp)
    (by rw [repaintedRow_nil hRwf' hclean (by omega)]; exact hRwf')
    (fun q hq => (hch q hq).1) (by rw [hlen']; exact hRl')
  rw [repaintedRow_nil hRwf' hclean (by omega), hlen', List.nil_append, ← hcs] at h2
  rw [hst0]
  exact ⟨_, hcs, hch, hpaint.trans h2⟩

theorem exec_repaint_segment (cw : Nat → Nat) (o : Term) (W y : Nat) (ok : OuterOK o W y)
    (G : List Row) (cx cy : Nat) (sty : Style) (x x2 : Nat) (R0 cells : Row) (rest : Bytes)
    (hG : G[y]? = some R0) (hRl : R0.length = W) (hRwf : rowWF R0 = true)
    (hx : x < x2) (hx2 : x2 ≤ W) (hcl : cells.length = x2 - x)
    (hmaxx : x < paramMax) (hmaxy : y < paramMax) (hok : RowOK cw cells)
    (hpol : o.pol = .blank ∨ contAt R0 x = false) :
    (run cw (stO o G cx cy sty) (cupXY x y ++ renderCells none cells ++ rest)).1 =
      (run cw (stO o (G.set y (repaintedRow (Row.fixAt R0 x (styAt cells 0)) x x2 cells))
        (min x2 (W - 1)) y (segSty sty cells)) rest).1 := by
  obtain ⟨hyG, hGy⟩ := List.getElem?_eq_some_iff.1 hG
  obtain ⟨cs, hcs, hch, hpaint⟩ := paint_window cw R0 cells x x2 hRwf hx (by omega) hcl hok
  have hlen' : x + (ofChars cs).length = x2 := by rw [← hcs, hcl]; omega
  have hset : G = G.set y R0 := by rw [← hGy, List.set_getElem_self]
  have hmin : x = min x (W - 1) := by omega
  rw [List.append_assoc, run_tok (next_cupXY x y hmaxx hmaxy _),
    apply_cup_stO cw o ok.main G cx cy sty x y (by rw [ok.width]; omega) ok.hy]
  conv => lhs; rw [hset, hmin, hcs]
  rw [exec_chars_stO cw o W y ok G hyG rest cs R0 x none sty hch (by omega) hRl hRwf hpol
    (fun st h => by cases h), hlen', ← hcs, hpaint]

end Lemmas

/-- One row repainted on an ARBITRARY outer terminal (main screen active, autowrap off, row `y`
    of the screen's width and well formed; everything else arbitrary): the complete state. `R` is
    the outer row with the character straddling column `x`, if any, blanked whole in the style of
    the FIRST written cell. Grid policy always; span policy only when column `x` of the outer row
    is not a continuation cell (otherwise `Scr.put` takes the `putKeep` branch). -/
theorem repaint_row_state (cw : Nat → Nat) (o : Term) (W x x2 y : Nat) (r : Row) (ok : OuterOK o W y)
    (hRl : (o.main.row y).length = W) (hRwf : rowWF (o.main.row y) = true)
    (hx : x < x2) (hx2 : x2 ≤ W) (hmaxy : y < paramMax) (hmaxx : x < paramMax)
    (hlen : r.length = W) (hr : RowOK cw r) (hsp : cw 32 ≤ 1)
    (hpol : o.pol = .blank ∨ contAt (o.main.row y) x = false) :
    let R := TM.C03.Lemmas.fixAt (o.main.row y) x (styAt (subCells r x x2) 0)
    (run cw o (cupXY x y ++ renderCells none (subCells r x x2))).1 =
      stO o (o.main.grid.set y (repaintedRow R x x2 (subCells r x x2))) (min x2 (W - 1)) y
        (segSty o.main.sty (subCells r x x2)) ∧
    rowWF (repaintedRow R x x2 (subCells r x x2)) = true := by
  intro R
  have hok := subCells_rowOK cw r x x2 hr (by omega) hsp
  have hG : o.main.grid[y]? = some (o.main.row y) := by
    rw [Scr.row, List.getD_eq_getElem?_getD, List.getElem?_eq_getElem ok.hyG]; rfl
  have h := exec_repaint_segment cw o W y ok o.main.grid o.main.cx o.main.cy o.main.sty x x2
    (o.main.row y) (subCells r x x2) [] hG hRl hRwf hx hx2 (subCells_length r x x2) hmaxx hmaxy hok
    hpol
  rw [List.append_nil, stO_self, run_nil] at h
  exact ⟨h, repaintedRow_wf (rowWF_fixAt hRwf x _) (Row.contAt_fixAt_self hRwf x _)
    (Nat.le_of_lt hx) (by rw [Row.fixAt_length, hRl]; exact hx2) (subCells_length r x x2) hok.wf⟩

namespace Lemmas

theorem stO_row (o : Term) (G : List Row) (y : Nat) (F : Row) (cx cy : Nat) (sty : Style)
    (hy : y < G.length) : (stO o (G.set y F) cx cy sty).main.row y = F := by
  simp [stO, Scr.row, hy]

theorem stO_row_other (o : Term) (y : Nat) (F : Row) (cx cy : Nat) (sty : Style) (y' : Nat)
    (hne : y' ≠ y) : (stO o (o.main.grid.set y F) cx cy sty).main.row y' = o.main.row y' := by
  simp [stO, Scr.row, List.getD_eq_getElem?_getD, Ne.symm hne]

theorem headOf_lt_iff_cutBy {r : Row} (hwf : rowWF r = true) {i c : Nat} (hi : i < r.length)
    (hci : c ≤ i) : headOf r i < c ↔ TM.C03.cutBy r i c := by
  obtain ⟨t, w, st, hch, _, h3, _, _, _⟩ := wf_head hwf hi
  unfold TM.C03.cutBy
  rw [wf_widthAt hwf hch]
  constructor
  · intro h; exact ⟨h, by omega⟩
  · intro h; exact h.1

end Lemmas

/-- One row repainted on an arbitrary outer terminal, cell by cell: the window is written; a cell
    left of `x` or right of `x2` is unchanged unless the outer wide character covering it is cut by
    the window's edge — then it is a blank, in the style of the first written cell (left) or of
    the written cell on the character's first column (right); other rows, cursor, `rowWF` kept. -/
theorem repaint_row (cw : Nat → Nat) (o : Term) (W x x2 y : Nat) (r : Row) (ok : OuterOK o W y)
    (hRl : (o.main.row y).length = W) (hRwf : rowWF (o.main.row y) = true)
    (hx : x < x2) (hx2 : x2 ≤ W) (hmaxy : y < paramMax) (hmaxx : x < paramMax)
    (hlen : r.length = W) (hr : RowOK cw r) (hsp : cw 32 ≤ 1)
    (hpol : o.pol = .blank ∨ contAt (o.main.row y) x = false) :
    let O := o.main.row y
    let st0 := styAt (subCells r x x2) 0
    let R := TM.C03.Lemmas.fixAt O x st0
    let T := (run cw o (cupXY x y ++ renderCells none (subCells r x x2))).1
    (∀ i, x ≤ i → i < x2 → (T.main.row y)[i]? = (subCells r x x2)[i - x]?) ∧
    (∀ i, i < x → (T.main.row y)[i]? = if TM.C03.cutBy O i x then some (blank st0) else O[i]?) ∧
    (∀ i, x2 ≤ i → i < W → (T.main.row y)[i]? =
      if headOf R i < x2 then some (blank (styAt (subCells r x x2) (headOf R i - x))) else R[i]?) ∧
    (∀ y', y' ≠ y → T.main.row y' = o.main.row y') ∧
    T.main.cx = min x2 (W - 1) ∧ T.main.cy = y ∧
    (T.main.row y).length = W ∧ rowWF (T.main.row y) = true ∧
    T.main.wrap = false ∧ T.onAlt = false ∧ T.main.w = W ∧ T.main.h = o.main.h ∧
    T.main.grid.length = o.main.grid.length := by
  intro O st0 R T
  obtain ⟨hT, hwf⟩ := repaint_row_state cw o W x x2 y r ok hRl hRwf hx hx2 hmaxy hmaxx hlen hr hsp hpol
  have cell := fun i (hi : i < W) => getElem?_repaintedRow (Row.fixAt (o.main.row y) x
    (styAt (subCells r x x2) 0)) (x := x) (p := x2) (done := subCells r x x2) (i := i)
    (by rw [Row.fixAt_length, hRl]; exact hi) (Nat.le_of_lt hx) (subCells_length r x x2)
  have hRl' : (Row.fixAt (o.main.row y) x (styAt (subCells r x x2) 0)).length = W :=
    (Row.fixAt_length _ _ _).trans hRl
  have hOl : O.length = W := hRl
  rw [show T = _ from hT, stO_row o _ y _ _ _ _ ok.hyG]
  refine ⟨fun i h1 h2 => ?_, fun i h1 => ?_, fun i h1 h2 => ?_,
    fun y' hne => stO_row_other o y _ _ _ _ y' hne, rfl, rfl, (repaintedRow_length _ _ _ _).trans hRl', hwf,
    ok.nowrap, ok.main, ok.width, rfl, by simp [stO]⟩
  · rw [cell i (by omega), if_neg (by omega), if_pos h2]
  · rw [cell i (by omega), if_pos h1, TM.C03.Lemmas.getElem?_fixAt (show i < O.length by omega)]
    exact ite_congr (propext (TM.C03.Lemmas.inChar_iff_cutBy hRwf (show i < O.length by omega)))
      (fun _ => rfl) (fun _ => rfl)
  · rw [cell i (by omega), if_neg (by omega), if_neg (by omega)]

/-- the right-hand clause of `repaint_row` on the outer row itself, when column `x` is not a
    continuation cell -/
theorem repaint_row_right_clean (cw : Nat → Nat) (o : Term) (W x x2 y : Nat) (r : Row)
    (ok : OuterOK o W y)
    (hRl : (o.main.row y).length = W) (hRwf : rowWF (o.main.row y) = true)
    (hx : x < x2) (hx2 : x2 ≤ W) (hmaxy : y < paramMax) (hmaxx : x < paramMax)
    (hlen : r.length = W) (hr : RowOK cw r) (hsp : cw 32 ≤ 1)
    (hclean : contAt (o.main.row y) x = false) (i : Nat) (h1 : x2 ≤ i) (h2 : i < W) :
    ((run cw o (cupXY x y ++ renderCells none (subCells r x x2))).1.main.row y)[i]? =
      if TM.C03.cutBy (o.main.row y) i x2 then
        some (blank (styAt (subCells r x x2) (headOf (o.main.row y) i - x)))
      else (o.main.row y)[i]? := by
  have h := (repaint_row cw o W x x2 y r ok hRl hRwf hx hx2 hmaxy hmaxx hlen hr hsp
    (Or.inr hclean)).2.2.1 i h1 h2
  rw [Row.fixAt_of_not_cont hclean] at h
  rw [h]
  have := headOf_lt_iff_cutBy hRwf (i := i) (c := x2) (by omega) h1
  by_cases hc : headOf (o.main.row y) i < x2
  · rw [if_pos hc, if_pos (this.1 hc)]
  · rw [if_neg hc, if_neg (fun h => hc (this.2 h))]

/-! ## Regions: clamping -/

namespace Lemmas

theorem rect_ne {r : MRegion} (h : r.isEmpty = false) : r.x < r.x2 ∧ r.y < r.y2 := by
  simp only [MRegion.isEmpty, Bool.or_eq_false_iff, decide_eq_false_iff_not] at h; omega

theorem clamp_x_le (r : MRegion) (w h : Nat) : (r.clamp w h).x ≤ w ∧ (r.clamp w h).x2 ≤ w := by
  simp only [MRegion.clamp]; omega

theorem clamp_y_le (r : MRegion) (w h : Nat) : (r.clamp w h).y ≤ h ∧ (r.clamp w h).y2 ≤ h := by
  simp only [MRegion.clamp]; omega

end Lemmas

/-! ## Painting a region: the whole `renderRegion s r0` over an arbitrary outer terminal of the
inner screen's size -/

/-- the new outer row: the window `[x, x2)` of the inner row `r` written over the outer row `R0`
    (the outer character straddling `x`, if any, blanked whole first) -/
def newRow (R0 r : Row) (x x2 : Nat) : Row :=
  repaintedRow (TM.C03.Lemmas.fixAt R0 x (styAt (subCells r x x2) 0)) x x2 (subCells r x x2)

/-- the grid after the rows `y, …, y+n-1` of the region have been repainted on `G` -/
def repaintRows (s : Scr) (x x2 : Nat) : List Row → Nat → Nat → List Row
  | G, _, 0 => G
  | G, y, n+1 => repaintRows s x x2 (G.set y (newRow (G.getD y []) (s.row y) x x2)) (y + 1) n

/-- the outer terminal once `ESC [ s`, `ESC [ ? 7 l` have been read: cursor saved, autowrap off -/
def stSaved (o : Term) : Term :=
  { o with main := { o.main with sx := o.main.cx, sy := o.main.cy, wrap := false } }

/-- the outer terminal after the whole painting: grid `G`, cursor back where it was, saved cursor
    overwritten with that position, autowrap ON, current style default; everything else as in `o` -/
def stDone (o : Term) (G : List Row) : Term :=
  { o with main := { o.main with grid := G, sx := o.main.cx, sy := o.main.cy, wrap := true,
                                 sty := Style.default } }

/-- the outer terminal between `ESC [ ? 7 h` and `ESC [ u` -/
def stPainted (o : Term) (G : List Row) (cx cy : Nat) : Term :=
  { o with main := { o.main with grid := G, cx := cx, cy := cy, sx := o.main.cx, sy := o.main.cy,
                                 wrap := true, sty := Style.default } }

/-- the outer terminal fits the inner screen: main screen active, same size (the frontend paints
    the region at its own coordinates, so the modelled outer terminal is as large as the inner
    screen), every row of the screen's width and well formed -/
structure OuterGrid (o : Term) (s : Scr) : Prop where
  main : o.onAlt = false
  width : o.main.w = s.w
  height : o.main.h = s.h
  glen : o.main.grid.length = s.h
  rows : ∀ y, y < s.h → (o.main.row y).length = s.w ∧ rowWF (o.main.row y) = true

namespace Lemmas

theorem newRow_wf (cw : Nat → Nat) (O r : Row) (x x2 : Nat) (hOwf : rowWF O = true) (hx : x < x2)
    (hx2 : x2 ≤ O.length) (hrl : x2 ≤ r.length) (hr : RowOK cw r) (hsp : cw 32 ≤ 1) :
    (newRow O r x x2).length = O.length ∧ rowWF (newRow O r x x2) = true := by
  exact ⟨by rw [newRow, repaintedRow_length, Row.fixAt_length],
    repaintedRow_wf (rowWF_fixAt hOwf x _) (Row.contAt_fixAt_self hOwf x _)
      (Nat.le_of_lt hx) (by rw [Row.fixAt_length]; exact hx2) (subCells_length r x x2)
      (subCells_rowOK cw r x x2 hr hrl hsp).wf⟩

theorem newRow_clean {O : Row} (hOwf : rowWF O = true) {x x2 : Nat} (hx : x ≤ x2) (hx2 : x2 ≤ O.length)
    (hox : contAt O x = false) (hox2 : contAt O x2 = false) (r : Row) :
    newRow O r x x2 = O.take x ++ subCells r x x2 ++ O.drop x2 := by
  unfold newRow
  rw [Row.fixAt_of_not_cont hox, repaintedRow_eq hOwf hx hx2 (subCells_length r x x2),
    dropB_of_not_cont hox2]

theorem repaintRows_length (s : Scr) (x x2 : Nat) : ∀ (n : Nat) (G : List Row) (y : Nat),
    (repaintRows s x x2 G y n).length = G.length := by
  intro n
  induction n with
  | zero => intro G y; rfl
  | succ n ih => intro G y; simp [repaintRows, ih]

theorem getElem?_repaintRows (s : Scr) (x x2 : Nat) : ∀ (n : Nat) (G : List Row) (y y' : Nat),
    y + n ≤ G.length →
    (repaintRows s x x2 G y n)[y']? =
      if y ≤ y' ∧ y' < y + n then some (newRow (G.getD y' []) (s.row y') x x2) else G[y']? := by
  intro n
  induction n with
  | zero => intro G y y' _; rw [repaintRows, if_neg (by omega)]
  | succ n ih =>
    intro G y y' hle
    rw [repaintRows, ih _ _ _ (by simp only [List.length_set]; omega)]
    by_cases h1 : y + 1 ≤ y' ∧ y' < y + 1 + n
    · rw [if_pos h1, if_pos (by omega)]
      simp only [List.getD_eq_getElem?_getD]
      rw [List.getElem?_set_ne (by omega)]
    · rw [if_neg h1]
      by_cases h2 : y' = y
      · subst h2
        rw [if_pos (by omega), List.getElem?_set_self (by omega)]
      · rw [if_neg (by omega), List.getElem?_set_ne (Ne.symm h2)]

theorem stSaved_ok (o : Term) (s : Scr) (og : OuterGrid o s) (y : Nat) (hy : y < s.h) :
    OuterOK (stSaved o) s.w y :=
  ⟨og.main, rfl, og.width, by show y < o.main.h; rw [og.height]; exact hy,
    by show y < o.main.grid.length; rw [og.glen]; exact hy⟩

theorem apply_save (cw : Nat → Nat) (o : Term) (ho : o.onAlt = false) :
    (o.apply cw (.csi 0 [] true 0x73)).1 =
      { o with main := { o.main with sx := o.main.cx, sy := o.main.cy } } := by
  simp [Term.apply, Term.csi, Term.csiPlain, Term.scr, Term.setScr, ho, Scr.saveCursor]

theorem apply_nowrap (cw : Nat → Nat) (o : Term) (ho : o.onAlt = false) :
    (({ o with main := { o.main with sx := o.main.cx, sy := o.main.cy } } : Term).apply cw
      (.csi 0x3f [7] true 0x6c)).1 = stSaved o := by
  simp [Term.apply, Term.csi, Term.decModes, Term.decMode, Term.scr, Term.setScr, ho, stSaved]

theorem apply_wrap_stO (cw : Nat → Nat) (o : Term) (ho : o.onAlt = false) (G : List Row)
    (cx cy : Nat) :
    ((stO (stSaved o) G cx cy Style.default).apply cw (.csi 0x3f [7] true 0x68)).1 =
      stPainted o G cx cy := by
  simp [Term.apply, Term.csi, Term.decModes, Term.decMode, Term.scr, Term.setScr, ho, stSaved, stO,
    stPainted]

theorem apply_restore_stPainted (cw : Nat → Nat) (o : Term) (ho : o.onAlt = false) (G : List Row)
    (cx cy : Nat) :
    ((stPainted o G cx cy).apply cw (.csi 0 [] true 0x75)).1 = stDone o G := by
  simp [Term.apply, Term.csi, Term.csiPlain, Term.scr, Term.setScr, Term.withScr, ho,
    Scr.restoreCursor, stDone, stPainted]

theorem ansiReset_eq : ansiReset = Style.default.ansiEscape := by decide

/-- the rows of a region, one after the other; where the cursor and the current style end up is
    of no interest, since what follows resets the one and restores the other -/
theorem exec_rows_stO (cw : Nat → Nat) (o1 : Term) (W : Nat) (s : Scr) (x x2 : Nat)
    (hx : x < x2) (hx2 : x2 ≤ W) (hmaxx : x < paramMax) (hsp : cw 32 ≤ 1) (rest : Bytes) :
    ∀ (n : Nat) (G : List Row) (y cx cy : Nat) (sty : Style),
    y + n ≤ paramMax →
    (∀ y', y ≤ y' → y' < y + n → OuterOK o1 W y') →
    (∀ y', y ≤ y' → y' < y + n → ∃ R0, G[y']? = some R0 ∧ R0.length = W ∧ rowWF R0 = true ∧
      (o1.pol = .blank ∨ contAt R0 x = false)) →
    (∀ y', y ≤ y' → y' < y + n → (s.row y').length = W ∧ RowOK cw (s.row y')) →
    ∃ cx' cy' sty', (run cw (stO o1 G cx cy sty) (renderRows s x x2 y n ++ rest)).1 =
      (run cw (stO o1 (repaintRows s x x2 G y n) cx' cy' sty') rest).1 := by
  intro n
  induction n with
  | zero =>
    intro G y cx cy sty _ _ _ _
    exact ⟨cx, cy, sty, rfl⟩
  | succ n ih =>
    intro G y cx cy sty hmax hok hG hrows
    obtain ⟨hlen, hr⟩ := hrows y (Nat.le_refl _) (by omega)
    obtain ⟨R0, hGy, hRl, hRwf, hpol⟩ := hG y (Nat.le_refl _) (by omega)
    have hcells := subCells_rowOK cw (s.row y) x x2 hr (by omega) hsp
    have hR0 : G.getD y [] = R0 := by rw [List.getD_eq_getElem?_getD, hGy]; rfl
    rw [renderRows, List.append_assoc, repaintRows, hR0,
      exec_repaint_segment cw o1 W y (hok y (Nat.le_refl _) (by omega)) G cx cy sty x x2 R0
        (subCells (s.row y) x x2) _ hGy hRl hRwf hx hx2 (subCells_length _ _ _) hmaxx (by omega)
        hcells hpol]
    apply ih _ (y + 1) _ _ _ (by omega) (fun y' h1 h2 => hok y' (by omega) (by omega))
    · intro y' h1 h2
      obtain ⟨R', h3, h4⟩ := hG y' (by omega) (by omega)
      exact ⟨R', by rw [List.getElem?_set_ne (by omega)]; exact h3, h4⟩
    · intro y' h1 h2
      exact hrows y' (by omega) (by omega)

theorem exec_repaint_region (cw : Nat → Nat) (o : Term) (s : Scr) (r0 : MRegion) (og : OuterGrid o s)
    (hne : (r0.clamp s.w s.h).isEmpty = false)
    (hrows : ∀ y, (r0.clamp s.w s.h).y ≤ y → y < (r0.clamp s.w s.h).y2 →
      (s.row y).length = s.w ∧ RowOK cw (s.row y))
    (hpol : ∀ y, (r0.clamp s.w s.h).y ≤ y → y < (r0.clamp s.w s.h).y2 →
      o.pol = .blank ∨ contAt (o.main.row y) (r0.clamp s.w s.h).x = false)
    (hsp : cw 32 ≤ 1) (hW : s.w ≤ paramMax) (hH : s.h ≤ paramMax) (rest : Bytes) :
    (run cw o (renderRegion s r0 ++ rest)).1 =
      (run cw (stDone o (repaintRows s (r0.clamp s.w s.h).x (r0.clamp s.w s.h).x2 o.main.grid
        (r0.clamp s.w s.h).y ((r0.clamp s.w s.h).y2 - (r0.clamp s.w s.h).y))) rest).1 := by
  have hx := (rect_ne hne).1
  have hy := (rect_ne hne).2
  have hx2 := (clamp_x_le r0 s.w s.h).2
  have hy2 := (clamp_y_le r0 s.w s.h).2
  unfold renderRegion
  simp only [hne, Bool.false_eq_true, if_false]
  generalize r0.clamp s.w s.h = r at hx hy hx2 hy2 hrows hpol ⊢
  obtain ⟨cx', cy', sty', hrows'⟩ := exec_rows_stO cw (stSaved o) s.w s r.x r.x2 hx hx2 (by omega) hsp
    (ansiReset ++ (ansiWrapEnable ++ (ansiRestoreCursor ++ rest))) (r.y2 - r.y) o.main.grid r.y
    o.main.cx o.main.cy o.main.sty (by omega) (fun y' _ h2 => stSaved_ok o s og y' (by omega))
    (fun y' h1 h2 => by
      have hy' : y' < s.h := by omega
      refine ⟨o.main.row y', ?_, (og.rows y' hy').1, (og.rows y' hy').2, hpol y' h1 (by omega)⟩
      rw [Scr.row, List.getD_eq_getElem?_getD, List.getElem?_eq_getElem (by rw [og.glen]; exact hy')]
      rfl)
    (fun y' h1 h2 => hrows y' h1 (by omega))
  simp only [List.append_assoc]
  rw [run_tok (a := ansiSaveCursor) (tk := .csi 0 [] true 0x73) rfl, apply_save cw o og.main,
    run_tok (a := ansiWrapDisable) (tk := .csi 0x3f [7] true 0x6c) rfl, apply_nowrap cw o og.main,
    show stSaved o = stO (stSaved o) o.main.grid o.main.cx o.main.cy o.main.sty from rfl, hrows',
    ansiReset_eq,
    exec_ansiEscape cw Style.default TM.C07.Lemmas.valid_default, withSty_stO (stSaved o) og.main,
    run_tok (a := ansiWrapEnable) (tk := .csi 0x3f [7] true 0x68) rfl, apply_wrap_stO cw o og.main,
    run_tok (a := ansiRestoreCursor) (tk := .csi 0 [] true 0x75) rfl, apply_restore_stPainted cw o og.main]

end Lemmas

/-- the grid of the outer terminal `o` after the painting of `r0` from the inner screen `s` -/
def repaintedGrid (o : Term) (s : Scr) (r0 : MRegion) : List Row :=
  repaintRows s (r0.clamp s.w s.h).x (r0.clamp s.w s.h).x2 o.main.grid
    (r0.clamp s.w s.h).y ((r0.clamp s.w s.h).y2 - (r0.clamp s.w s.h).y)

/-- The whole painting `renderRegion s r0` over an ARBITRARY outer terminal of the inner
    screen's size: rows of the clamped region repainted, cursor where it was, the SAVED cursor
    overwritten with that position, autowrap ON, current style default. -/
theorem repaint_region_state (cw : Nat → Nat) (o : Term) (s : Scr) (r0 : MRegion) (og : OuterGrid o s)
    (hne : (r0.clamp s.w s.h).isEmpty = false)
    (hrows : ∀ y, (r0.clamp s.w s.h).y ≤ y → y < (r0.clamp s.w s.h).y2 →
      (s.row y).length = s.w ∧ RowOK cw (s.row y))
    (hpol : ∀ y, (r0.clamp s.w s.h).y ≤ y → y < (r0.clamp s.w s.h).y2 →
      o.pol = .blank ∨ contAt (o.main.row y) (r0.clamp s.w s.h).x = false)
    (hsp : cw 32 ≤ 1) (hW : s.w ≤ paramMax) (hH : s.h ≤ paramMax) :
    (run cw o (renderRegion s r0)).1 = stDone o (repaintedGrid o s r0) := by
  have := exec_repaint_region cw o s r0 og hne hrows hpol hsp hW hH []
  rwa [List.append_nil, run_nil] at this

theorem repaintedGrid_row (o : Term) (s : Scr) (r0 : MRegion) (hg : o.main.grid.length = s.h)
    (y : Nat) :
    (stDone o (repaintedGrid o s r0)).main.row y =
      if (r0.clamp s.w s.h).y ≤ y ∧ y < (r0.clamp s.w s.h).y2 then
        newRow (o.main.row y) (s.row y) (r0.clamp s.w s.h).x (r0.clamp s.w s.h).x2
      else o.main.row y := by
  have hy2 := (clamp_y_le r0 s.w s.h).2
  have hy1 := (clamp_y_le r0 s.w s.h).1
  show List.getD (repaintedGrid o s r0) y [] = _
  unfold repaintedGrid
  rw [List.getD_eq_getElem?_getD, getElem?_repaintRows _ _ _ _ _ _ _ (by omega)]
  by_cases h : (r0.clamp s.w s.h).y ≤ y ∧ y < (r0.clamp s.w s.h).y2
  · rw [if_pos (by omega), if_pos h]; rfl
  · rw [if_neg (by omega), if_neg h, Scr.row, List.getD_eq_getElem?_getD]

theorem outerGrid_repainted (cw : Nat → Nat) (o : Term) (s : Scr) (r0 : MRegion) (og : OuterGrid o s)
    (hne : (r0.clamp s.w s.h).isEmpty = false)
    (hrows : ∀ y, (r0.clamp s.w s.h).y ≤ y → y < (r0.clamp s.w s.h).y2 →
      (s.row y).length = s.w ∧ RowOK cw (s.row y))
    (hsp : cw 32 ≤ 1) : OuterGrid (stDone o (repaintedGrid o s r0)) s := by
  have hx := (rect_ne hne).1
  have hx2 := (clamp_x_le r0 s.w s.h).2
  refine ⟨og.main, og.width, og.height, (repaintRows_length s _ _ _ _ _).trans og.glen, fun y hy => ?_⟩
  obtain ⟨hl, hwf⟩ := og.rows y hy
  rw [repaintedGrid_row o s r0 og.glen y]
  split
  · next h =>
    obtain ⟨l, w⟩ := newRow_wf cw (o.main.row y) (s.row y) _ _ hwf hx (by rw [hl]; exact hx2)
      (by rw [(hrows y h.1 h.2).1]; exact hx2) (hrows y h.1 h.2).2 hsp
    exact ⟨l.trans hl, w⟩
  · exact ⟨hl, hwf⟩

/-- `repaint_region_state` cell by cell, when the window cuts no character of the repainted
    outer rows -/
theorem repaint_region (cw : Nat → Nat) (o : Term) (s : Scr) (r0 : MRegion) (og : OuterGrid o s)
    (hne : (r0.clamp s.w s.h).isEmpty = false)
    (hrows : ∀ y, (r0.clamp s.w s.h).y ≤ y → y < (r0.clamp s.w s.h).y2 →
      (s.row y).length = s.w ∧ RowOK cw (s.row y))
    (hnocut : ∀ y, (r0.clamp s.w s.h).y ≤ y → y < (r0.clamp s.w s.h).y2 →
      contAt (o.main.row y) (r0.clamp s.w s.h).x = false ∧
      contAt (o.main.row y) (r0.clamp s.w s.h).x2 = false)
    (hsp : cw 32 ≤ 1) (hW : s.w ≤ paramMax) (hH : s.h ≤ paramMax) :
    let r := r0.clamp s.w s.h
    let T := (run cw o (renderRegion s r0)).1
    (∀ y, r.y ≤ y → y < r.y2 → ∀ i, i < s.w → (T.main.row y)[i]? =
      if r.x ≤ i ∧ i < r.x2 then (subCells (s.row y) r.x r.x2)[i - r.x]? else (o.main.row y)[i]?) ∧
    (∀ y, ¬ (r.y ≤ y ∧ y < r.y2) → T.main.row y = o.main.row y) ∧
    T.main.cx = o.main.cx ∧ T.main.cy = o.main.cy ∧ T.main.sx = o.main.cx ∧ T.main.sy = o.main.cy ∧
    T.main.wrap = true ∧ T.main.sty = Style.default ∧ OuterGrid T s := by
  intro r T
  have hT : T = _ := repaint_region_state cw o s r0 og hne hrows
    (fun y h1 h2 => Or.inr (hnocut y h1 h2).1) hsp hW hH
  have hx := (rect_ne hne).1
  have hx2 := (clamp_x_le r0 s.w s.h).2
  have hy2 := (clamp_y_le r0 s.w s.h).2
  rw [← show r = r0.clamp s.w s.h from rfl] at hx hx2 hy2
  rw [hT]
  refine ⟨fun y h1 h2 i hi => ?_, fun y hn => ?_, rfl, rfl, rfl, rfl, rfl, rfl,
    outerGrid_repainted cw o s r0 og hne hrows hsp⟩
  · obtain ⟨hl, hwf⟩ := og.rows y (by omega)
    obtain ⟨c1, c2⟩ := hnocut y h1 h2
    rw [repaintedGrid_row o s r0 og.glen, if_pos ⟨h1, h2⟩,
      newRow_clean hwf (Nat.le_of_lt hx) (by rw [hl]; exact hx2) c1 c2, getElem?_append3,
      List.length_take, Nat.min_eq_left (by omega), subCells_length]
    by_cases hA : i < r.x
    · rw [if_pos hA, if_neg (by omega), List.getElem?_take_of_lt hA]
    · rw [if_neg hA]
      by_cases hB : i < r.x2
      · rw [if_pos (by omega), if_pos ⟨by omega, hB⟩]
      · rw [if_neg (by omega), if_neg (by omega), List.getElem?_drop]
        congr 1; omega
  · rw [repaintedGrid_row o s r0 og.glen, if_neg hn]

/-! ## A fresh outer terminal

Every cell a default blank, autowrap off, cursor and saved cursor home: the case
`o := Term.init …` of `repaint_row_state` and `repaint_region_state`, where the repainted row is
the window between blanks. -/

namespace Lemmas

theorem repaintedRow_blankRow (W x x2 : Nat) (cells : Row) (hx : x ≤ x2) (hx2 : x2 ≤ W)
    (hc : cells.length = x2 - x) :
    repaintedRow (blankRow W Style.default) x x2 cells =
      blankRow x Style.default ++ cells ++ blankRow (W - x2) Style.default := by
  rw [repaintedRow_eq (blankRow_wf _ _) hx (by rw [blankRow_length]; exact hx2) hc,
    dropB_of_not_cont (contAt_blankRow _ _ _)]
  simp only [blankRow, List.take_replicate, List.drop_replicate, Nat.min_eq_left (show x ≤ W by omega)]

theorem init_row (W H y : Nat) (hy : y < H) : (Scr.init W H).row y = blankRow W Style.default := by
  simp [Scr.row, Scr.init, hy]

theorem contAt_init_row (pol : WidePolicy) (W H y x : Nat) (hy : y < H) :
    contAt ((Term.init pol W H).main.row y) x = false := by
  rw [show (Term.init pol W H).main.row y = blankRow W Style.default from init_row W H y hy]
  exact contAt_blankRow _ _ _

theorem outerGrid_init (pol : WidePolicy) (s : Scr) : OuterGrid (Term.init pol s.w s.h) s :=
  ⟨rfl, rfl, rfl, by simp [Term.init, Scr.init], fun y hy => by
    show ((Scr.init s.w s.h).row y).length = s.w ∧ rowWF ((Scr.init s.w s.h).row y) = true
    rw [init_row _ _ _ hy]; exact ⟨blankRow_length _ _, blankRow_wf _ _⟩⟩

theorem newRow_blankRow (W : Nat) (r : Row) (x x2 : Nat) (hx : x ≤ x2) (hx2 : x2 ≤ W) :
    newRow (blankRow W Style.default) r x x2 =
      blankRow x Style.default ++ subCells r x x2 ++ blankRow (W - x2) Style.default := by
  unfold newRow
  rw [Row.fixAt_of_not_cont (contAt_blankRow W _ x),
    repaintedRow_blankRow W x x2 _ hx hx2 (subCells_length r x x2)]

end Lemmas

theorem mirror_row_state (cw : Nat → Nat) (pol : WidePolicy) (W H x x2 y : Nat) (r : Row)
    (hy : y < H) (hx : x < x2) (hx2 : x2 ≤ W) (hmaxy : y < paramMax) (hmaxx : x < paramMax)
    (hlen : r.length = W) (hr : RowOK cw r) (hsp : cw 32 ≤ 1) :
    (run cw (Term.init pol W H) (cupXY x y ++ renderCells none (subCells r x x2))).1 =
      stO (Term.init pol W H) ((Scr.init W H).grid.set y
          (blankRow x Style.default ++ subCells r x x2 ++ blankRow (W - x2) Style.default))
        (min x2 (W - 1)) y (segSty Style.default (subCells r x x2)) := by
  have hrow : (Term.init pol W H).main.row y = blankRow W Style.default := init_row W H y hy
  have ok : OuterOK (Term.init pol W H) W y := ⟨rfl, rfl, rfl, hy, by simpa [Term.init, Scr.init] using hy⟩
  have h := (repaint_row_state cw (Term.init pol W H) W x x2 y r ok
    (by rw [hrow]; exact blankRow_length _ _) (by rw [hrow]; exact blankRow_wf _ _) hx hx2 hmaxy hmaxx
    hlen hr hsp (Or.inr (by rw [hrow]; exact contAt_blankRow W _ x))).1
  rw [hrow] at h
  rw [h]
  exact congrArg (fun R => stO _ (List.set _ y R) _ _ _) (newRow_blankRow W r x x2 (by omega) hx2)

/-- One row of the region read by a fresh outer terminal: row `y` is blanks, the window of the
    inner row (a wide character cut by the window showing as blanks in its own style), blanks. -/
theorem mirror_row_fresh (cw : Nat → Nat) (pol : WidePolicy) (W H x x2 y : Nat) (r : Row)
    (hy : y < H) (hx : x < x2) (hx2 : x2 ≤ W) (hmaxy : y < paramMax) (hmaxx : x < paramMax)
    (hlen : r.length = W) (hr : RowOK cw r) (hsp : cw 32 ≤ 1) :
    (run cw (Term.init pol W H) (cupXY x y ++ renderCells none (subCells r x x2))).1.main.row y =
      blankRow x Style.default ++ subCells r x x2 ++ blankRow (W - x2) Style.default := by
  rw [mirror_row_state cw pol W H x x2 y r hy hx hx2 hmaxy hmaxx hlen hr hsp]
  exact stO_row _ _ y _ _ _ _ (by simpa [Scr.init] using hy)

theorem mirror_row_fresh_others (cw : Nat → Nat) (pol : WidePolicy) (W H x x2 y : Nat) (r : Row)
    (hy : y < H) (hx : x < x2) (hx2 : x2 ≤ W) (hmaxy : y < paramMax) (hmaxx : x < paramMax)
    (hlen : r.length = W) (hr : RowOK cw r) (hsp : cw 32 ≤ 1) (y' : Nat) (hne : y' ≠ y) :
    (run cw (Term.init pol W H) (cupXY x y ++ renderCells none (subCells r x x2))).1.main.row y' =
      (Term.init pol W H).main.row y' := by
  rw [mirror_row_state cw pol W H x x2 y r hy hx hx2 hmaxy hmaxx hlen hr hsp]
  exact stO_row_other _ y _ _ _ _ y' hne

theorem mirror_row_fresh_cursor (cw : Nat → Nat) (pol : WidePolicy) (W H x x2 y : Nat) (r : Row)
    (hy : y < H) (hx : x < x2) (hx2 : x2 ≤ W) (hmaxy : y < paramMax) (hmaxx : x < paramMax)
    (hlen : r.length = W) (hr : RowOK cw r) (hsp : cw 32 ≤ 1) :
    let T := (run cw (Term.init pol W H) (cupXY x y ++ renderCells none (subCells r x x2))).1
    T.main.cx = min x2 (W - 1) ∧ T.main.cy = y := by
  intro T
  have : T = _ := mirror_row_state cw pol W H x x2 y r hy hx hx2 hmaxy hmaxx hlen hr hsp
  rw [this]
  exact ⟨rfl, rfl⟩

/-- `renderRegion s r0` read by a fresh outer terminal of the inner screen's size: the rows of
    the clamped region hold the windows, every other row is blank, cursor home, autowrap on. -/
theorem mirror_region_fresh (cw : Nat → Nat) (pol : WidePolicy) (s : Scr) (r0 : MRegion)
    (hne : (r0.clamp s.w s.h).isEmpty = false)
    (hrows : ∀ y, y < s.h → (s.row y).length = s.w ∧ RowOK cw (s.row y))
    (hsp : cw 32 ≤ 1) (hW : s.w ≤ paramMax) (hH : s.h ≤ paramMax) :
    let r := r0.clamp s.w s.h
    let T := (run cw (Term.init pol s.w s.h) (renderRegion s r0)).1
    (∀ y, r.y ≤ y → y < r.y2 → T.main.row y =
      blankRow r.x Style.default ++ subCells (s.row y) r.x r.x2 ++ blankRow (s.w - r.x2) Style.default) ∧
    (∀ y, y < s.h → ¬ (r.y ≤ y ∧ y < r.y2) → T.main.row y = blankRow s.w Style.default) ∧
    T.main.cx = 0 ∧ T.main.cy = 0 ∧ T.main.wrap = true ∧ T.main.sty = Style.default ∧
    T.main.w = s.w ∧ T.main.h = s.h ∧ T.main.grid.length = s.h ∧ T.onAlt = false := by
  intro r T
  have og := outerGrid_init pol s
  have hy2 := (clamp_y_le r0 s.w s.h).2
  have hT : T = _ := repaint_region_state cw (Term.init pol s.w s.h) s r0 og hne
    (fun y _ h2 => hrows y (by omega))
    (fun y _ h2 => Or.inr (contAt_init_row pol _ _ y _ (by omega))) hsp hW hH
  have hrowT := fun y => repaintedGrid_row (Term.init pol s.w s.h) s r0 og.glen y
  have hx := (rect_ne hne).1
  have hx2 := (clamp_x_le r0 s.w s.h).2
  rw [hT]
  refine ⟨fun y h1 h2 => ?_, fun y hy hn => ?_, rfl, rfl, rfl, rfl, rfl, rfl,
    (outerGrid_repainted cw _ s r0 og hne (fun y _ h2 => hrows y (by omega)) hsp).glen, rfl⟩
  · rw [hrowT, if_pos ⟨h1, h2⟩,
      show (Term.init pol s.w s.h).main.row y = blankRow s.w Style.default from
        init_row _ _ _ (Nat.lt_of_lt_of_le h2 hy2)]
    exact newRow_blankRow s.w _ _ _ (Nat.le_of_lt hx) hx2
  · rw [hrowT, if_neg hn]; exact init_row _ _ _ hy

theorem mirror_region_empty (s : Scr) (r0 : MRegion) (he : (r0.clamp s.w s.h).isEmpty = true) :
    renderRegion s r0 = [] := by
  simp [renderRegion, he]

/-! ### `C11.stT` over an arbitrary grid

The state while row `y` of a fresh `W × H` terminal with grid `G` is being painted; `C11.stT` is
its case `G := (Scr.init W H).grid` (`stT_eq_stP`). -/

/-- main screen of the outer terminal: a fresh `W × H` screen (autowrap off, margins, saved cursor
    `(0,0)`) with grid `G`, cursor `(cx, cy)` and current style `sty` -/
def scrG (W H : Nat) (G : List Row) (cx cy : Nat) (sty : Style) : Scr :=
  { Scr.init W H with grid := G, cx := cx, cy := cy, sty := sty }

def stG (pol : WidePolicy) (W H : Nat) (G : List Row) (cx cy : Nat) (sty : Style) : Term :=
  { Term.init pol W H with main := scrG W H G cx cy sty }

def rowG (W : Nat) (G : List Row) (y : Nat) (done : Row) : List Row :=
  G.set y (done ++ blankRow (W - done.length) Style.default)

/-- the outer terminal while row `y` is being painted: the cells `done` are on the row, the cursor
    is behind them (pinned on the last column once the row is full) -/
def stP (pol : WidePolicy) (W H : Nat) (G : List Row) (y : Nat) (done : Row) (sty : Style) : Term :=
  stG pol W H (rowG W G y done) (min done.length (W - 1)) y sty

namespace Lemmas

theorem stT_eq_stP (pol : WidePolicy) (W H y : Nat) (done : Row) (sty : Style) :
    stT pol W H y done sty = stP pol W H (Scr.init W H).grid y done sty := rfl

theorem rowG_rowG (W : Nat) (G : List Row) (y : Nat) (a b : Row) :
    rowG W (rowG W G y a) y b = rowG W G y b := by
  simp [rowG]

end Lemmas

/-! ## non-vacuity -/

namespace Examples
open TM.C11.Examples

def A : Cell := ⟨.ch [0x41] 1, Style.default⟩
def B : Cell := ⟨.ch [0x42] 1, fancy⟩
def Wd : Cell := ⟨.ch [0xE4, 0xB8, 0x96] 2, boldRedOn200⟩
def Wc : Cell := ⟨.cont, boldRedOn200⟩
def C : Cell := ⟨.ch [0x43] 1, Style.default⟩
def D : Cell := ⟨.ch [0x44] 1, Style.default⟩

/-- `A B 世 世 C D`: a wide character at columns 2–3 -/
def row6 : Row := [A, B, Wd, Wc, C, D]

/-- the window `[3,6)` cuts the wide character: its second cell shows as a blank in ITS style -/
example : subCells row6 3 6 = [blank boldRedOn200, C, D] := by decide
/-- the window `[1,3)` cuts it on the right -/
example : subCells row6 1 3 = [B, blank boldRedOn200] := by decide
/-- the window `[2,4)` holds it entirely -/
example : subCells row6 2 4 = [Wd, Wc] := by decide
example : subCells row6 0 6 = row6 := by decide
example : subCells row6 3 3 = [] := by decide
example : cupXY 3 1 = [0x1b, 0x5b, 0x32, 0x3b, 0x34, 0x48] := by decide

theorem rowOK6 : RowOK cw row6 := rowOK_of_check (by decide)

/-- the hypotheses of `mirror_row_fresh` hold for this row on a 6 × 3 outer terminal, row 1,
    window `[3,6)` (cut wide character, window ending in the last column), both policies -/
example (pol : WidePolicy) :
    (run cw (Term.init pol 6 3) (cupXY 3 1 ++ renderCells none (subCells row6 3 6))).1.main.row 1 =
      blankRow 3 Style.default ++ [blank boldRedOn200, C, D] ++ blankRow 0 Style.default :=
  mirror_row_fresh cw pol 6 3 3 6 1 row6 (by decide) (by decide) (by decide) (by decide) (by decide)
    rfl rowOK6 (by decide)

/-- window `[1,4)` in the middle of the row -/
example (pol : WidePolicy) :
    (run cw (Term.init pol 6 3) (cupXY 1 2 ++ renderCells none (subCells row6 1 4))).1.main.row 2 =
      [blank Style.default, B, Wd, Wc, blank Style.default, blank Style.default] :=
  mirror_row_fresh cw pol 6 3 1 4 2 row6 (by decide) (by decide) (by decide) (by decide) (by decide)
    rfl rowOK6 (by decide)

/-- a 6 × 2 inner screen: `row6` and a blank row -/
def scr6 : Scr := { Scr.init 6 2 with grid := [row6, blankRow 6 Style.default] }

theorem scr6_rows : ∀ y, y < scr6.h → (scr6.row y).length = scr6.w ∧ RowOK cw (scr6.row y) := by
  intro y hy
  have : y = 0 ∨ y = 1 := by have : scr6.h = 2 := rfl; omega
  rcases this with rfl | rfl
  · exact ⟨rfl, rowOK6⟩
  · exact ⟨rfl, rowOK_blankRow cw 6 Style.default (by decide) (by decide)⟩

/-- the painting of the region `[3,9) × [0,5)` (clamped to `[3,6) × [0,2)`): what is written -/
example : renderRegion scr6 ⟨3, 0, 9, 5⟩ =
    [0x1b, 0x5b, 0x73] ++ [0x1b, 0x5b, 0x3f, 0x37, 0x6c] ++
    ([0x1b, 0x5b, 0x31, 0x3b, 0x34, 0x48] ++ boldRedOn200.ansiEscape ++ [0x20] ++
      Style.default.ansiEscape ++ [0x43, 0x44]) ++
    ([0x1b, 0x5b, 0x32, 0x3b, 0x34, 0x48] ++ Style.default.ansiEscape ++ [0x20, 0x20, 0x20]) ++
    [0x1b, 0x5b, 0x30, 0x6d] ++ [0x1b, 0x5b, 0x3f, 0x37, 0x68] ++ [0x1b, 0x5b, 0x75] := by decide +kernel

/-- … and the hypotheses of `mirror_region_fresh` hold for it -/
example (pol : WidePolicy) :
    (run cw (Term.init pol 6 2) (renderRegion scr6 ⟨3, 0, 9, 5⟩)).1.main.row 0 =
      blankRow 3 Style.default ++ [blank boldRedOn200, C, D] ++ blankRow 0 Style.default :=
  (mirror_region_fresh cw pol scr6 ⟨3, 0, 9, 5⟩ (by decide) scr6_rows (by decide) (by decide)
    (by decide)).1 0 (by decide) (by decide)

/-- an outer terminal that is not fresh: one row `A B 世 世 C D`, cursor and style anywhere -/
def outer6 (pol : WidePolicy) : Term :=
  { Term.init pol 6 1 with main := { Scr.init 6 1 with grid := [row6], cx := 5, sty := fancy } }

theorem outer6_ok (pol : WidePolicy) : OuterOK (outer6 pol) 6 0 :=
  ⟨rfl, rfl, rfl, Nat.zero_lt_one, Nat.zero_lt_one⟩

/-- the inner row now reads `D C 世 世 B A` -/
def row6' : Row := [D, C, Wd, Wc, B, A]

theorem rowOK6' : RowOK cw row6' := rowOK_of_check (by decide)

/-- grid policy, window `[3,5)`: column 3 is the continuation cell of the OUTER `世`, and the
    window also cuts the INNER `世`. The outer `世` is blanked whole — its first cell, LEFT of the
    window, becomes a blank in the style of the first written cell (`boldRedOn200`, the style of
    the cut inner character) — and the window shows `blank, B`. -/
example : repaintedRow (TM.C03.Lemmas.fixAt row6 3 (styAt (subCells row6' 3 5) 0)) 3 5 (subCells row6' 3 5) =
    [A, B, blank boldRedOn200, blank boldRedOn200, B, D] := by decide

/-- … and the hypotheses of `repaint_row_state` hold for it -/
example :
    (run cw (outer6 .blank) (cupXY 3 0 ++ renderCells none (subCells row6' 3 5))).1 =
      stO (outer6 .blank) ((outer6 .blank).main.grid.set 0
        (repaintedRow (TM.C03.Lemmas.fixAt row6 3 (styAt (subCells row6' 3 5) 0)) 3 5 (subCells row6' 3 5)))
        (min 5 (6 - 1)) 0 (segSty fancy (subCells row6' 3 5)) :=
  (repaint_row_state cw (outer6 .blank) 6 3 5 0 row6' (outer6_ok _) rfl (by decide) (by decide)
    (by decide) (by decide) (by decide) rfl rowOK6' (by decide) (Or.inl rfl)).1

/-- the span policy (`.keep`) really is different when the window starts on a continuation cell
    of the outer row: the written characters are inserted AFTER the kept wide character, so
    repainting `[1,4)` of `世 世 _ _` with three blanks leaves `世` standing, while the grid policy
    blanks it. (Hence the hypothesis `contAt (o.main.row y) x = false` for `.keep`.) -/
example :
    let wide : Row := [Wd, Wc, blank Style.default, blank Style.default]
    let S : Scr := { Scr.init 4 1 with grid := [wide], cx := 1 }
    (((S.put .keep [0x20] 1).put .keep [0x20] 1).put .keep [0x20] 1).row 0 = wide ∧
    (((S.put .blank [0x20] 1).put .blank [0x20] 1).put .blank [0x20] 1).row 0 =
      blankRow 4 Style.default := by decide +kernel

end Examples

end TM.C11M

#print axioms TM.C11M.subCells_length
#print axioms TM.C11M.subCells_getElem?
#print axioms TM.C11M.cutCell_inside
#print axioms TM.C11M.cutCell_cut
#print axioms TM.C11M.subCells_full
#print axioms TM.C11M.subCells_rowOK
#print axioms TM.C11M.repaint_row_state
#print axioms TM.C11M.repaint_row
#print axioms TM.C11M.repaint_row_right_clean
#print axioms TM.C11M.repaint_region_state
#print axioms TM.C11M.repaint_region
#print axioms TM.C11M.mirror_row_state
#print axioms TM.C11M.mirror_row_fresh
#print axioms TM.C11M.mirror_row_fresh_others
#print axioms TM.C11M.mirror_row_fresh_cursor
#print axioms TM.C11M.mirror_region_fresh
#print axioms TM.C11M.mirror_region_empty
