import Props.C02Span
/-!
# C02SpanStyled — `StyledLine(x, w, y)` of the span buffer

The runs `TM.styledLine` returns are the row's characters clipped to the window, a wide character
cut by an edge shown as blanks: `lineK` of the result is `clipR` of `lineK` of the row
(`styledLineAux_spec`, run by run through `styledRun_spec`), and the cells of the clipped characters
are the mirror model's read `subCells` of the window (`cellsK_clipR` of `Proofs/CellsK`). Hence
`styledLine_cells` (what `C20GridStyled.grid_styledLine_subCells` says of the grid buffer) and its
cell-by-cell form `styledLine_spec`.
-/
namespace TM.C02Span

/-- the part of `StyledLine` that shows a prefix of a run -/
def tailOf (cw : Nat → Nat) (sp : Span) (v : Nat) (sty : Style) : List Span :=
  if sp.width > v then
    (if (splitSpan cw sp v).1.width > 0 then [(splitSpan cw sp v).1] else []) ++
    (if (splitSpan cw sp v).2.2.width > 0 ∧ v > (splitSpan cw sp v).1.width then
      [blankSpan sty (v - (splitSpan cw sp v).1.width)] else [])
  else if sp.width > 0 then [sp] else []

theorem tailOf_spec {cw : Nat → Nat} {sp : Span} (hg : SpanG cw sp) (v : Nat) (hb : cw 0x20 ≤ 1) :
    lineK cw (tailOf cw sp v sp.sty) = clipR 0 v (spanK cw sp) ∧
    AllWF cw (tailOf cw sp v sp.sty) := by
  unfold tailOf
  by_cases hv : sp.width > v
  · rw [if_pos hv]
    obtain ⟨l, r, wd, hs, _, hgl, hgr, hwsum, hcase⟩ :=
      splitSpan_total (hg.wf (by omega)) (off := v) (Nat.le_of_lt hv)
    simp only [hs]
    rcases hcase with ⟨hwd, hlw, hK⟩ | ⟨p, hwdw, hlt1, hlt2, hK⟩
    · have hw0 : ¬ (wd.width > 0 ∧ v > l.width) := fun c => absurd c.1 (by omega)
      simp only [hw0, if_false, List.append_nil]
      refine ⟨?_, allWF_opt hgl⟩
      rw [lineK_opt hgl, hK, clipR_append, hgl.wk, hlw, Nat.sub_self,
        clipR_inside _ _ hgl.posK (by rw [hgl.wk, hlw]; exact Nat.le_refl _),
        clipR_empty _ _ _ (Nat.zero_le _), List.append_nil]
    · have hw1 : wd.width > 0 ∧ v > l.width := by omega
      simp only [hw1, and_self, if_true]
      refine ⟨?_, (allWF_opt hgl).append (AllWF.cons (spanWF_blankSpan hb _ (by omega)) (AllWF.nil cw))⟩
      -- the window ends inside `p`: its `v - l.width` cells there are blanks, nothing follows
      rw [lineK_append, lineK_opt hgl, hK, clipR_append, hgl.wk, Nat.zero_sub,
        clipR_inside _ _ hgl.posK (by rw [hgl.wk]; omega),
        clipR_cut (c := p) (by omega) (by omega) (Or.inr (by omega)),
        clipR_empty _ _ _ (by omega), List.append_nil, Nat.min_eq_right (by omega), Nat.sub_zero,
        lineK_cons, lineK_nil, List.append_nil, spanK_blankSpan]
  · rw [if_neg hv, lineK_opt hg, clipR_inside _ _ hg.posK (by rw [hg.wk]; omega)]
    exact ⟨rfl, allWF_opt hg⟩

/-- what `StyledLine` makes of the parts `p` of a run split at offset `off`, the left edge of the
    window, of which `v` cells are visible: blanks for a wide character cut by the edge, then the
    visible prefix of the right part -/
def styledCut (cw : Nat → Nat) (sty : Style) (off v : Nat) (p : Span × Span × Span) : List Span :=
  (if p.2.2.width > 0 then
    [blankSpan sty (if p.2.2.width > 0 then min (p.1.width + p.2.2.width - off) v else 0)] else []) ++
  tailOf cw p.2.1 (v - (if p.2.2.width > 0 then min (p.1.width + p.2.2.width - off) v else 0)) sty

theorem sub_offset {u b : Nat} (h : u ≤ b) (a : Nat) : a - (b - u) = u + a - b := by omega

/-- a character of width `p` with `d` of its cells left of a window of `v` cells shows
    `min (p - d) v` cells, and `d + v - p` cells of the window are left for what follows it -/
theorem cut_char {d p : Nat} (hd : d ≤ p) (v : Nat) :
    min p (d + v) - d = min (p - d) v ∧ v - min (p - d) v = d + v - p := by
  -- `omega` proves this, `window_in_run` and `max_sub_left` at five times the cost
  rw [← Nat.sub_min_sub_right, Nat.add_sub_cancel_left, ← Nat.sub_max_sub_left, Nat.sub_self,
    Nat.max_zero, sub_offset hd]
  exact ⟨rfl, rfl⟩

/-- what `StyledLine` makes of one run of which the `v` cells from offset `off` on are visible -/
def styledRun (cw : Nat → Nat) (sp : Span) (off v : Nat) : List Span :=
  if v > 0 then
    if off = 0 ∧ v = sp.width then [sp] else styledCut cw sp.sty off v (splitSpan cw sp off)
  else []

theorem styledLineAux_cons (cw : Nat → Nat) (x w : Nat) (sp : Span) (rest : List Span) (pos : Nat) :
    styledLineAux cw x w (sp :: rest) pos =
      if pos + sp.width ≤ x then styledLineAux cw x w rest (pos + sp.width)
      else if pos ≥ x + w then []
      else styledRun cw sp (max pos x - pos) (min (pos + sp.width) (x + w) - max pos x) ++
        styledLineAux cw x w rest (pos + sp.width) := by
  simp only [styledLineAux, styledRun, styledCut, tailOf]

theorem styledRun_spec {cw : Nat → Nat} {sp : Span} (hwf : spanWF cw sp = true) (hb : cw 0x20 ≤ 1)
    {off v : Nat} (hov : off + v ≤ sp.width) :
    lineK cw (styledRun cw sp off v) = clipR off (off + v) (spanK cw sp) ∧
    AllWF cw (styledRun cw sp off v) := by
  have hG := SpanG.of_wf hwf
  unfold styledRun
  by_cases hv0 : v > 0
  · rw [if_pos hv0]
    by_cases hall : off = 0 ∧ v = sp.width
    · rw [if_pos hall, hall.1, hall.2, Nat.zero_add, lineK_cons, lineK_nil, List.append_nil,
        clipR_inside _ _ hG.posK (by rw [hG.wk]; exact Nat.le_refl _)]
      exact ⟨rfl, AllWF.cons hwf (AllWF.nil cw)⟩
    · rw [if_neg hall]
      obtain ⟨l, r, wd, hs, hr1, hgl, hgr, hwsum, hcase⟩ :=
        splitSpan_total hwf (off := off) (by omega)
      replace hr1 := hr1 (by omega)
      rw [hs]
      rcases hcase with ⟨hwd, hlw, hK⟩ | ⟨p, hwdw, hlt1, hlt2, hK⟩
      · simp only [styledCut, hwd, Nat.lt_irrefl, if_false, Nat.sub_zero, List.nil_append]
        rw [hK, clipR_append, hgl.wk, hlw, clipR_before _ _ _ (by rw [hgl.wk, hlw]; exact Nat.le_refl _),
          List.nil_append, Nat.sub_self, Nat.add_sub_cancel_left, ← hr1]
        exact tailOf_spec hgr v hb
      · have hw1 : wd.width > 0 := by omega
        simp only [styledCut, hw1, if_true]
        -- `d` cells of the cut character lie left of the window
        obtain ⟨d, rfl⟩ : ∃ d, off = l.width + d := ⟨off - l.width, by omega⟩
        have hd : d < p.2 := by omega
        have hd0 : ¬ d = 0 := by omega
        have hts := tailOf_spec hgr (v - min (l.width + wd.width - (l.width + d)) v) hb
        rw [hr1] at hts
        refine ⟨?_, (AllWF.cons (spanWF_blankSpan hb _ (by omega)) (AllWF.nil cw)).append hts.2⟩
        have e := cut_char (Nat.le_of_lt hd) v
        -- the window starts inside `p`: blanks for its cells there (`clipR_cut`, counted by
        -- `cut_char`), then the prefix of `r` that `tailOf` shows
        rw [lineK_append, hts.1, hK, clipR_append, clipR_before (spanK cw l) _ _ (by rw [hgl.wk]; omega),
          List.nil_append, hgl.wk, Nat.add_sub_cancel_left, Nat.add_assoc, Nat.add_sub_cancel_left,
          clipR_cut (c := p) hd (by omega) (Or.inl (by omega)), e.1, ← e.2, hwdw, Nat.add_sub_add_left,
          lineK_cons, lineK_nil, List.append_nil, spanK_blankSpan]
  · rw [if_neg hv0]
    have : v = 0 := by omega
    subst this
    exact ⟨(clipR_empty _ _ _ (Nat.le_refl _)).symm, AllWF.nil cw⟩

/-- a run of width `s` at column `p` that meets the window `[x, e)`: both sides are
    `min (p + s) e - p`, the left one in two steps over `max p x` -/
theorem window_in_run {p s x e : Nat} (h1 : x < p + s) (h2 : p < e) (h3 : x ≤ e) :
    (max p x - p) + (min (p + s) e - max p x) = min (e - p) s := by
  have hm : max p x ≤ min (p + s) e :=
    Nat.le_min.2 ⟨Nat.max_le.2 ⟨Nat.le_add_right p s, Nat.le_of_lt h1⟩, Nat.max_le.2 ⟨Nat.le_of_lt h2, h3⟩⟩
  rw [Nat.add_comm, Nat.sub_add_sub_cancel hm (Nat.le_max_left p x), ← Nat.sub_min_sub_right,
    Nat.add_sub_cancel_left, Nat.min_comm]

theorem max_sub_left (p x : Nat) : max p x - p = x - p := by
  rw [← Nat.sub_max_sub_right, Nat.sub_self, Nat.zero_max]

theorem styledLineAux_spec {cw : Nat → Nat} (hb : cw 0x20 ≤ 1) (x w : Nat) : ∀ (S : List Span) (pos : Nat),
    AllWF cw S →
    lineK cw (styledLineAux cw x w S pos) = clipR (x - pos) (x + w - pos) (lineK cw S) ∧
    AllWF cw (styledLineAux cw x w S pos) := by
  intro S
  induction S with
  | nil => intro pos _; exact ⟨rfl, AllWF.nil cw⟩
  | cons sp r ih =>
    intro pos hwf
    have hG := SpanG.of_wf hwf.head
    obtain ⟨i1, i2⟩ := ih (pos + sp.width) hwf.tail
    rw [styledLineAux_cons, lineK_cons, clipR_append, hG.wk, Nat.sub_sub, Nat.sub_sub]
    by_cases h1 : pos + sp.width ≤ x
    · rw [if_pos h1, clipR_before _ _ _ (by rw [hG.wk]; omega), List.nil_append]
      exact ⟨i1, i2⟩
    · rw [if_neg h1]
      by_cases h2 : pos ≥ x + w
      · rw [if_pos h2, clipR_empty _ _ _ (by omega), clipR_empty _ _ _ (by omega)]
        exact ⟨rfl, AllWF.nil cw⟩
      · have e := window_in_run (Nat.lt_of_not_le h1) (Nat.lt_of_not_le h2) (Nat.le_add_right x w)
        obtain ⟨r1, r2⟩ := styledRun_spec hwf.head hb (off := max pos x - pos)
          (v := min (pos + sp.width) (x + w) - max pos x) (e ▸ Nat.min_le_right _ _)
        have hmin := clipR_min (spanK cw sp) (x - pos) (x + w - pos)
        rw [hG.wk] at hmin
        rw [if_neg h2]
        refine ⟨?_, r2.append i2⟩
        rw [lineK_append, i1, r1, e, max_sub_left, hmin]

/-- the cell `StyledLine(x, w, ·)` shows for column `i` of the row `R`: the cell itself when its
    character lies inside `[x, x+w)`, else a blank in the cell's style -/
def showCell (R : Row) (x w i : Nat) : Option Cell :=
  if x ≤ headOf R i ∧ headOf R i + widthAt R (headOf R i) ≤ x + w then R[i]?
  else (R[i]?).map fun c => blank c.sty

/-- `StyledLine(x, w, y)`: the reported width is the requested one cut back to the row, the runs
    returned are well formed, and their cells are the mirror model's read `subCells` of the window -/
theorem styledLine_cells {cw : Nat → Nat} {W : Nat} {l : SLine} (hl : lineWF cw W l = true)
    (hb : cw 0x20 ≤ 1) {x : Nat} (hx : x ≤ W) (ow : Option Nat) :
    (styledLine cw W l x ow).2 = (match ow with | some w0 => min w0 (W - x) | none => W - x) ∧
    AllWF cw (styledLine cw W l x ow).1 ∧
    (styledLine cw W l x ow).1.flatMap (spanCells cw) =
      subCells (lineCells cw l) x (x + (styledLine cw W l x ow).2) := by
  obtain ⟨hwf, hsum, _⟩ := lineWF_iff.1 hl
  have hwdef : (styledLine cw W l x ow).2 = (match ow with | some w0 => min w0 (W - x) | none => W - x) := by
    simp only [styledLine]
    cases ow with
    | none => rfl
    | some w0 => simp only []; split <;> omega
  have hxw : x + (styledLine cw W l x ow).2 ≤ W := by
    rw [hwdef]; cases ow with
    | none => simp only []; omega
    | some w0 => simp only []; omega
  obtain ⟨a1, a2⟩ := styledLineAux_spec hb x (styledLine cw W l x ow).2 l.spans 0 hwf
  rw [Nat.sub_zero, Nat.sub_zero] at a1
  refine ⟨hwdef, a2, ?_⟩
  rw [flatMap_spanCells, lineCells_eq]
  exact (congrArg cellsK a1).trans
    (cellsK_clipR (posK_lineK hwf) x (by rw [wk_lineK hwf, hsum]; exact hxw))

theorem showCell_cutCell (R : Row) (x w i : Nat) (hi : i < R.length) :
    showCell R x w i = some (cutCell R x (x + w) i) := by
  unfold showCell
  rw [List.getElem?_eq_getElem hi]
  split
  · next h => rw [cutCell_inside R x (x + w) i hi h.1 h.2]
  · next h => rw [cutCell_cut R x (x + w) i hi (by omega)]; rfl

/-- `StyledLine(x, w, y)` — its runs are well formed, their widths sum to the (clamped)
    width `w'`, they have `w'` cells, and the `k`-th cell is the row's cell `x + k` when its character
    lies inside the window and a blank in that cell's style otherwise -/
theorem styledLine_spec {cw : Nat → Nat} {W : Nat} {l : SLine} (hl : lineWF cw W l = true)
    (hb : cw 0x20 ≤ 1) {x : Nat} (hx : x ≤ W) (ow : Option Nat) :
    let sp := (styledLine cw W l x ow).1
    let w := (styledLine cw W l x ow).2
    w = (match ow with | some w0 => min w0 (W - x) | none => W - x) ∧
    AllWF cw sp ∧ sumWidths sp = w ∧ (sp.flatMap (spanCells cw)).length = w ∧
    ∀ k, k < w → (sp.flatMap (spanCells cw))[k]? = showCell (lineCells cw l) x w (x + k) := by
  intro sp w
  obtain ⟨h1, h2, h3⟩ : w = _ ∧ AllWF cw sp ∧ sp.flatMap (spanCells cw) = subCells _ x (x + w) :=
    styledLine_cells hl hb hx ow
  have hlen : (sp.flatMap (spanCells cw)).length = w := by rw [h3, subCells_length, Nat.add_sub_cancel_left]
  have hxw : x + w ≤ W := by
    rw [h1]; cases ow with
    | none => simp only []; omega
    | some w0 => simp only []; omega
  refine ⟨h1, h2, ?_, hlen, fun k hk => ?_⟩
  · rw [← flatMap_spanCells_length h2, hlen]
  · rw [h3, showCell_cutCell _ _ _ _ (by rw [lineWF_length hl]; omega),
      subCells_getElem? _ _ _ _ (by omega)]

-- `StyledLine(1, 4, ·)`: the window cuts the wide character at its left edge
example : ((styledLine cwEx 9 rowEx 1 (some 4)).1.flatMap (spanCells cwEx))[0]? =
    some (blank stEx) := by decide
example : ((styledLine cwEx 9 rowEx 1 (some 4)).1.flatMap (spanCells cwEx))[1]? =
    (lineCells cwEx rowEx)[2]? := by decide

#print axioms TM.C02Span.styledLineAux_spec
#print axioms TM.C02Span.styledLine_cells
#print axioms TM.C02Span.styledLine_spec

end TM.C02Span
