import TM.SpanTerm
import Props.C02SpanScreen
import Props.C10
import Props.C11Tok
/-!
# C02SpanTerm — the terminal over run-level screens refines the model terminal

`TM/SpanTerm.lean` is the dispatch of `TM/Term.lean` over screens stored as rows of runs (`SScr`).
`STerm.abs cw` maps both buffers through `SScr.abs`.  This file proves that the two dispatches
commute with `abs` for every token (`apply_refines`), hence for every token list (`run_refines`)
and every byte stream (`stream_refines`, `stream_rows`): state, events, invariant.

The sizes of the two buffers are not carried through the leaves of the dispatch: the walks prove
`Sim` (both buffers satisfy `SScr.inv`), the model terminal keeps the sizes
(`C10.Lemmas.apply_geo`), and `ref_of_sim` turns `Sim` into `Ref` (with `STerm.inv`).  The token
hypothesis `TokWF` holds of every token the tokeniser yields (`tokWF_of_tokOK`), so the theorems
about streams have none; `apply_needs_tokWF` shows that `apply_refines` needs it.
-/
namespace TM.C02SpanTerm
open TM.C02Span TM.C02SpanScreen

variable {cw : Nat → Nat}

@[simp] theorem abs_sx (cw : Nat → Nat) (s : SScr) : (s.abs cw).sx = s.sx := rfl
@[simp] theorem abs_sy (cw : Nat → Nat) (s : SScr) : (s.abs cw).sy = s.sy := rfl

theorem upd_geo {s : SScr} (s' : SScr) (hs : SScr.inv cw s = true) (hl : s'.lines = s.lines) (hw : s'.w = s.w)
    (hh : s'.h = s.h) (hg : Geo (s'.abs cw)) : Upd cw s' (s'.abs cw) := by
  obtain ⟨h3, h4, _⟩ := SScr.inv_iff.1 hs
  exact ⟨rfl, SScr.inv_iff.2 ⟨by rw [hl, hh]; exact h3, by rw [hl, hw]; exact h4, hg⟩⟩

theorem setMargins_upd {s : SScr} (hs : SScr.inv cw s = true) (t b : Int) :
    Upd cw (s.setMargins t b) ((s.abs cw).setMargins t b) := by
  have g := inv_geo hs
  have hb : clampNat b (s.h - 1) < s.h := by
    have := clampNat_le b (s.h - 1); have : 1 ≤ s.h := g.h_pos; omega
  exact ite_upd (fun _ => ⟨rfl, hs⟩) fun _ => ite_upd (fun _ => ⟨rfl, hs⟩) fun h =>
    upd_geo { s with top := clampNat t (s.h - 1), bot := clampNat b (s.h - 1) } hs rfl rfl rfl
      { g with top_le := Nat.le_of_not_gt h, bot_lt := hb }

@[simp] theorem abs_onAlt (cw : Nat → Nat) (st : STerm) : (st.abs cw).onAlt = st.onAlt := rfl

theorem abs_scr (cw : Nat → Nat) (st : STerm) : (st.abs cw).scr = st.scr.abs cw := by
  rcases st with ⟨m, a, o, _, _, _, _, _⟩
  cases o <;> rfl

theorem abs_kbd (cw : Nat → Nat) (st : STerm) : (st.abs cw).kbd = st.kbd := by
  rcases st with ⟨m, a, o, _, _, _, _, _⟩
  cases o <;> rfl

theorem sinv_iff {st : STerm} :
    STerm.inv cw st = true ↔
      SScr.inv cw st.main = true ∧ SScr.inv cw st.alt = true ∧ st.main.w = st.alt.w ∧ st.main.h = st.alt.h := by
  simp [STerm.inv, and_assoc]

/-- both buffers satisfy the screen invariant (`STerm.inv` without the equality of the sizes): what
    the leaves of the dispatch preserve -/
def Bufs (cw : Nat → Nat) (st : STerm) : Prop := SScr.inv cw st.main = true ∧ SScr.inv cw st.alt = true

theorem Bufs.scr {st : STerm} (hi : Bufs cw st) : SScr.inv cw st.scr = true := by
  unfold STerm.scr
  split
  · exact hi.2
  · exact hi.1

def Ref (cw : Nat → Nat) (r : STerm × List Ev) (q : Term × List Ev) : Prop :=
  r.1.abs cw = q.1 ∧ r.2 = q.2 ∧ STerm.inv cw r.1 = true

/-- `Ref` with `Bufs` in place of `STerm.inv`; the sizes are read off the model terminal afterwards.
    What `csi_sim`, `apply_sim` and `switchScreen/decMode/decModes/csiPlain_refines` state. -/
def Sim (cw : Nat → Nat) (r : STerm × List Ev) (q : Term × List Ev) : Prop :=
  r.1.abs cw = q.1 ∧ r.2 = q.2 ∧ Bufs cw r.1

theorem sim_same {st : STerm} (hi : Bufs cw st) (evs : List Ev) :
    Sim cw (st, evs) (st.abs cw, evs) := ⟨rfl, rfl, hi⟩

theorem setScr_sim {st : STerm} (hi : Bufs cw st) {s' : SScr} {c : Scr}
    (h : Upd cw s' c) {evs evs' : List Ev} (he : evs = evs') :
    Sim cw (st.setScr s', evs) ((st.abs cw).setScr c, evs') := by
  obtain ⟨ha, hs'⟩ := h
  subst ha he
  rcases st with ⟨m, a, o, _, _, _, _, _⟩
  cases o
  · exact ⟨rfl, rfl, hs', hi.2⟩
  · exact ⟨rfl, rfl, hi.1, hs'⟩

theorem withScr_sim {st : STerm} (hi : Bufs cw st) {s' : SScr} {c : Scr}
    (h : Upd cw s' c) : Sim cw (st.withScr s') ((st.abs cw).withScr c) := by
  unfold STerm.withScr Term.withScr
  refine setScr_sim hi h ?_
  rw [← h.1]; rfl

theorem setKbd_sim {st : STerm} (hi : Bufs cw st) (k : Kbd) (evs : List Ev) :
    Sim cw (st.setKbd k, evs) ((st.abs cw).setKbd k, evs) := by
  rcases st with ⟨m, a, o, _, _, _, _, _⟩
  cases o <;> exact ⟨rfl, rfl, hi⟩

/-! ### the two dispatches, leaf by leaf

`STerm`'s dispatch is `Term`'s word for word, so each proof follows the two cascades at once
(`ite_rel`) and gives the leaf on the left its counterpart on the right. -/

theorem switchScreen_refines {st : STerm} (hi : Bufs cw st) (v : Bool) :
    Sim cw (st.switchScreen v) ((st.abs cw).switchScreen v) := by
  rcases st with ⟨m, a, o, _, _, _, _, _⟩
  cases o <;> cases v <;> exact ⟨rfl, rfl, hi⟩

theorem decMode_refines {st : STerm} (hi : Bufs cw st) (p : Int) (v : Bool) :
    Sim cw (st.decMode p v) ((st.abs cw).decMode p v) := by
  have hg := (SScr.inv_iff.1 (hi.scr)).2.2
  have flag : ∀ i, Sim cw (st.setVFlag i v) ((st.abs cw).setVFlag i v) := fun _ => ⟨rfl, rfl, hi⟩
  have int : ∀ i n, Sim cw (st.setVInt i n) ((st.abs cw).setVInt i n) := fun _ _ => ⟨rfl, rfl, hi⟩
  unfold STerm.decMode Term.decMode
  rw [abs_scr]
  exact
    -- one `ite_rel` per branch of `Term.decMode`, in its order
    ite_rel (fun _ => flag _) fun _ =>                                                       -- 1
    ite_rel (fun _ => setScr_sim hi (upd_geo { st.scr with wrap := v } (hi.scr) rfl rfl rfl (hg.wrap v)) rfl) fun _ => -- 7
    ite_rel (fun _ => int _ _) fun _ => ite_rel (fun _ => flag _) fun _ =>                   -- 9, 12
    ite_rel (fun _ => flag _) fun _ => ite_rel (fun _ => int _ _) fun _ =>                   -- 25, 1000
    ite_rel (fun _ => int _ _) fun _ => ite_rel (fun _ => int _ _) fun _ =>                  -- 1002, 1003
    ite_rel (fun _ => flag _) fun _ => ite_rel (fun _ => int _ _) fun _ =>                   -- 1004, 1005
    ite_rel (fun _ => int _ _) fun _ => ite_rel (fun _ => int _ _) fun _ =>                  -- 1006, 1015
    ite_rel (fun _ => switchScreen_refines hi v) fun _ =>                                    -- 1049
    ite_rel (fun _ => flag _) fun _ => sim_same hi _                                         -- 2004

theorem csiPlain_refines (hb : cw 0x20 ≤ 1) {st : STerm} (hi : Bufs cw st)
    (ps : List Int) (fin : UInt8) :
    Sim cw (st.csiPlain cw ps fin) ((st.abs cw).csiPlain ps fin) := by
  have hs := hi.scr
  have hg := (SScr.inv_iff.1 hs).2.2
  have same := fun evs => sim_same hi evs
  have move := fun x y => withScr_sim hi (upd_geo (st.scr.setCursor x y) hs rfl rfl rfl (hg.setCursor x y))
  have erase := fun x1 y1 x2 y2 evs => setScr_sim hi (eraseRegionI_refines hb hs x1 y1 x2 y2) (rfl : evs = evs)
  have scroll := fun y1 y2 d evs => setScr_sim hi ⟨abs_scroll cw st.scr y1 y2 d, inv_scroll hb hs y1 y2 d⟩ (rfl : evs = evs)
  have hr0 : ∀ p, Sim cw (st, [Ev.reply p]) (st.abs cw, [Ev.reply p]) := fun _ => same _
  unfold STerm.csiPlain Term.csiPlain
  rw [abs_scr]
  exact
    -- one `ite_rel` per branch of `Term.csiPlain`, in its order (final bytes at the right)
    ite_rel (fun _ => move _ _) fun _ => ite_rel (fun _ => move _ _) fun _ =>               -- CUU, CUD
    ite_rel (fun _ => move _ _) fun _ => ite_rel (fun _ => move _ _) fun _ =>               -- CUF, CUB
    ite_rel (fun _ => move _ _) fun _ => ite_rel (fun _ => move _ _) fun _ =>               -- CHA, VPA
    ite_rel (fun _ => move _ _) fun _ =>                                                     -- CUP (f, H)
    ite_rel (fun _ => ite_rel (fun _ => same _) fun _ => same _) fun _ =>                   -- DA1
    ite_rel (fun _ => setScr_sim hi (upd_geo { st.scr with sty := applySGR st.scr.sty (match ps with | [] => [0] | _ => ps) }
      hs rfl rfl rfl (hg.sty _)) rfl) fun _ =>        -- SGR
    ite_rel (fun _ => setScr_sim hi (upd_geo st.scr.saveCursor hs rfl rfl rfl hg.saveCursor) rfl) fun _ => -- SCOSC
    ite_rel (fun _ => withScr_sim hi (upd_geo st.scr.restoreCursor hs rfl rfl rfl hg.restoreCursor)) fun _ => -- SCORC
    ite_rel (fun _ =>                                                                        -- EL
      ite_rel (fun _ => erase _ _ _ _ _) fun _ => ite_rel (fun _ => erase _ _ _ _ _) fun _ =>
      ite_rel (fun _ => erase _ _ _ _ _) fun _ => same _) fun _ =>
    ite_rel (fun _ =>                                                                        -- ED
      ite_rel (fun _ => setScr_sim hi (eraseRegionI2_refines hb hs ..) rfl) fun _ =>
      ite_rel (fun _ => setScr_sim hi (eraseRegionI2_refines hb hs ..) rfl) fun _ =>
      ite_rel (fun _ => setScr_sim hi (eraseCursor_refines hb hs ..) rfl) fun _ => same _) fun _ =>
    ite_rel (fun _ => ite_rel (fun _ => scroll _ _ _ _) fun _ => same _) fun _ =>           -- IL
    ite_rel (fun _ => ite_rel (fun _ => scroll _ _ _ _) fun _ => same _) fun _ =>           -- DL
    ite_rel (fun _ => scroll _ _ _ _) fun _ => ite_rel (fun _ => scroll _ _ _ _) fun _ =>   -- SU, SD
    ite_rel (fun _ =>                                                                        -- DCH
      ite_rel (fun _ => same _) fun _ => setScr_sim hi (dch_refines hb hs _) rfl) fun _ =>
    ite_rel (fun _ => erase _ _ _ _ _) fun _ =>                                              -- ECH
    ite_rel (fun _ => setScr_sim hi (setMargins_upd hs _ _) rfl) fun _ =>                    -- DECSTBM
    ite_rel (fun _ =>                                                                        -- DSR
      ite_rel (fun _ => same _) fun _ => ite_rel (fun _ => ⟨rfl, rfl, hi⟩) fun _ => same _) fun _ =>
    same _

theorem decModes_refines (v : Bool) : ∀ (ps : List Int) {st : STerm}, Bufs cw st →
    Sim cw (st.decModes v ps) ((st.abs cw).decModes v ps)
  | [], _, hi => sim_same hi _
  | p :: ps, st, hi => by
    obtain ⟨a1, a2, a3⟩ := decMode_refines (cw := cw) hi p v
    obtain ⟨b1, b2, b3⟩ := decModes_refines v ps a3
    have e1 : st.decModes v (p :: ps) =
        (((st.decMode p v).1.decModes v ps).1, (st.decMode p v).2 ++ ((st.decMode p v).1.decModes v ps).2) := rfl
    rw [e1, Term.decModes_cons, ← a1, ← a2]
    exact ⟨b1, by rw [b2], b3⟩

theorem csi_sim (hb : cw 0x20 ≤ 1) {st : STerm} (hi : Bufs cw st)
    (pfx : UInt8) (ps : List Int) (fin : UInt8) :
    Sim cw (st.csi cw pfx ps fin) ((st.abs cw).csi pfx ps fin) := by
  have same := fun evs => sim_same hi evs
  have kbd := fun k => setKbd_sim hi k []
  unfold STerm.csi Term.csi
  rw [abs_kbd]
  refine
    ite_rel (fun _ => csiPlain_refines hb hi ps fin) fun _ =>
    ite_rel (fun _ =>                                                                        -- ?
      ite_rel (fun _ => same _) fun _ => ite_rel (fun _ => decModes_refines true ps hi) fun _ =>
      ite_rel (fun _ => decModes_refines false ps hi) fun _ => same _) fun _ =>
    ite_rel (fun _ =>                                                                        -- >
      ite_rel (fun _ => same _) fun _ => ite_rel (fun _ => ?_) fun _ =>
      ite_rel (fun _ => kbd _) fun _ => same _) fun _ =>
    ite_rel (fun _ => ite_rel (fun _ => kbd _) fun _ => same _) fun _ =>                    -- <
    ite_rel (fun _ => ite_rel (fun _ => kbd _) fun _ => same _) fun _ => same _             -- =
  cases modifyOtherKeysMode ps none with
  | none => exact same _
  | some m => exact ite_rel (fun _ => ⟨rfl, rfl, hi⟩) fun _ => same _

/-- the token hypothesis: a text token carries one character with its own width (what the
    tokeniser yields, `tokWF_of_tokOK`); nothing for the other tokens -/
def TokWF (cw : Nat → Nat) : Tok → Prop
  | .text stored cp => clusters cw stored = [(stored, max (cw cp) 1)]
  | _ => True

theorem apply_sim (hb : cw 0x20 ≤ 1) (hr : cw 0xFFFD ≤ 1) {st : STerm}
    (hi : Bufs cw st) {tok : Tok} (htok : TokWF cw tok) :
    Sim cw (st.apply cw tok) ((st.abs cw).apply cw tok) := by
  have hs := hi.scr
  have hg := (SScr.inv_iff.1 hs).2.2
  have h5 : st.scr.cx < st.scr.w := hg.cx_lt
  have same := fun evs => sim_same hi evs
  have op := fun (o : SOp) (ho : OpOK cw st.scr o) => C02SpanScreen.apply_refines hb hr hs ho
  have cx : ∀ x, x < st.scr.w → Sim cw (st.withScr { st.scr with cx := x }) ((st.abs cw).withScr { st.scr.abs cw with cx := x }) :=
    fun x hx => withScr_sim hi (upd_geo { st.scr with cx := x } hs rfl rfl rfl (hg.cx hx))
  cases tok with
  | text stored cp =>
    have hp : Upd cw (st.scr.put cw stored (cw cp)) ((st.scr.abs cw).put .keep stored (cw cp)) :=
      op (.put stored cp) htok
    unfold STerm.apply Term.apply
    rw [abs_scr]
    refine setScr_sim hi hp ?_
    show _ = [Ev.region 0 0 (st.scr.abs cw).w (st.scr.abs cw).h 0,
      Ev.cursor (Scr.put .keep (st.scr.abs cw) stored (cw cp)).cx (Scr.put .keep (st.scr.abs cw) stored (cw cp)).cy]
    rw [← hp.1]; rfl
  | ctl b =>
    unfold STerm.apply Term.apply
    rw [abs_scr]
    exact
      ite_rel (fun _ => same _) fun _ => ite_rel (fun _ => cx _ (by omega)) fun _ =>
      ite_rel (fun _ => withScr_sim hi (upd_geo (st.scr.setCursor _ _) hs rfl rfl rfl (hg.setCursor _ _))) fun _ =>
      ite_rel (fun _ => withScr_sim hi (op .lf trivial)) fun _ =>
      ite_rel (fun _ => withScr_sim hi (op .ind trivial)) fun _ =>
      ite_rel (fun _ => cx _ (by omega)) fun _ => same _
  | esc inter fin =>
    unfold STerm.apply Term.apply
    rw [abs_scr]
    exact
      ite_rel (fun _ => same _) fun _ =>
      ite_rel (fun _ => withScr_sim hi (op .ind trivial)) fun _ =>
      ite_rel (fun _ => withScr_sim hi (op .ri trivial)) fun _ =>
      ite_rel (fun _ => ⟨rfl, rfl, hi⟩) fun _ => ite_rel (fun _ => ⟨rfl, rfl, hi⟩) fun _ => same _
  | csi pfx ps clean fin =>
    unfold STerm.apply Term.apply
    exact ite_rel (fun _ => csi_sim hb hi pfx ps fin) fun _ => same _
  | osc num payload wf =>
    unfold STerm.apply Term.apply
    exact
      ite_rel (fun _ => same _) fun _ => ite_rel (fun _ => ⟨rfl, rfl, hi⟩) fun _ =>
      ite_rel (fun _ => ⟨rfl, rfl, hi⟩) fun _ => ite_rel (fun _ => ⟨rfl, rfl, hi⟩) fun _ => same _
  | dcs => exact same _

/-- the model terminal keeps the size of both buffers (`C10.Lemmas.apply_geo`), so `Sim` from a
    state satisfying `STerm.inv` is `Ref` -/
theorem ref_of_sim {st : STerm} (hi : STerm.inv cw st = true) (tok : Tok) {r : STerm × List Ev}
    (h : Sim cw r ((st.abs cw).apply cw tok)) :
    Ref cw r ((st.abs cw).apply cw tok) ∧
      r.1.main.w = st.main.w ∧ r.1.main.h = st.main.h ∧ r.1.alt.w = st.alt.w ∧ r.1.alt.h = st.alt.h := by
  obtain ⟨h1, h2, h3, h4⟩ := sinv_iff.1 hi
  have hn : C10.NeedWF (st.abs cw) := fun _ => by
    rw [abs_scr]; exact C10.Lemmas.inv_rowsWF (abs_inv (Bufs.scr ⟨h1, h2⟩))
  obtain ⟨_, g1, g2, g3, g4, _⟩ := C10.Lemmas.apply_geo cw (st.abs cw) tok hn
  obtain ⟨a, e, b1, b2⟩ := h
  rw [← a] at g1 g2 g3 g4
  exact ⟨⟨a, e, sinv_iff.2 ⟨b1, b2, (g1.trans h3).trans g3.symm, (g2.trans h4).trans g4.symm⟩⟩, g1, g2, g3, g4⟩

theorem csi_refines (hb : cw 0x20 ≤ 1) {st : STerm} (hi : STerm.inv cw st = true)
    (pfx : UInt8) (ps : List Int) (fin : UInt8) :
    Ref cw (st.csi cw pfx ps fin) ((st.abs cw).csi pfx ps fin) :=
  (ref_of_sim hi (.csi pfx ps true fin)
    (csi_sim hb ⟨(sinv_iff.1 hi).1, (sinv_iff.1 hi).2.1⟩ pfx ps fin)).1

/-- for every token, the run-level terminal after the token shows the model terminal after the
    token, the events are equal, the invariant is kept -/
theorem apply_refines (hb : cw 0x20 ≤ 1) (hr : cw 0xFFFD ≤ 1) {st : STerm}
    (hi : STerm.inv cw st = true) {tok : Tok} (htok : TokWF cw tok) :
    ((st.apply cw tok).1).abs cw = ((st.abs cw).apply cw tok).1 ∧
    (st.apply cw tok).2 = ((st.abs cw).apply cw tok).2 ∧
    STerm.inv cw (st.apply cw tok).1 = true :=
  (ref_of_sim hi tok (apply_sim hb hr ⟨(sinv_iff.1 hi).1, (sinv_iff.1 hi).2.1⟩ htok)).1

theorem resize_refines (hb : cw 0x20 ≤ 1) {st : STerm} (hi : STerm.inv cw st = true)
    {w h : Nat} (hw : 1 ≤ w) (hh : 1 ≤ h) :
    ((st.resize cw w h).1).abs cw = ((st.abs cw).resize w h).1 ∧
    (st.resize cw w h).2 = ((st.abs cw).resize w h).2 ∧
    STerm.inv cw (st.resize cw w h).1 = true := by
  obtain ⟨h1, h2, h3, h4⟩ := sinv_iff.1 hi
  obtain ⟨m1, m2⟩ := C02SpanScreen.resize_refines hb h1 hw hh
  obtain ⟨a1, a2⟩ := C02SpanScreen.resize_refines hb h2 hw hh
  have e1 : ((st.resize cw w h).1).abs cw = ((st.abs cw).resize w h).1 := by
    show STerm.abs cw { st with main := st.main.resize cw w h, alt := st.alt.resize cw w h } =
      { st.abs cw with main := (st.main.abs cw).resize w h, alt := (st.alt.abs cw).resize w h }
    rw [← m1, ← a1]; rfl
  refine ⟨e1, ?_, sinv_iff.2 ⟨m2, a2, rfl, rfl⟩⟩
  show [Ev.style (st.main.resize cw w h).sty, .style (st.alt.resize cw w h).sty,
      .cursor ((st.resize cw w h).1).scr.cx ((st.resize cw w h).1).scr.cy, .style ((st.resize cw w h).1).scr.sty] =
    [Ev.style ((st.main.abs cw).resize w h).sty, .style ((st.alt.abs cw).resize w h).sty,
      .cursor (((st.abs cw).resize w h).1).scr.cx (((st.abs cw).resize w h).1).scr.cy,
      .style (((st.abs cw).resize w h).1).scr.sty]
  rw [← e1, abs_scr, ← m1, ← a1]; rfl

theorem apply_size (hb : cw 0x20 ≤ 1) (hr : cw 0xFFFD ≤ 1) {st : STerm}
    (hi : STerm.inv cw st = true) {tok : Tok} (htok : TokWF cw tok) :
    (st.apply cw tok).1.main.w = st.main.w ∧ (st.apply cw tok).1.main.h = st.main.h ∧
    (st.apply cw tok).1.alt.w = st.alt.w ∧ (st.apply cw tok).1.alt.h = st.alt.h :=
  (ref_of_sim hi tok (apply_sim hb hr ⟨(sinv_iff.1 hi).1, (sinv_iff.1 hi).2.1⟩ htok)).2

def sStateAfter (cw : Nat → Nat) (st : STerm) (toks : List Tok) : STerm :=
  toks.foldl (fun t tk => (STerm.apply cw t tk).1) st

def sEventsOf (cw : Nat → Nat) : STerm → List Tok → List Ev
  | _, [] => []
  | t, tok :: toks => (STerm.apply cw t tok).2 ++ sEventsOf cw (STerm.apply cw t tok).1 toks

theorem sEventsOf_eq (cw : Nat → Nat) (st : STerm) (toks : List Tok) :
    sEventsOf cw st toks = Run.out (STerm.apply cw) st toks :=
  Run.out_unique (fun _ => rfl) (fun _ _ _ => rfl) st toks

theorem run_refines_from (hb : cw 0x20 ≤ 1) (hr : cw 0xFFFD ≤ 1) (toks : List Tok)
    {st : STerm} (hi : STerm.inv cw st = true) (hok : ∀ tok ∈ toks, TokWF cw tok) :
    (sStateAfter cw st toks).abs cw = C10.stateAfter cw (st.abs cw) toks ∧
    sEventsOf cw st toks = C10.eventsOf cw (st.abs cw) toks ∧
    STerm.inv cw (sStateAfter cw st toks) = true ∧
    (sStateAfter cw st toks).main.w = st.main.w ∧ (sStateAfter cw st toks).main.h = st.main.h := by
  have := Run.sim (ap := STerm.apply cw) (ap' := Term.apply cw) (P := TokWF cw)
    (R := fun s t => s.abs cw = t ∧ STerm.inv cw s = true ∧ s.main.w = st.main.w ∧ s.main.h = st.main.h)
    (fun s t tok ⟨e, hi, hw, hh⟩ ht => by
      subst e
      obtain ⟨a1, a2, a3⟩ := apply_refines hb hr hi ht
      obtain ⟨z1, z2, _⟩ := apply_size hb hr hi ht
      exact ⟨⟨a1, a3, z1.trans hw, z2.trans hh⟩, a2⟩) ⟨rfl, hi, rfl, rfl⟩ hok
  rw [sEventsOf_eq, C10.Lemmas.eventsOf_eq]
  exact ⟨this.1.1, this.2, this.1.2⟩

theorem abs_init (cw : Nat → Nat) (w h : Nat) : (STerm.init w h).abs cw = Term.init .keep w h := by
  show ({ pol := .keep, main := (SScr.init w h).abs cw, alt := (SScr.init w h).abs cw } : Term) = _
  rw [C02SpanScreen.abs_init]; rfl

theorem inv_init (hb : cw 0x20 ≤ 1) {w h : Nat} (hw : 1 ≤ w) (hh : 1 ≤ h) :
    STerm.inv cw (STerm.init w h) = true :=
  sinv_iff.2 ⟨C02SpanScreen.inv_init hb hw hh, C02SpanScreen.inv_init hb hw hh, rfl, rfl⟩

theorem run_refines (hb : cw 0x20 ≤ 1) (hr : cw 0xFFFD ≤ 1) {w h : Nat} (hw : 1 ≤ w) (hh : 1 ≤ h)
    (toks : List Tok) (hok : ∀ tok ∈ toks, TokWF cw tok) :
    (sStateAfter cw (STerm.init w h) toks).abs cw = C10.stateAfter cw (Term.init .keep w h) toks ∧
    sEventsOf cw (STerm.init w h) toks = C10.eventsOf cw (Term.init .keep w h) toks ∧
    STerm.inv cw (sStateAfter cw (STerm.init w h) toks) = true := by
  obtain ⟨a, b, c, _⟩ := run_refines_from hb hr toks (inv_init hb hw hh) hok
  rw [abs_init] at a b
  exact ⟨a, b, c⟩

/-- every token the tokeniser yields is well formed for the span buffer: its text is one character
    whose width is the width of the code point it carries -/
theorem tokWF_of_tokOK (cw : Nat → Nat) {tok : Tok} (h : C11M.TokOK tok) : TokWF cw tok := by
  cases tok with
  | text stored cp =>
    obtain ⟨hv, _, _, rfl⟩ := h
    exact clusters_single_iff.2 (stepRune_encodeRune cw hv)
  | ctl _ => trivial
  | esc _ _ => trivial
  | csi _ _ _ _ => trivial
  | osc _ _ _ => trivial
  | dcs => trivial

/-- for every byte string, size and width function (space and U+FFFD at most one cell wide): the
    terminal over run-level screens, fed the tokens of the stream, shows exactly the model terminal
    after the stream; it emitted the same events; its invariant holds -/
theorem stream_refines (hb : cw 0x20 ≤ 1) (hr : cw 0xFFFD ≤ 1) {w h : Nat} (hw : 1 ≤ w) (hh : 1 ≤ h)
    (bs : Bytes) :
    (sStateAfter cw (STerm.init w h) (C10.toksOf bs)).abs cw = (run cw (Term.init .keep w h) bs).1 ∧
    sEventsOf cw (STerm.init w h) (C10.toksOf bs) = (run cw (Term.init .keep w h) bs).2.1 ∧
    STerm.inv cw (sStateAfter cw (STerm.init w h) (C10.toksOf bs)) = true := by
  rw [(C10.Lemmas.run_eq ..).1, (C10.Lemmas.run_eq ..).2]
  exact run_refines hb hr hw hh _ fun tok h => tokWF_of_tokOK cw (C11M.Lemmas.toksFuel_tokOK _ bs tok h)

/-- `stream_refines` row by row. For every input: both buffers of the code-shaped data structure
    keep the size `w × h`, have `h` rows, and every row is a well-formed row of runs (`lineWF`)
    showing exactly the cells of that row of the model terminal -/
theorem stream_rows (hb : cw 0x20 ≤ 1) (hr : cw 0xFFFD ≤ 1) {w h : Nat} (hw : 1 ≤ w) (hh : 1 ≤ h)
    (bs : Bytes) :
    let S := sStateAfter cw (STerm.init w h) (C10.toksOf bs)
    let T := (run cw (Term.init .keep w h) bs).1
    S.main.w = w ∧ S.main.h = h ∧ S.alt.w = w ∧ S.alt.h = h ∧
    S.main.lines.length = h ∧ S.alt.lines.length = h ∧ S.onAlt = T.onAlt ∧
    ∀ y, y < h →
      lineWF cw w (S.main.line y) = true ∧ T.main.row y = lineCells cw (S.main.line y) ∧
      lineWF cw w (S.alt.line y) = true ∧ T.alt.row y = lineCells cw (S.alt.line y) := by
  intro S T
  have hok : ∀ tok ∈ C10.toksOf bs, TokWF cw tok :=
    fun tok h => tokWF_of_tokOK cw (C11M.Lemmas.toksFuel_tokOK _ bs tok h)
  obtain ⟨_, _, c, d1, d2⟩ := run_refines_from hb hr (C10.toksOf bs) (inv_init (w := w) (h := h) hb hw hh) hok
  have hT : S.abs cw = T := (stream_refines hb hr hw hh bs).1
  obtain ⟨i1, i2, i3, i4⟩ := sinv_iff.1 c
  -- in the terms of `S`, the sizes of `STerm.init` computed
  change S.main.w = w at d1
  change S.main.h = h at d2
  change SScr.inv cw S.main = true at i1
  change SScr.inv cw S.alt = true at i2
  change S.main.w = S.alt.w at i3
  change S.main.h = S.alt.h at i4
  obtain ⟨m3, m4, _⟩ := SScr.inv_iff.1 i1
  obtain ⟨n3, n4, _⟩ := SScr.inv_iff.1 i2
  refine ⟨d1, d2, i3 ▸ d1, i4 ▸ d2, m3.trans d2, n3.trans (i4 ▸ d2), by rw [← hT]; rfl, ?_⟩
  intro y hy
  have hm : lineWF cw w (S.main.line y) = true := by
    rw [← d1]; exact m4 _ (line_mem (by omega))
  have ha : lineWF cw w (S.alt.line y) = true := by
    rw [← d1, i3]; exact n4 _ (line_mem (by omega))
  refine ⟨hm, ?_, ha, ?_⟩
  · rw [← hT]; exact abs_row cw S.main y
  · rw [← hT]; exact abs_row cw S.alt y

/-- `a中`, CUP onto the second cell of `中`, `b` (lands after it), `EL 1`, `?1049h`, `x中`, `?1049l`,
    CUP to the bottom row, `xy中z`, LF at the bottom (scroll), `DCH 2` (blank row), CUU, CUF,
    `DCH 2` at column 1 of `xy中z` (cuts the wide character) -/
def exBytes : Bytes :=
  [0x61, 0xe4, 0xb8, 0xad, 0x1b, 0x5b, 0x31, 0x3b, 0x33, 0x48, 0x62, 0x1b, 0x5b, 0x31, 0x4b,
   0x1b, 0x5b, 0x3f, 0x31, 0x30, 0x34, 0x39, 0x68, 0x78, 0xe4, 0xb8, 0xad,
   0x1b, 0x5b, 0x3f, 0x31, 0x30, 0x34, 0x39, 0x6c, 0x1b, 0x5b, 0x33, 0x3b, 0x31, 0x48,
   0x78, 0x79, 0xe4, 0xb8, 0xad, 0x7a, 0x0a, 0x1b, 0x5b, 0x32, 0x50,
   0x1b, 0x5b, 0x41, 0x1b, 0x5b, 0x43, 0x1b, 0x5b, 0x32, 0x50]

def exToks : List Tok :=
  [.text [0x61] 0x61, .text zhong 0x4E2D, .csi 0 [1, 3] true 0x48, .text [0x62] 0x62, .csi 0 [1] true 0x4b,
   .csi 0x3f [1049] true 0x68, .text [0x78] 0x78, .text zhong 0x4E2D, .csi 0x3f [1049] true 0x6c,
   .csi 0 [3, 1] true 0x48, .text [0x78] 0x78, .text [0x79] 0x79, .text zhong 0x4E2D, .text [0x7a] 0x7a,
   .ctl 10, .csi 0 [2] true 0x50, .csi 0 [] true 0x41, .csi 0 [] true 0x43, .csi 0 [2] true 0x50]

example : cwS 0x20 ≤ 1 ∧ cwS 0xFFFD ≤ 1 := by decide
theorem toksOf_exBytes : C10.toksOf exBytes = exToks := by decide
example : C10.toksOf exBytes = exToks := toksOf_exBytes
theorem exToks_ok : ∀ tok ∈ exToks, TokWF cwS tok := by
  rw [← toksOf_exBytes]
  exact fun tok h => tokWF_of_tokOK cwS (C11M.Lemmas.toksFuel_tokOK _ exBytes tok h)
example : TokWF cwS (.text zhong 0x4E2D) :=
  (by decide : clusters cwS zhong = [(zhong, max (cwS 0x4E2D) 1)])

def exS : STerm := sStateAfter cwS (STerm.init 6 3) exToks
def exT : Term := (run cwS (Term.init .keep 6 3) exBytes).1

-- `abs` of the run-level result is the model's result, buffer by buffer, and the events agree
set_option maxRecDepth 100000 in
example : (exS.abs cwS).main = exT.main ∧ (exS.abs cwS).alt = exT.alt ∧ (exS.abs cwS).onAlt = exT.onAlt ∧
    (exS.abs cwS).vflags = exT.vflags ∧ STerm.inv cwS exS = true := by decide +kernel
set_option maxRecDepth 100000 in
example : sEventsOf cwS (STerm.init 6 3) exToks = (run cwS (Term.init .keep 6 3) exBytes).2.1 := by decide +kernel
-- the raw runs: row 1 of the main buffer is `x_z___` (the wide character was cut by `DCH 2`), the
-- alternate buffer still holds `x中` as two runs and a blank run
set_option maxRecDepth 100000 in
example : exS.main.lines[1]? = some ⟨[⟨Style.default, [0x78], 0, 1⟩, blankSpan Style.default 1,
      ⟨Style.default, [0x7a], 0, 1⟩, blankSpan Style.default 1, blankSpan Style.default 2], 6⟩ ∧
    exS.alt.lines[0]? = some ⟨[⟨Style.default, [0x78], 0, 1⟩, ⟨Style.default, zhong, 0, 2⟩,
      blankSpan Style.default 3], 6⟩ ∧ exS.main.cx = 1 ∧ exS.main.cy = 1 := by decide +kernel
-- the theorems instantiated on the example
example : exS.abs cwS = exT ∧ STerm.inv cwS exS = true := by
  have := stream_refines (cw := cwS) (by decide) (by decide) (w := 6) (h := 3) (by decide) (by decide) exBytes
  rw [toksOf_exBytes] at this
  exact ⟨this.1, this.2.2⟩
-- after `b` was written with the cursor on the second cell of `中`, the wide character is intact
-- and `b` sits after it
set_option maxRecDepth 100000 in
example : (sStateAfter cwS (STerm.init 6 3) (exToks.take 4)).main.lines[0]? =
    some ⟨[⟨Style.default, [0x61], 0, 1⟩, ⟨Style.default, zhong, 0, 2⟩, ⟨Style.default, [0x62], 0, 1⟩,
      blankSpan Style.default 2], 6⟩ := by decide +kernel
-- resize of both buffers
set_option maxRecDepth 100000 in
example : ((((sStateAfter cwS (STerm.init 6 3) (exToks.take 2)).resize cwS 2 2).1).abs cwS).main =
    (((sStateAfter cwS (STerm.init 6 3) (exToks.take 2)).abs cwS).resize 2 2).1.main := by decide +kernel

/-- the token hypothesis of `apply_refines` is needed: a text token carrying two characters with the
    nominal width of one (never produced by the tokeniser) is stored as one run of width 1 showing
    two cells; the row is not well formed and shows other cells than the model terminal -/
theorem apply_needs_tokWF :
    STerm.inv cwS (STerm.init 3 1) = true ∧ ¬ TokWF cwS (.text [0x61, 0x62] 0x61) ∧
    ((STerm.init 3 1).apply cwS (.text [0x61, 0x62] 0x61)).1.main.abs cwS ≠
      (((STerm.init 3 1).abs cwS).apply cwS (.text [0x61, 0x62] 0x61)).1.main ∧
    STerm.inv cwS ((STerm.init 3 1).apply cwS (.text [0x61, 0x62] 0x61)).1 = false := by
  refine ⟨by decide, ?_, ?_, ?_⟩
  · show ¬ clusters cwS [0x61, 0x62] = [([0x61, 0x62], max (cwS 0x61) 1)]
    decide
  · set_option maxRecDepth 100000 in decide
  · set_option maxRecDepth 100000 in decide

end TM.C02SpanTerm

#print axioms TM.C02SpanTerm.switchScreen_refines
#print axioms TM.C02SpanTerm.decMode_refines
#print axioms TM.C02SpanTerm.decModes_refines
#print axioms TM.C02SpanTerm.csiPlain_refines
#print axioms TM.C02SpanTerm.csi_refines
#print axioms TM.C02SpanTerm.apply_refines
#print axioms TM.C02SpanTerm.resize_refines
#print axioms TM.C02SpanTerm.apply_size
#print axioms TM.C02SpanTerm.run_refines_from
#print axioms TM.C02SpanTerm.abs_init
#print axioms TM.C02SpanTerm.inv_init
#print axioms TM.C02SpanTerm.run_refines
#print axioms TM.C02SpanTerm.tokWF_of_tokOK
#print axioms TM.C02SpanTerm.stream_refines
#print axioms TM.C02SpanTerm.stream_rows
#print axioms TM.C02SpanTerm.apply_needs_tokWF
