import TM.Reader
import Props.C16
import Proofs.Clusters
/-!
# C16 — the token reader (`TM/Reader.lean`)

`Rdr.fill`, `Rdr.readByte` (`ReadByte`) and `Rdr.readPrintable` (`ReadPrintableBytes`, rune mode)
over the buffer model `RBuf` and a scripted source. Invariant `Rdr.wf`: the buffer is not allocated
yet, or `RBuf.wf`. `Rdr.pending` = buffered bytes ++ bytes of the script: what the reader will
still hand out.

Whatever the script (read sizes, empty reads, error flags): `fill` loses nothing and keeps the
capacity `4096 * 2^k` (`rdr_fill_*`); `ReadByte` hands out the next byte of the stream, also one
that arrives with an error, and fails only at an error or EOF without data (`readByte_some`,
`readByte_none`); `ReadPrintableBytes` returns whole characters of the stream, only printable
bytes, within the width limit or a single character, stops only for one of four reasons, and never
comes back empty-handed while printable text is buffered (`readPrintable_*`); the loops stop by
themselves (`*_fuel`); over any sequence of calls every byte is handed out exactly once and in
order, and the text of the runs does not depend on how the stream is cut into reads
(`calls_conservation`, `runs_text`, `runs_independent`).

`Props/C16.lean` has a second transcription of the loop of `ReadByte` alone (`C16.fillLoop`,
`C16.readByteE`), over the bare `RBuf` and with a log of the chunk each `Read` delivered: its
theorems `readByteE_*` speak of the single reads of one call, `readByte_some` / `readByte_none` here
of `pending` and the script. No theorem relates the two transcriptions.

The run loop is analysed through one iteration, `Lemmas.stepOf`, the case lemma `StepTo` of what
an iteration can do, and the invariant rule `Lemmas.runLoop_ind`. A property of the state that `fill()`
and `start += c` keep (`Kept`: the capacity, a script without error flags) is kept by every function.

What is NOT true (the two examples marked `truncated_1`, `truncated_2`): the text returned is not
always a sequence of characters on its own (`textOK cw out.text out.width` can fail): the reader
tokenises with the bytes that follow in view, and `utf8.FullRune` calls a truncated sequence
followed by a byte that cannot continue it complete; cut off from that byte it is incomplete. What
holds unconditionally is `readPrintable_whole_characters` (the characters are the first characters
of `clusters cw` of the whole pending stream); `textWF` holds when the stream's characters tokenise
on their own (`readPrintable_textWF`).

Also: a character cut by the end of a read in the MIDDLE of a run ends the run before it (the loop
refills only when nothing of the run is consumed yet): `[0x61, 0xE4], [0xB8, 0xAD, 0x0A]` gives
`a` and then `中`, not `a中` in one call (example below); so single results do depend on how the
stream is cut into reads, their concatenation does not (`runs_text`, `runs_independent`).
-/
namespace TM.C16Reader
open TM TM.C02Span

/-- the reader's invariant: not yet allocated, or a well-formed buffer -/
def _root_.TM.Rdr.wf (r : Rdr) : Prop :=
  (r.buf.data = [] ∧ r.buf.start = 0 ∧ r.buf.stop = 0) ∨ r.buf.wf

/-- all bytes still in the script -/
def srcBytes (s : List (Bytes × Bool)) : Bytes := (s.map (·.1)).flatten

/-- the potential that every loop iteration of the reader decreases -/
def pot (r : Rdr) : Nat := r.buffered + 2 * (srcBytes r.src).length + 2 * r.src.length

/-- `cs` are the leading characters of the stream `s`, each tokenised with the rest of the
    stream after it in view -/
def Heads (cw : Nat → Nat) : Bytes → List Cl → Prop
  | _, [] => True
  | s, p :: cs => stepRune cw s = some (p.1.length, p.2) ∧ ∃ s', s = p.1 ++ s' ∧ Heads cw s' cs

/-- `r'` is the state left by a `fill()` whose read reported an error (or EOF) and delivered
    nothing: the script was exhausted or its first entry was `([], true)` -/
def ErrStop (r' : Rdr) : Prop :=
  ∃ rl : Rdr, rl.wf ∧ rl.fill = (r', true) ∧ r'.buf.view = rl.buf.view ∧
    (rl.src = [] ∨ ∃ rest, rl.src = ([], true) :: rest)

/-- why a run that reports no error stopped where it did -/
def StopR (cw : Nat → Nat) (maxW : Nat) (r' : Rdr) (out : RunOut) : Prop :=
  r'.buffered = 0 ∨ r'.firstPrintable = false ∨
  (out.text ≠ [] ∧ stepRune cw r'.buf.view = none) ∨
  (0 < maxW ∧ 0 < out.width ∧ ∃ c w, stepRune cw r'.buf.view = some (c, w) ∧ maxW < out.width + w)

/-- the state of a run in progress: `cs` are the characters consumed since `runStart`, `S` the
    stream from the start of the run -/
structure RunInv (cw : Nat → Nat) (maxW : Nat) (S : Bytes) (r : Rdr) (rs wu : Nat) (cs : List Cl) : Prop where
  wf : r.wf
  le : rs ≤ r.buf.start
  txt : (r.buf.data.take r.buf.start).drop rs = flat cs
  stream : S = flat cs ++ r.pending
  heads : Heads cw S cs
  width : ws cs = wu
  printable : ∀ b ∈ flat cs, isPrintableByte b = true
  limit : 0 < maxW → wu ≤ maxW ∨ cs.length ≤ 1

/-- what a call of `ReadPrintableBytes` on the stream `S` guarantees; `enough` is the condition
    under which the `stop` clause claims a reason for stopping (that the fuel sufficed) -/
structure RunPostS (cw : Nat → Nat) (maxW : Nat) (S : Bytes) (enough : Prop) (r' : Rdr) (out : RunOut)
    (cs : List Cl) : Prop where
  text : out.text = flat cs
  width : out.width = ws cs
  heads : Heads cw S cs
  stream : S = out.text ++ r'.pending
  wf : r'.wf
  printable : ∀ b ∈ out.text, isPrintableByte b = true
  limit : 0 < maxW → out.width ≤ maxW ∨ cs.length ≤ 1
  err : out.err = true → cs = [] ∧ ErrStop r' ∧ (r'.buffered = 0 ∨ stepRune cw r'.buf.view = none)
  stop : enough → out.err = false → StopR cw maxW r' out

def RunPost (cw : Nat → Nat) (maxW : Nat) (S : Bytes) (enough : Prop) (r' : Rdr) (out : RunOut) : Prop :=
  ∃ cs, RunPostS cw maxW S enough r' out cs

/-- `Rdr.fuel` bounds the potential that every iteration decreases. -/
theorem pot_lt_fuel (r : Rdr) : pot r < r.fuel := by
  have : ∀ s : List (Bytes × Bool), (srcBytes s).length = (s.map (·.1.length)).sum := by
    intro s
    induction s with
    | nil => rfl
    | cons p s ih =>
      simp only [srcBytes, List.map_cons, List.flatten_cons, List.length_append, List.sum_cons] at ih ⊢
      rw [ih]
  simp only [pot, Rdr.fuel, this]; omega

namespace Lemmas

/-- the buffer `fill` works on: allocated on first use -/
def base (r : Rdr) : RBuf := if r.buf.data.isEmpty then RBuf.init else r.buf

theorem base_wf {r : Rdr} (h : r.wf) : (base r).wf := by
  unfold base
  split
  · exact C16.init_wf
  · rename_i hd
    rcases h with ⟨h1, _, _⟩ | h
    · simp [h1] at hd
    · exact h

theorem base_view {r : Rdr} (h : r.wf) : (base r).view = r.buf.view := by
  unfold base
  split
  · rcases h with ⟨h1, h2, h3⟩ | h
    · rw [C16.init_view]; simp [RBuf.view, h1]
    · rename_i hd
      have : r.buf.data = [] := List.isEmpty_iff.mp hd
      have h3 := h.2.2
      rw [this] at h3; simp at h3
  · rfl

theorem view_len {r : Rdr} (h : r.wf) : r.buf.view.length = r.buffered := by
  rcases h with ⟨h1, h2, h3⟩ | h
  · simp [RBuf.view, h1, Rdr.buffered, h2, h3]
  · exact C16.view_length _ h

theorem view_nil_iff {r : Rdr} (h : r.wf) : r.buf.view = [] ↔ r.buffered = 0 := by
  rw [← view_len h, List.length_eq_zero_iff]

theorem wf_of_buf {r : Rdr} (h : r.buf.wf) : r.wf := Or.inr h

theorem buf_wf_of_buffered {r : Rdr} (h : r.wf) (hb : r.buffered ≠ 0) : r.buf.wf := by
  rcases h with ⟨h1, h2, h3⟩ | h
  · simp [Rdr.buffered, h2, h3] at hb
  · exact h

theorem rfill_eq (r : Rdr) : r.fill =
    match r.src with
    | [] => ({ r with buf := (base r).fill [] }, true)
    | (d, e) :: rest =>
      if d.length ≤ (base r).makeRoom.room then ({ buf := (base r).fill d, src := rest }, e)
      else ({ buf := (base r).fill (d.take (base r).makeRoom.room),
              src := (d.drop (base r).makeRoom.room, e) :: rest }, false) := rfl

@[simp] theorem srcBytes_nil : srcBytes [] = [] := rfl
@[simp] theorem srcBytes_cons (p : Bytes × Bool) (s : List (Bytes × Bool)) :
    srcBytes (p :: s) = p.1 ++ srcBytes s := by simp [srcBytes]
@[simp] theorem srcBytes_append (a b : List (Bytes × Bool)) :
    srcBytes (a ++ b) = srcBytes a ++ srcBytes b := by simp [srcBytes]

theorem pending_eq (r : Rdr) : r.pending = r.buf.view ++ srcBytes r.src := rfl

theorem fill_buf (r : Rdr) : ∃ x, r.fill.1.buf = (base r).fill x := by
  rw [rfill_eq]
  cases r.src with
  | nil => exact ⟨_, rfl⟩
  | cons p rest => obtain ⟨d, e⟩ := p; simp only; split <;> exact ⟨_, rfl⟩

theorem fill_cases (r : Rdr) (h : r.wf) :
    r.fill.1.buf.wf ∧
    ∃ g, (r.fill).1.buf.view = r.buf.view ++ g ∧ srcBytes r.src = g ++ srcBytes (r.fill).1.src ∧
      (r.src = [] ∧ g = [] ∧ (r.fill).1.src = [] ∧ (r.fill).2 = true ∨
       ∃ d e rest, r.src = (d, e) :: rest ∧
        (g = d ∧ (r.fill).1.src = rest ∧ (r.fill).2 = e ∨
         g ≠ [] ∧ g.length < d.length ∧ g = d.take g.length ∧
           (r.fill).1.src = (d.drop g.length, e) :: rest ∧ (r.fill).2 = false)) := by
  have hb := base_wf h
  have hpos := C16.makeRoom_room_pos _ hb
  have hfit : ∀ x : Bytes, x.length ≤ (base r).makeRoom.room → ((base r).fill x).view = r.buf.view ++ x :=
    fun x hx => by rw [C16.fill_fits _ _ hb hx, base_view h]
  refine ⟨by obtain ⟨x, hx⟩ := fill_buf r; rw [hx]; exact C16.fill_wf _ _ hb, ?_⟩
  rw [rfill_eq]
  cases r.src with
  | nil => exact ⟨[], hfit [] (Nat.zero_le _), rfl, .inl ⟨rfl, rfl, rfl, rfl⟩⟩
  | cons p rest =>
    obtain ⟨d, e⟩ := p
    simp only
    split
    · rename_i hd
      exact ⟨d, hfit d hd, by simp, .inr ⟨d, e, rest, rfl, .inl ⟨rfl, rfl, rfl⟩⟩⟩
    · rename_i hd
      have hgl : (d.take (base r).makeRoom.room).length = (base r).makeRoom.room := by
        rw [List.length_take]; omega
      refine ⟨_, hfit _ (List.length_take_le _ _),
        by rw [srcBytes_cons, srcBytes_cons, ← List.append_assoc, List.take_append_drop],
        .inr ⟨d, e, rest, rfl, .inr ⟨?_, ?_, ?_, ?_, rfl⟩⟩⟩
      · intro hc; rw [hc] at hgl; simp at hgl; omega
      · rw [hgl]; omega
      · rw [hgl]
      · rw [hgl]

/-- what one `fill()` does: it appends `g` to the buffered bytes and takes `g` off the front of the
    script -/
structure FillPost (r : Rdr) (g : Bytes) : Prop where
  wf : (r.fill).1.buf.wf
  view : (r.fill).1.buf.view = r.buf.view ++ g
  src : srcBytes r.src = g ++ srcBytes (r.fill).1.src
  buffered : (r.fill).1.buffered = r.buffered + g.length
  eof : r.src = [] → g = [] ∧ (r.fill).2 = true ∧ (r.fill).1.src = []
  /-- a call of the source is used up, or bytes of it are -/
  potLt : r.src ≠ [] → pot (r.fill).1 < pot r
  /-- an error with nothing delivered is the source's own -/
  err : (r.fill).2 = true → g = [] → r.src = [] ∨ ∃ rest, r.src = ([], true) :: rest
  empty : g = [] → r.src = [] ∨ ∃ e rest, r.src = ([], e) :: rest ∧ (r.fill).2 = e ∧ (r.fill).1.src = rest

theorem fill_spec (r : Rdr) (h : r.wf) : ∃ g, FillPost r g := by
  obtain ⟨fw, g, fv, fsrc, hc⟩ := fill_cases r h
  have fbuf : (r.fill).1.buffered = r.buffered + g.length := by
    rw [← view_len h, ← view_len (Or.inr fw), fv, List.length_append]
  rcases hc with ⟨h1, h2, h3, h4⟩ | ⟨d, e, rest, hs, ⟨h2, h3, h4⟩ | ⟨h2, hl, _, h3, h4⟩⟩
  · exact ⟨g, fw, fv, fsrc, fbuf, fun _ => ⟨h2, h4, h3⟩, fun hn => absurd h1 hn, fun _ _ => .inl h1,
      fun _ => .inl h1⟩
  · refine ⟨g, fw, fv, fsrc, fbuf, fun hn => (by rw [hs] at hn; cases hn), fun _ => ?_,
      fun he hg => .inr ⟨rest, ?_⟩, fun hg => .inr ⟨e, rest, ?_, h4, h3⟩⟩
    · simp only [pot, fbuf, hs, h3, h2, srcBytes_cons, List.length_append, List.length_cons]; omega
    · rw [hs, ← h2, hg, ← h4, he]
    · rw [hs, ← h2, hg]
  · refine ⟨g, fw, fv, fsrc, fbuf, fun hn => (by rw [hs] at hn; cases hn), fun _ => ?_,
      fun he => (by rw [h4] at he; cases he), fun hg => absurd hg h2⟩
    simp only [pot, fbuf, hs, h3, srcBytes_cons, List.length_append, List.length_cons, List.length_drop]
    have := List.length_pos_iff.2 h2
    omega

theorem fill_pending {r : Rdr} (h : r.wf) : r.fill.1.pending = r.pending := by
  obtain ⟨g, hf⟩ := fill_spec r h
  rw [pending_eq, pending_eq, hf.view, hf.src, List.append_assoc]

theorem fill_pot {r : Rdr} (h : r.wf) (hc : ¬ (r.fill.2 = true ∧ r.fill.1.buffered = r.buffered)) :
    r.fill.1.wf ∧ pot r.fill.1 < pot r := by
  obtain ⟨g, hf⟩ := fill_spec r h
  refine ⟨Or.inr hf.wf, hf.potLt fun hsrc => ?_⟩
  obtain ⟨hg, he, _⟩ := hf.eof hsrc
  exact hc ⟨he, by rw [hf.buffered, hg]; rfl⟩

theorem firstPrintable_iff (r : Rdr) :
    r.firstPrintable = true ↔ ∃ b v, r.buf.view = b :: v ∧ isPrintableByte b = true := by
  unfold Rdr.firstPrintable Rdr.first
  cases r.buf.view with
  | nil => simp
  | cons b v => simp

theorem stepRune_printable {cw : Nat → Nat} {b : UInt8} {v : Bytes} {c w : Nat}
    (h : stepRune cw (b :: v) = some (c, w)) (hb : isPrintableByte b = true) :
    ∀ x ∈ (b :: v).take c, isPrintableByte x = true := by
  rw [stepRune_eq] at h
  split at h
  · split at h
    · cases h
    · simp only [Option.some.injEq, Prod.mk.injEq] at h
      exact h.1 ▸ decodeRune_printable b v hb
  · cases h

theorem heads_snoc {cw : Nat → Nat} {t : Bytes} {p : Cl} (hp : stepRune cw t = some (p.1.length, p.2))
    (hpre : ∃ t', t = p.1 ++ t') : ∀ (cs : List Cl), Heads cw (flat cs ++ t) cs →
    Heads cw (flat cs ++ t) (cs ++ [p]) := by
  intro cs
  induction cs with
  | nil =>
    intro _
    obtain ⟨t', ht⟩ := hpre
    exact ⟨by simpa using hp, t', by simpa using ht, trivial⟩
  | cons q cs ih =>
    intro h
    obtain ⟨h1, s', h2, h3⟩ := h
    simp only [flat_cons, List.append_assoc] at h2
    have := List.append_cancel_left h2
    subst this
    exact ⟨h1, flat cs ++ t, by simp, ih h3⟩

theorem heads_pos {cw : Nat → Nat} : ∀ (cs : List Cl) (s : Bytes), Heads cw s cs →
    ∀ p ∈ cs, 1 ≤ p.1.length ∧ 1 ≤ p.2 := by
  intro cs
  induction cs with
  | nil => intro _ _ p hp; cases hp
  | cons q cs ih =>
    intro s h p hp
    obtain ⟨h1, s', _, h3⟩ := h
    rcases List.mem_cons.mp hp with rfl | hp
    · have := stepRune_some h1; omega
    · exact ih s' h3 p hp

theorem heads_length {cw : Nat → Nat} : ∀ (cs : List Cl) (s : Bytes), Heads cw s cs →
    cs.length ≤ s.length := by
  intro cs
  induction cs with
  | nil => intro _ _; simp
  | cons q cs ih =>
    intro s h
    obtain ⟨h1, s', h2, h3⟩ := h
    have := (stepRune_some h1).1
    have := ih s' h3
    subst h2
    simp only [List.length_cons, List.length_append]; omega

theorem heads_clustersAux {cw : Nat → Nat} : ∀ (cs : List Cl) (s : Bytes) (n : Nat), Heads cw s cs →
    cs.length ≤ n → ∃ rest, clustersAux cw n s = cs ++ rest := by
  intro cs
  induction cs with
  | nil => intro s n _ _; exact ⟨_, rfl⟩
  | cons q cs ih =>
    intro s n h hn
    obtain ⟨h1, s', h2, h3⟩ := h
    cases n with
    | zero => simp at hn
    | succ n =>
      obtain ⟨rest, hr⟩ := ih s' n h3 (by simpa using hn)
      refine ⟨rest, ?_⟩
      simp only [clustersAux, h1]
      subst h2
      simp only [List.take_left', List.drop_left', hr, List.cons_append]

theorem take_drop_grow (l : Bytes) (rs s c e : Nat) (h1 : rs ≤ s) (h2 : s + c ≤ e) (h3 : e ≤ l.length) :
    (l.take (s + c)).drop rs = (l.take s).drop rs ++ ((l.take e).drop s).take c := by
  rw [List.take_add, List.drop_append_of_le_length (by simp only [List.length_take]; omega)]
  congr 1
  rw [List.drop_take, List.take_take]
  congr 1
  omega

/-- the loop body of `runLoop`, one iteration -/
inductive Step
  | done (res : Rdr × RunOut)
  | cont (r : Rdr) (rs wu : Nat)

def stepOf (cw : Nat → Nat) (maxW : Nat) (r : Rdr) (rs wu : Nat) : Step :=
  if r.buf.start ≥ r.buf.stop then
    if rs = r.buf.start then
      if r.fill.2 ∧ r.fill.1.buffered = 0 then .done (r.fill.1, { err := true })
      else if r.fill.1.buffered = 0 ∨ !r.fill.1.firstPrintable then .done (r.fill.1, {})
      else .cont r.fill.1 r.fill.1.buf.start wu
    else .done (r.finish rs wu)
  else if !r.firstPrintable then .done (r.finish rs wu)
  else
    match stepRune cw r.buf.view with
    | none =>
      if r.buf.start = rs then
        if r.fill.1.buffered = r.buffered ∧ r.fill.2 then .done (r.fill.1, { err := true })
        else .cont r.fill.1 r.fill.1.buf.start wu
      else .done (r.finish rs wu)
    | some (c, w) =>
      if maxW > 0 ∧ wu + w > maxW ∧ wu > 0 then .done (r.finish rs wu)
      else .cont { r with buf := r.buf.consume c } rs (wu + w)

def Step.run (k : Rdr → Nat → Nat → Rdr × RunOut) : Step → Rdr × RunOut
  | .done res => res
  | .cont r rs wu => k r rs wu

theorem Step.run_ite {k : Rdr → Nat → Nat → Rdr × RunOut} {c : Prop} [Decidable c] (a b : Step) :
    (if c then a else b).run k = if c then a.run k else b.run k := by split <;> rfl

/-- `P` of the result when the iteration ends the run, `Q` of the state it goes on from -/
def Step.All (P : Rdr × RunOut → Prop) (Q : Rdr → Nat → Nat → Prop) : Step → Prop
  | .done res => P res
  | .cont r rs wu => Q r rs wu

theorem runLoop_succ (cw : Nat → Nat) (maxW f : Nat) (r : Rdr) (rs wu : Nat) :
    Rdr.runLoop cw maxW (f + 1) r rs wu =
      match stepOf cw maxW r rs wu with
      | .done res => res
      | .cont r' rs' wu' => Rdr.runLoop cw maxW f r' rs' wu' := by
  rw [Rdr.runLoop]
  show _ = (stepOf cw maxW r rs wu).run (Rdr.runLoop cw maxW f)
  unfold stepOf
  simp only [Step.run_ite]
  -- the conditions are those of `runLoop`; `fill` is bound by a pattern there, projected here
  cases stepRune cw r.buf.view <;> simp only [Step.run_ite] <;> rfl

/-- a run in progress: `acc` is what it has consumed since `rs` -/
structure Sim (r : Rdr) (rs : Nat) (acc : Bytes) : Prop where
  wf : r.wf
  le : rs ≤ r.buf.start
  acc : (r.buf.data.take r.buf.start).drop rs = acc

theorem Sim.fresh {r : Rdr} (h : r.wf) : Sim r r.buf.start [] :=
  ⟨h, Nat.le_refl _, List.drop_eq_nil_of_le (List.length_take_le _ _)⟩

theorem Sim.nil_iff {r : Rdr} {rs : Nat} {acc : Bytes} (h : Sim r rs acc) : rs = r.buf.start ↔ acc = [] := by
  rw [← h.acc]
  constructor
  · intro e; rw [e]; exact List.drop_eq_nil_of_le (List.length_take_le _ _)
  · intro e
    have hl := congrArg List.length e
    simp only [List.length_drop, List.length_take, List.length_nil] at hl
    have := h.le
    rcases h.wf with ⟨_, h2, _⟩ | hw
    · omega
    · have := hw.1; have := hw.2.1; omega

theorem Sim.finish_eq {r : Rdr} {rs : Nat} {acc : Bytes} (h : Sim r rs acc) (wu : Nat) :
    r.finish rs wu = (r, if acc = [] then {} else { text := acc, width := wu }) := by
  unfold Rdr.finish
  by_cases e : acc = []
  · rw [if_pos (h.nil_iff.2 e).symm, if_pos e]
  · rw [if_neg (fun c => e (h.nil_iff.1 c.symm)), if_neg e, h.acc]

theorem Sim.consume {cw : Nat → Nat} {r : Rdr} {rs c w : Nat} {acc : Bytes} (h : Sim r rs acc)
    (hst : stepRune cw r.buf.view = some (c, w)) (hlt : r.buf.start < r.buf.stop) :
    Sim { r with buf := r.buf.consume c } rs (acc ++ r.buf.view.take c) ∧
    (r.buf.consume c).view = r.buf.view.drop c ∧
    pot { r with buf := r.buf.consume c } < pot r := by
  have hbw : r.buf.wf := buf_wf_of_buffered h.wf (by unfold Rdr.buffered; omega)
  have hsome := stepRune_some hst
  have hcl : c ≤ r.buf.view.length := hsome.2.1
  have hcv := C16.consume_view r.buf c hbw hcl
  rw [view_len h.wf] at hcl
  unfold Rdr.buffered at hcl
  refine ⟨⟨Or.inr hcv.2, ?_, ?_⟩, hcv.1, ?_⟩
  · show rs ≤ r.buf.start + c; have := h.le; omega
  · show (r.buf.data.take (r.buf.start + c)).drop rs = acc ++ r.buf.view.take c
    rw [← h.acc]
    exact take_drop_grow _ rs _ c r.buf.stop h.le (by omega) hbw.2.1
  · simp only [pot, Rdr.buffered, RBuf.consume]; omega

/-- why an iteration ends the run on what it has consumed -/
def Halt (cw : Nat → Nat) (maxW : Nat) (r : Rdr) (rs wu : Nat) : Prop :=
  (r.buffered = 0 ∧ rs ≠ r.buf.start) ∨ (r.buffered ≠ 0 ∧ r.firstPrintable = false) ∨
  (r.buffered ≠ 0 ∧ rs ≠ r.buf.start ∧ stepRune cw r.buf.view = none) ∨
  ∃ c w, stepRune cw r.buf.view = some (c, w) ∧ 0 < maxW ∧ maxW < wu + w ∧ 0 < wu

/-- The five things one iteration can do: end the run on what it has consumed; with nothing
    consumed yet, `fill()` and report its error (it brought nothing), end the run empty-handed, or
    go on from the refilled buffer; consume the character at the head of the buffer. -/
inductive StepTo (cw : Nat → Nat) (maxW : Nat) (r : Rdr) (rs wu : Nat) : Step → Prop
  | finish (why : Halt cw maxW r rs wu) : StepTo cw maxW r rs wu (.done (r.finish rs wu))
  | fillErr (hrs : rs = r.buf.start) (he : r.fill.2 = true) (hb : r.fill.1.buffered = r.buffered)
      (hno : r.buffered = 0 ∨ stepRune cw r.buf.view = none) :
      StepTo cw maxW r rs wu (.done (r.fill.1, { err := true }))
  | fillEnd (hrs : rs = r.buf.start) (hb0 : r.buffered = 0)
      (h : r.fill.1.buffered = 0 ∨ r.fill.1.firstPrintable = false) :
      StepTo cw maxW r rs wu (.done (r.fill.1, {}))
  | refill (hrs : rs = r.buf.start) (h : ¬ (r.fill.2 = true ∧ r.fill.1.buffered = r.buffered)) :
      StepTo cw maxW r rs wu (.cont r.fill.1 r.fill.1.buf.start wu)
  | consume (c w : Nat) (hst : stepRune cw r.buf.view = some (c, w)) (hlt : r.buf.start < r.buf.stop)
      (hpr : r.firstPrintable = true) (hlim : ¬ (maxW > 0 ∧ wu + w > maxW ∧ wu > 0)) :
      StepTo cw maxW r rs wu (.cont { r with buf := r.buf.consume c } rs (wu + w))

theorem stepOf_to (cw : Nat → Nat) (maxW : Nat) (r : Rdr) (rs wu : Nat) :
    StepTo cw maxW r rs wu (stepOf cw maxW r rs wu) := by
  unfold stepOf
  split
  · rename_i hge
    have hb0 : r.buffered = 0 := by unfold Rdr.buffered; omega
    split
    · rename_i hrs
      split
      · rename_i hc; exact .fillErr hrs hc.1 (by rw [hc.2, hb0]) (.inl hb0)
      · rename_i hc
        split
        · rename_i hc2; exact .fillEnd hrs hb0 (hc2.imp id fun h => by simpa using h)
        · exact .refill hrs fun h => hc ⟨h.1, by rw [h.2, hb0]⟩
    · rename_i hrs; exact .finish (.inl ⟨hb0, hrs⟩)
  · rename_i hlt
    have hbn : r.buffered ≠ 0 := by unfold Rdr.buffered; omega
    split
    · rename_i hnp; exact .finish (.inr (.inl ⟨hbn, by simpa using hnp⟩))
    · rename_i hpr
      split
      · rename_i hst
        split
        · rename_i hrs
          split
          · rename_i hc; exact .fillErr hrs.symm hc.2 hc.1 (.inr hst)
          · rename_i hc; exact .refill hrs.symm fun h => hc ⟨h.2, h.1⟩
        · rename_i hrs; exact .finish (.inr (.inr (.inl ⟨hbn, fun h => hrs h.symm, hst⟩)))
      · rename_i c w hst
        split
        · rename_i hlim
          exact .finish (.inr (.inr (.inr ⟨c, w, hst, hlim.1, hlim.2.1, hlim.2.2⟩)))
        · rename_i hlim; exact .consume c w hst (by omega) (by simpa using hpr) hlim

theorem stepOf_cont {cw : Nat → Nat} {maxW : Nat} {r : Rdr} {rs wu : Nat} {r' : Rdr} {rs' wu' : Nat}
    (h : r.wf) (hs : stepOf cw maxW r rs wu = .cont r' rs' wu') : r'.wf ∧ pot r' < pot r := by
  have ht := stepOf_to cw maxW r rs wu
  rw [hs] at ht
  cases ht with
  | refill _ hc => exact fill_pot h hc
  | consume c w hst hlt =>
    obtain ⟨hsim, _, hpot⟩ := (Sim.mk h (Nat.le_refl _) rfl).consume hst hlt
    exact ⟨hsim.wf, hpot⟩

/-- The invariant rule of the run loop: every iteration keeps `I` when it goes on and establishes
    `P` when it ends the run, so with fuel above the potential `P` holds of the result (`wf` is
    carried along, `stepOf_cont`). -/
theorem runLoop_ind {cw : Nat → Nat} {maxW : Nat} {I : Rdr → Nat → Nat → Prop} {P : Rdr × RunOut → Prop}
    (hstep : ∀ {r rs wu}, r.wf → I r rs wu → (stepOf cw maxW r rs wu).All P I) :
    ∀ (fuel : Nat) (r : Rdr) (rs wu : Nat), r.wf → I r rs wu → pot r < fuel →
      P (Rdr.runLoop cw maxW fuel r rs wu) := by
  intro fuel
  induction fuel with
  | zero => intro r rs wu _ _ hp; omega
  | succ f ih =>
    intro r rs wu hw h hp
    rw [runLoop_succ]
    have hs := hstep hw h
    cases hst : stepOf cw maxW r rs wu with
    | done res => rw [hst] at hs; exact hs
    | cont r' rs' wu' =>
      rw [hst] at hs
      obtain ⟨hw', hlt⟩ := stepOf_cont hw hst
      exact ih r' rs' wu' hw' hs (by omega)

theorem flat_eq_nil {cw : Nat → Nat} {S : Bytes} {cs : List Cl} (hh : Heads cw S cs) (h : flat cs = []) : cs = [] :=
  Classical.byContradiction fun hne => by
    have := flat_length_pos (fun p hm => (heads_pos cs S hh p hm).1) hne
    rw [h] at this; cases this

theorem runInv_sim {cw : Nat → Nat} {maxW : Nat} {S : Bytes} {r : Rdr} {rs wu : Nat} {cs : List Cl}
    (h : RunInv cw maxW S r rs wu cs) : Sim r rs (flat cs) := ⟨h.wf, h.le, h.txt⟩

theorem runInv_nil {cw : Nat → Nat} {maxW : Nat} {S : Bytes} {r : Rdr} {rs wu : Nat} {cs : List Cl}
    (h : RunInv cw maxW S r rs wu cs) (he : rs = r.buf.start) : cs = [] :=
  flat_eq_nil h.heads ((runInv_sim h).nil_iff.1 he)

theorem finish_eq {cw : Nat → Nat} {maxW : Nat} {S : Bytes} {r : Rdr} {rs wu : Nat} {cs : List Cl}
    (h : RunInv cw maxW S r rs wu cs) : r.finish rs wu = (r, ⟨flat cs, ws cs, false⟩) := by
  rw [(runInv_sim h).finish_eq, ← h.width]
  split
  · rename_i he
    rw [flat_eq_nil h.heads he]; rfl
  · rfl

theorem finish_post {cw : Nat → Nat} {maxW : Nat} {S : Bytes} {r : Rdr} {rs wu : Nat} {cs : List Cl}
    (h : RunInv cw maxW S r rs wu cs) (hstop : StopR cw maxW r ⟨flat cs, ws cs, false⟩) :
    RunPost cw maxW S True (r.finish rs wu).1 (r.finish rs wu).2 := by
  rw [finish_eq h]
  exact ⟨cs, ⟨rfl, rfl, h.heads, h.stream, h.wf, h.printable, (by rw [h.width]; exact h.limit),
    (fun he => by cases he), fun _ _ => hstop⟩⟩

theorem RunPost.empty {cw : Nat → Nat} {maxW : Nat} {r' : Rdr} (hw : r'.wf) (err : Bool)
    (he : err = true → ErrStop r' ∧ (r'.buffered = 0 ∨ stepRune cw r'.buf.view = none))
    (hs : err = false → StopR cw maxW r' { err := err }) :
    RunPost cw maxW r'.pending True r' { err := err } :=
  ⟨[], ⟨rfl, rfl, trivial, rfl, hw, nofun, fun _ => Or.inr (Nat.zero_le _), fun e => ⟨rfl, he e⟩, fun _ => hs⟩⟩

theorem RunInv.fresh {cw : Nat → Nat} {maxW : Nat} (r : Rdr) (h : r.wf) :
    RunInv cw maxW r.pending r r.buf.start 0 [] :=
  ⟨h, Nat.le_refl _, (Sim.fresh h).acc, rfl, trivial, rfl, (fun _ hb => by cases hb),
    fun _ => Or.inr (Nat.zero_le _)⟩

theorem stepOf_spec {cw : Nat → Nat} {maxW : Nat} {S : Bytes} {r : Rdr} {rs wu : Nat} {cs : List Cl}
    (h : RunInv cw maxW S r rs wu cs) :
    (stepOf cw maxW r rs wu).All (fun res => RunPost cw maxW S True res.1 res.2)
      fun r' rs' wu' => ∃ cs', RunInv cw maxW S r' rs' wu' cs' := by
  obtain ⟨g, hf⟩ := fill_spec r h.wf
  have hpend := fill_pending h.wf
  have ht := stepOf_to cw maxW r rs wu
  generalize stepOf cw maxW r rs wu = st at ht ⊢
  -- after a `fill()` nothing of the run is consumed: the stream is what is pending then
  have hS : rs = r.buf.start → S = r.fill.1.pending := fun hrs => by
    rw [hpend, h.stream, runInv_nil h hrs]; rfl
  cases ht with
  | finish why =>
    refine finish_post h ?_
    rcases why with ⟨hb0, _⟩ | ⟨_, hnp⟩ | ⟨_, hrs, hst⟩ | ⟨c, w, hst, h1, h2, h3⟩
    · exact .inl hb0
    · exact .inr (.inl hnp)
    · exact .inr (.inr (.inl ⟨fun e => hrs ((runInv_sim h).nil_iff.2 e), hst⟩))
    · exact .inr (.inr (.inr ⟨h1, by show 0 < ws cs; rw [h.width]; exact h3, c, w, hst,
        by show maxW < ws cs + w; rw [h.width]; exact h2⟩))
  | fillErr hrs he hb hno =>
    have hg : g = [] := List.eq_nil_of_length_eq_zero (by have := hf.buffered; omega)
    have fv : (r.fill).1.buf.view = r.buf.view := by rw [hf.view, hg, List.append_nil]
    refine hS hrs ▸ RunPost.empty (Or.inr hf.wf) true
      (fun _ => ⟨⟨r, h.wf, Prod.ext rfl he, fv, hf.err he hg⟩, ?_⟩) nofun
    rw [hb, fv]; exact hno
  | fillEnd hrs _ hc => exact hS hrs ▸ RunPost.empty (Or.inr hf.wf) false nofun fun _ => hc.imp id .inl
  | refill hrs =>
    have hcs := runInv_nil h hrs
    subst hcs
    have hw := h.width
    simp only [ws_nil] at hw
    subst hw
    refine ⟨[], ?_⟩
    have := RunInv.fresh (cw := cw) (maxW := maxW) (r.fill).1 (Or.inr hf.wf)
    have e : S = r.pending := h.stream
    rwa [hpend, ← e] at this
  | consume c w hst hlt hpr hlim =>
    obtain ⟨hsim, hcv, _⟩ := (runInv_sim h).consume hst hlt
    obtain ⟨b, v, hview, hbp⟩ := (firstPrintable_iff r).mp hpr
    have hcl : c ≤ r.buf.view.length := (stepRune_some hst).2.1
    have htl : (r.buf.view.take c).length = c := by simp only [List.length_take]; omega
    refine ⟨cs ++ [(r.buf.view.take c, w)],
      { wf := hsim.wf, le := hsim.le, txt := ?txt, stream := ?stream, heads := ?heads, width := ?width,
        printable := ?printable, limit := ?limit }⟩
    case txt => rw [hsim.acc, flat_append]; simp only [flat_cons, flat_nil, List.append_nil]
    case stream =>
      show S = _ ++ ((r.buf.consume c).view ++ srcBytes r.src)
      rw [hcv, h.stream, pending_eq, flat_append]
      simp only [flat_cons, flat_nil, List.append_nil, List.append_assoc]
      rw [← List.append_assoc (r.buf.view.take c), List.take_append_drop]
    case heads =>
      -- the new character is tokenised with the whole rest of the stream in view
      have hh := h.heads
      rw [h.stream] at hh ⊢
      refine heads_snoc ?_ ⟨r.buf.view.drop c ++ srcBytes r.src, ?_⟩ cs hh
      · show stepRune cw r.pending = some ((r.buf.view.take c).length, w)
        rw [htl, pending_eq]; exact stepRune_append _ hst
      · show r.pending = r.buf.view.take c ++ _
        rw [pending_eq, ← List.append_assoc, List.take_append_drop]
    case width => simp [h.width]
    case printable =>
      intro x hx
      rw [flat_append] at hx
      rcases List.mem_append.mp hx with hx | hx
      · exact h.printable x hx
      · simp only [flat_cons, flat_nil, List.append_nil] at hx
        rw [hview] at hx hst
        exact stepRune_printable hst hbp x hx
    case limit =>
      -- the loop goes past the limit only with `wu = 0`, i.e. with the first character of the run
      intro hm
      by_cases hwu : wu = 0
      · right
        have : cs = [] := by
          cases cs with
          | nil => rfl
          | cons p cs' =>
            have := (heads_pos _ S h.heads p (List.mem_cons_self ..)).2
            have hw := h.width
            simp only [ws_cons] at hw
            omega
        subst this; simp
      · left; omega

theorem runLoop_spec {cw : Nat → Nat} {maxW : Nat} {S : Bytes} (fuel : Nat) (r : Rdr) (rs wu : Nat)
    (cs : List Cl) (h : RunInv cw maxW S r rs wu cs) (hp : pot r < fuel) :
    RunPost cw maxW S True (Rdr.runLoop cw maxW fuel r rs wu).1 (Rdr.runLoop cw maxW fuel r rs wu).2 :=
  runLoop_ind (I := fun r rs wu => ∃ cs, RunInv cw maxW S r rs wu cs)
    (P := fun res => RunPost cw maxW S True res.1 res.2)
    (fun _ ⟨_, h⟩ => stepOf_spec h) fuel r rs wu h.wf ⟨cs, h⟩ hp

theorem runLoop_fuel_aux {cw : Nat → Nat} {maxW : Nat} : ∀ (n m : Nat) (r : Rdr) (rs wu : Nat), r.wf →
    pot r < n → pot r < m → Rdr.runLoop cw maxW n r rs wu = Rdr.runLoop cw maxW m r rs wu := by
  intro n
  induction n with
  | zero => intro m r rs wu _ hn; omega
  | succ n ih =>
    intro m r rs wu h hn hm
    cases m with
    | zero => omega
    | succ m =>
      rw [runLoop_succ, runLoop_succ]
      cases hst : stepOf cw maxW r rs wu with
      | done res => rfl
      | cont r' rs' wu' =>
        obtain ⟨hw, hp⟩ := stepOf_cont h hst
        exact ih m r' rs' wu' hw (by omega) (by omega)

/-! ### the two refill loops -/

theorem waitData_succ (f : Nat) (r : Rdr) : Rdr.waitData (f + 1) r =
    if r.buffered ≠ 0 then (r, false)
    else if (r.fill).2 ∧ (r.fill).1.buffered = 0 then ((r.fill).1, true)
    else Rdr.waitData f (r.fill).1 := by
  rw [Rdr.waitData]

theorem waitByte_succ (f : Nat) (r : Rdr) : Rdr.waitByte (f + 1) r =
    if r.buffered ≠ 0 then (r, false)
    else if (r.fill).2 then ((r.fill).1, true)
    else Rdr.waitByte f (r.fill).1 := by
  rw [Rdr.waitByte]

theorem waitData_true (f : Nat) (r : Rdr) (h : (Rdr.waitData f r).2 = true) : r.buffered = 0 := by
  cases f with
  | zero => simp [Rdr.waitData] at h
  | succ f =>
    rw [waitData_succ] at h
    split at h
    · cases h
    · rename_i hb; simpa using hb

/-- the entries a refill loop consumed while nothing arrived: all `([], false)`, then EOF or `([], true)` -/
def Quiet (s s' : List (Bytes × Bool)) : Prop :=
  ∃ pre, (∀ p ∈ pre, p = ([], false)) ∧ (s = pre ∧ s' = [] ∨ s = pre ++ ([], true) :: s')

theorem waitData_spec : ∀ (fuel : Nat) (r : Rdr), r.wf →
    (Rdr.waitData fuel r).1.wf ∧ (Rdr.waitData fuel r).1.pending = r.pending ∧
    ((Rdr.waitData fuel r).2 = true → (Rdr.waitData fuel r).1.buffered = 0 ∧
      ErrStop (Rdr.waitData fuel r).1 ∧ Quiet r.src (Rdr.waitData fuel r).1.src) ∧
    (pot r < fuel → (Rdr.waitData fuel r).2 = false → (Rdr.waitData fuel r).1.buffered ≠ 0) := by
  intro fuel
  induction fuel with
  | zero =>
    intro r h
    exact ⟨h, rfl, (fun hc => by cases hc), fun hc => absurd hc (Nat.not_lt_zero _)⟩
  | succ f ih =>
    intro r h
    obtain ⟨g, hf⟩ := fill_spec r h
    have fbuf := hf.buffered
    have hpend := fill_pending h
    rw [waitData_succ]
    split
    · rename_i hb
      exact ⟨h, rfl, (fun hc => by cases hc), fun _ _ => hb⟩
    · rename_i hb
      have hb0 : r.buffered = 0 := by simpa using hb
      split
      · rename_i hc
        have hg : g = [] := List.eq_nil_of_length_eq_zero (by omega)
        refine ⟨Or.inr hf.wf, hpend,
          fun _ => ⟨hc.2, ⟨r, h, ?_, by rw [hf.view, hg, List.append_nil], hf.err hc.1 hg⟩, ⟨[], ?_, ?_⟩⟩,
          fun _ hcc => by cases hcc⟩
        · show r.fill = ((r.fill).1, true); rw [← hc.1]
        · intro p hp; cases hp
        · rcases hf.empty hg with hsrc | ⟨e, rest, hsrc, he, hr⟩
          · exact Or.inl ⟨hsrc, (hf.eof hsrc).2.2⟩
          · right
            rw [hc.1] at he
            rw [hsrc, hr, ← he]; rfl
      · rename_i hc
        obtain ⟨i1, i2, i3, i4⟩ := ih (r.fill).1 (Or.inr hf.wf)
        have hpot := (fill_pot h fun hh => hc ⟨hh.1, by rw [hh.2, hb0]⟩).2
        refine ⟨i1, by rw [i2, hpend], fun ht => ?_, fun hp => i4 (by omega)⟩
        obtain ⟨j1, j2, pre, j3, j4⟩ := i3 ht
        refine ⟨j1, j2, ?_⟩
        have hb1 := waitData_true f _ ht
        have hg : g = [] := List.eq_nil_of_length_eq_zero (by omega)
        rcases hf.empty hg with hsrc | ⟨e, rest, hsrc, he, hr⟩
        · exact absurd ⟨(hf.eof hsrc).2.1, hb1⟩ hc
        · -- the loop went on after this empty read, so it carried no error
          have hef : e = false := by
            cases e with
            | false => rfl
            | true => exact absurd ⟨he, hb1⟩ hc
          subst hef
          refine ⟨([], false) :: pre, ?_, ?_⟩
          · intro p hp
            rcases List.mem_cons.mp hp with rfl | hp
            · rfl
            · exact j3 p hp
          · rw [hsrc, ← hr]
            rcases j4 with ⟨k1, k2⟩ | k1
            · exact Or.inl ⟨by rw [k1], k2⟩
            · exact Or.inr (by rw [k1]; rfl)

theorem waitData_of_buffered (f : Nat) {r : Rdr} (hb : r.buffered ≠ 0) : Rdr.waitData f r = (r, false) := by
  cases f with
  | zero => rfl
  | succ f => rw [waitData_succ, if_pos hb]

/-- the refill loop of `ReadByte` stops where that of `ReadPrintableBytes` does; it also reports
    the error of a `fill()` that brought data -/
theorem waitByte_waitData : ∀ (f : Nat) (r : Rdr),
    (Rdr.waitByte f r).1 = (Rdr.waitData f r).1 ∧
    ((Rdr.waitData f r).2 = true ↔ (Rdr.waitByte f r).2 = true ∧ (Rdr.waitByte f r).1.buffered = 0) := by
  intro f
  induction f with
  | zero => intro r; exact ⟨rfl, nofun, fun h => nomatch h.1⟩
  | succ f ih =>
    intro r
    rw [waitData_succ, waitByte_succ]
    by_cases hb : r.buffered ≠ 0
    · rw [if_pos hb, if_pos hb]; exact ⟨rfl, nofun, fun h => nomatch h.1⟩
    · rw [if_neg hb, if_neg hb]
      by_cases he : r.fill.2 = true
      · rw [if_pos he]
        by_cases hz : r.fill.1.buffered = 0
        · rw [if_pos ⟨he, hz⟩]; exact ⟨rfl, fun _ => ⟨rfl, hz⟩, fun _ => rfl⟩
        · rw [if_neg fun h => hz h.2, waitData_of_buffered f hz]
          exact ⟨rfl, nofun, fun h => absurd h.2 hz⟩
      · rw [if_neg he, if_neg fun h => he h.1]; exact ih _

theorem waitByte_spec (fuel : Nat) (r : Rdr) (h : r.wf) :
    (Rdr.waitByte fuel r).1.wf ∧ (Rdr.waitByte fuel r).1.pending = r.pending ∧
    ((Rdr.waitByte fuel r).2 = true → (Rdr.waitByte fuel r).1.buffered = 0 →
      Quiet r.src (Rdr.waitByte fuel r).1.src) ∧
    (pot r < fuel → (Rdr.waitByte fuel r).2 = false → (Rdr.waitByte fuel r).1.buffered ≠ 0) := by
  obtain ⟨w1, w2, w3, w4⟩ := waitData_spec fuel r h
  obtain ⟨e1, e2⟩ := waitByte_waitData fuel r
  rw [e1] at e2 ⊢
  refine ⟨w1, w2, fun ht hz => (w3 (e2.2 ⟨ht, hz⟩)).2.2, fun hp hf => w4 hp ?_⟩
  cases hd : (Rdr.waitData fuel r).2 with
  | false => rfl
  | true => rw [(e2.1 hd).1] at hf; cases hf

theorem waitData_fuel_aux : ∀ (n m : Nat) (r : Rdr), r.wf → pot r < n → pot r < m →
    Rdr.waitData n r = Rdr.waitData m r := by
  intro n
  induction n with
  | zero => intro m r _ hn; omega
  | succ n ih =>
    intro m r h hn hm
    cases m with
    | zero => omega
    | succ m =>
      rw [waitData_succ, waitData_succ]
      split
      · rfl
      · rename_i hb
        split
        · rfl
        · rename_i hc
          obtain ⟨fw, hpot⟩ := fill_pot h fun hh => hc ⟨hh.1, by rw [hh.2]; simpa using hb⟩
          exact ih m _ fw (by omega) (by omega)

theorem waitByte_fuel_aux : ∀ (n m : Nat) (r : Rdr), r.wf → pot r < n → pot r < m →
    Rdr.waitByte n r = Rdr.waitByte m r := by
  intro n
  induction n with
  | zero => intro m r _ hn; omega
  | succ n ih =>
    intro m r h hn hm
    cases m with
    | zero => omega
    | succ m =>
      rw [waitByte_succ, waitByte_succ]
      split
      · rfl
      · split
        · rfl
        · rename_i hc
          obtain ⟨fw, hpot⟩ := fill_pot h fun hh => hc hh.1
          exact ih m _ fw (by omega) (by omega)

/-! ### the two entry points -/

theorem readPrintable_eq (cw : Nat → Nat) (r : Rdr) (maxW : Nat) : r.readPrintable cw maxW =
    if (Rdr.waitData r.fuel r).2 then ((Rdr.waitData r.fuel r).1, { err := true })
    else if (Rdr.waitData r.fuel r).1.buffered = 0 ∨ !(Rdr.waitData r.fuel r).1.firstPrintable then
      ((Rdr.waitData r.fuel r).1, {})
    else Rdr.runLoop cw maxW (Rdr.waitData r.fuel r).1.fuel (Rdr.waitData r.fuel r).1
      (Rdr.waitData r.fuel r).1.buf.start 0 := rfl

theorem readByte_eq (r : Rdr) : r.readByte =
    match (Rdr.waitByte r.fuel r).1.first with
    | none => ((Rdr.waitByte r.fuel r).1, none)
    | some b => ({ (Rdr.waitByte r.fuel r).1 with buf := (Rdr.waitByte r.fuel r).1.buf.consume 1 }, some b) := rfl

theorem readPrintable_post (cw : Nat → Nat) (r : Rdr) (maxW : Nat) (h : r.wf) :
    RunPost cw maxW r.pending True (r.readPrintable cw maxW).1 (r.readPrintable cw maxW).2 := by
  obtain ⟨w1, w2, w3, w4⟩ := waitData_spec r.fuel r h
  rw [readPrintable_eq]
  split
  · rename_i he
    obtain ⟨e1, e2, _⟩ := w3 he
    exact w2 ▸ RunPost.empty w1 true (fun _ => ⟨e2, Or.inl e1⟩) nofun
  · rename_i he
    split
    · rename_i hc
      exact w2 ▸ RunPost.empty w1 false nofun fun _ => hc.imp id fun hc => .inl (by simpa using hc)
    · have := runLoop_spec (cw := cw) (maxW := maxW) _ _ _ _ _
        (RunInv.fresh (cw := cw) (maxW := maxW) (Rdr.waitData r.fuel r).1 w1) (pot_lt_fuel _)
      rwa [w2] at this

/-! ### progress: a run started on a printable byte does not come back empty-handed -/

def Live (r : Rdr) (rs wu : Nat) : Prop :=
  r.wf ∧ rs ≤ r.buf.start ∧ (rs = r.buf.start → r.firstPrintable = true ∧ wu = 0)

theorem stepOf_live {cw : Nat → Nat} {maxW : Nat} {r : Rdr} {rs wu : Nat} (h : Live r rs wu) :
    (stepOf cw maxW r rs wu).All (fun res => res.2.err = true ∨ res.2.text ≠ []) Live := by
  obtain ⟨hwf, hle, hlive⟩ := h
  have hsim : Sim r rs _ := ⟨hwf, hle, rfl⟩
  -- with nothing consumed the first buffered byte is printable: there is one
  have hbuf : rs = r.buf.start → r.buffered ≠ 0 := by
    intro hrs hb0
    obtain ⟨b, v, hview, _⟩ := (firstPrintable_iff r).mp (hlive hrs).1
    rw [(view_nil_iff hwf).2 hb0] at hview; cases hview
  have ht := stepOf_to cw maxW r rs wu
  generalize stepOf cw maxW r rs wu = st at ht ⊢
  cases ht with
  | finish why =>
    have hne : rs ≠ r.buf.start := by
      intro hrs
      rcases why with ⟨_, h1⟩ | ⟨_, h1⟩ | ⟨_, h1, _⟩ | ⟨c, w, _, _, _, h1⟩
      · exact h1 hrs
      · rw [(hlive hrs).1] at h1; cases h1
      · exact h1 hrs
      · have := (hlive hrs).2; omega
    refine .inr ?_
    rw [hsim.finish_eq, if_neg fun e => hne (hsim.nil_iff.2 e)]
    exact fun e => hne (hsim.nil_iff.2 e)
  | fillErr => exact .inl rfl
  | fillEnd hrs hb0 => exact absurd hb0 (hbuf hrs)
  | refill hrs =>
    obtain ⟨g, hf⟩ := fill_spec r hwf
    obtain ⟨b, v, hview, hbp⟩ := (firstPrintable_iff r).mp (hlive hrs).1
    exact ⟨Or.inr hf.wf, Nat.le_refl _, fun _ =>
      ⟨(firstPrintable_iff _).mpr ⟨b, v ++ g, by rw [hf.view, hview]; rfl, hbp⟩, (hlive hrs).2⟩⟩
  | consume c w hst hlt =>
    obtain ⟨hs', _, _⟩ := hsim.consume hst hlt
    have := (stepRune_some hst).1
    exact ⟨hs'.wf, hs'.le, fun hc => by have : rs = r.buf.start + c := hc; omega⟩

theorem runLoop_live {cw : Nat → Nat} {maxW : Nat} (fuel : Nat) (r : Rdr) (rs wu : Nat) (h : Live r rs wu)
    (hp : pot r < fuel) :
    (Rdr.runLoop cw maxW fuel r rs wu).2.err = true ∨ (Rdr.runLoop cw maxW fuel r rs wu).2.text ≠ [] :=
  runLoop_ind (P := fun res => res.2.err = true ∨ res.2.text ≠ []) (fun _ => stepOf_live) fuel r rs wu h.1 h hp

end Lemmas
open Lemmas

/-! ## `fill` conserves the stream -/

theorem init_wf (script : List (Bytes × Bool)) :
    (Rdr.init script).wf ∧ (Rdr.init script).pending = srcBytes script :=
  ⟨Or.inl ⟨rfl, rfl, rfl⟩, rfl⟩

/-- **`fill` loses nothing and keeps the invariant**: buffered bytes followed by the bytes of the
script are the same before and after, whatever compaction, doubling or partial take happened. -/
theorem rdr_fill_conserves (r : Rdr) (h : r.wf) : (r.fill).1.pending = r.pending ∧ (r.fill).1.wf :=
  ⟨fill_pending h, Or.inr (fill_cases r h).1⟩

/-- **`fill` appends at the end, exactly what it takes from the script**: the whole first entry with
its error flag, or, when the free space is smaller, a non-empty proper prefix of it without error
(the rest stays first in the script); an exhausted script gives nothing and EOF. -/
theorem rdr_fill_appends (r : Rdr) (h : r.wf) :
    ∃ g, (r.fill).1.buf.view = r.buf.view ++ g ∧ srcBytes r.src = g ++ srcBytes (r.fill).1.src ∧
      (r.src = [] ∧ g = [] ∧ (r.fill).1.src = [] ∧ (r.fill).2 = true ∨
       ∃ d e rest, r.src = (d, e) :: rest ∧
        (g = d ∧ (r.fill).1.src = rest ∧ (r.fill).2 = e ∨
         g ≠ [] ∧ g.length < d.length ∧ g = d.take g.length ∧
           (r.fill).1.src = (d.drop g.length, e) :: rest ∧ (r.fill).2 = false)) :=
  (fill_cases r h).2

/-- **A returned error with nothing delivered means the source said so**: the script was
exhausted (EOF) or its first entry was an empty read flagged with an error. -/
theorem rdr_fill_error_no_data (r : Rdr) (h : r.wf) (he : (r.fill).2 = true)
    (hv : (r.fill).1.buf.view = r.buf.view) : r.src = [] ∨ ∃ rest, r.src = ([], true) :: rest := by
  obtain ⟨g, hf⟩ := fill_spec r h
  exact hf.err he (List.self_eq_append_right.mp (hv ▸ hf.view))

/-- **Capacity**: 4096 on first use, afterwards unchanged unless the live bytes fill the whole
array, in which case it doubles. -/
theorem rdr_fill_capacity (r : Rdr) (h : r.wf) :
    (r.fill).1.buf.data.length =
      if r.buf.data.isEmpty then 4096
      else if r.buf.view.length = r.buf.data.length then 2 * r.buf.data.length else r.buf.data.length := by
  obtain ⟨x, hx⟩ := fill_buf r
  rw [hx, C16.fill_capacity _ _ (base_wf h), C16.makeRoom_capacity _ (base_wf h), base_view h]
  unfold base
  split
  · rename_i hd
    have hv : r.buf.view = [] := by simp [RBuf.view, List.isEmpty_iff.mp hd]
    rw [hv, C16.init_capacity]; rfl
  · rfl

theorem rdr_fill_capacity_pow (r : Rdr) (h : r.wf)
    (hc : r.buf.data = [] ∨ ∃ k, r.buf.data.length = 4096 * 2 ^ k) :
    ∃ k, (r.fill).1.buf.data.length = 4096 * 2 ^ k := by
  rw [rdr_fill_capacity r h]
  split
  · exact ⟨0, rfl⟩
  · rename_i hd
    rcases hc with hc | ⟨k, hk⟩
    · simp [hc] at hd
    · split
      · exact ⟨k + 1, by rw [hk, Nat.pow_succ]; omega⟩
      · exact ⟨k, hk⟩

/-! ## `ReadByte` -/

/-- **`ReadByte` hands out the next byte of the stream**, whether it was buffered or had to be
read (also when it arrived together with an error), and keeps the invariant. -/
theorem readByte_some (r r' : Rdr) (b : UInt8) (h : r.wf) (hr : r.readByte = (r', some b)) :
    r.pending = b :: r'.pending ∧ r'.wf := by
  obtain ⟨w1, w2, _, _⟩ := waitByte_spec r.fuel r h
  rw [readByte_eq] at hr
  split at hr
  · cases hr
  · rename_i b0 hf
    cases hr
    unfold Rdr.first at hf
    have hne : (Rdr.waitByte r.fuel r).1.buffered ≠ 0 := by
      intro hc; rw [(view_nil_iff w1).2 hc] at hf; cases hf
    have hbw := buf_wf_of_buffered w1 hne
    cases hv : (Rdr.waitByte r.fuel r).1.buf.view with
    | nil => rw [hv] at hf; cases hf
    | cons b1 v =>
      rw [hv] at hf
      cases hf
      have hc := C16.consume_view _ 1 hbw (by rw [hv]; simp)
      refine ⟨?_, Or.inr hc.2⟩
      rw [← w2, pending_eq, pending_eq]
      show _ = b :: ((((Rdr.waitByte r.fuel r).1.buf.consume 1).view) ++ _)
      rw [hc.1, hv]; rfl

/-- **`ReadByte` fails only at a read that reports an error (or EOF) and delivers nothing**, having
consumed nothing but empty reads; the rest of the script is untouched and `pending` unchanged. -/
theorem readByte_none (r r' : Rdr) (h : r.wf) (hr : r.readByte = (r', none)) :
    r'.pending = r.pending ∧ r'.wf ∧ r'.buffered = 0 ∧
    ∃ pre, (∀ p ∈ pre, p = ([], false)) ∧ (r.src = pre ∧ r'.src = [] ∨ r.src = pre ++ ([], true) :: r'.src) := by
  obtain ⟨w1, w2, w3, w4⟩ := waitByte_spec r.fuel r h
  rw [readByte_eq] at hr
  split at hr
  · rename_i hf
    cases hr
    unfold Rdr.first at hf
    have hb0 : (Rdr.waitByte r.fuel r).1.buffered = 0 := (view_nil_iff w1).1 (List.head?_eq_none_iff.1 hf)
    refine ⟨w2, w1, hb0, ?_⟩
    cases he : (Rdr.waitByte r.fuel r).2 with
    | true => exact w3 he hb0
    | false => exact absurd hb0 (w4 (pot_lt_fuel r) he)
  · cases hr

/-! ## `ReadPrintableBytes` -/

/-- **Exactly once, in order**: the text returned followed by everything the reader will still
hand out is what it would have handed out before the call — across compaction, doubling, partial
takes and characters cut by the end of a read — and the invariant is kept. -/
theorem readPrintable_conservation (cw : Nat → Nat) (r : Rdr) (maxW : Nat) (h : r.wf) :
    r.pending = (r.readPrintable cw maxW).2.text ++ (r.readPrintable cw maxW).1.pending ∧
    (r.readPrintable cw maxW).1.wf := by
  obtain ⟨cs, hp⟩ := readPrintable_post cw r maxW h
  exact ⟨hp.stream, hp.wf⟩

/-- **Only printable bytes** are returned as text (control bytes are left for `ReadByte`). -/
theorem readPrintable_printable (cw : Nat → Nat) (r : Rdr) (maxW : Nat) (h : r.wf) :
    ∀ b ∈ (r.readPrintable cw maxW).2.text, isPrintableByte b = true := by
  obtain ⟨cs, hp⟩ := readPrintable_post cw r maxW h
  exact hp.printable

/-- **Whole characters of the stream**: the text is the first characters of the tokenisation of the
whole pending stream, the width the sum of their widths; no dependence on how the stream is cut
into reads. -/
theorem readPrintable_whole_characters (cw : Nat → Nat) (r : Rdr) (maxW : Nat) (h : r.wf) :
    ∃ cs rest, clusters cw r.pending = cs ++ rest ∧ Heads cw r.pending cs ∧
      (r.readPrintable cw maxW).2.text = flat cs ∧ (r.readPrintable cw maxW).2.width = ws cs := by
  obtain ⟨cs, hp⟩ := readPrintable_post cw r maxW h
  obtain ⟨rest, hr⟩ := heads_clustersAux cs r.pending r.pending.length hp.heads
    (heads_length cs _ hp.heads)
  exact ⟨cs, rest, hr, hp.heads, hp.text, hp.width⟩

/-- **Well-formed text** (`textWF`, hence `textOK`) whenever every character of the pending stream
tokenises on its own — e.g. for valid UTF-8. (Without the hypothesis it is false: the
examples marked `truncated_*`.) -/
theorem readPrintable_textWF (cw : Nat → Nat) (r : Rdr) (maxW : Nat) (h : r.wf)
    (hs : Toks cw (clusters cw r.pending)) :
    textWF cw (r.readPrintable cw maxW).2.text (r.readPrintable cw maxW).2.width = true := by
  obtain ⟨cs, rest, h1, _, h3, h4⟩ := readPrintable_whole_characters cw r maxW h
  rw [h1] at hs
  rw [h3, h4]
  exact textWF_flat hs.left

/-- **The width limit**: with a positive limit the run is at most `maxW` cells wide, unless it is
the single first character of the stream (which is returned even when wider). -/
theorem readPrintable_width_limit (cw : Nat → Nat) (r : Rdr) (maxW : Nat) (h : r.wf) (hm : 0 < maxW) :
    (r.readPrintable cw maxW).2.width ≤ maxW ∨
    stepRune cw r.pending = some ((r.readPrintable cw maxW).2.text.length, (r.readPrintable cw maxW).2.width) := by
  obtain ⟨cs, hp⟩ := readPrintable_post cw r maxW h
  rcases hp.limit hm with hl | hl
  · exact Or.inl hl
  · rcases cs with _ | ⟨p, _ | ⟨q, cs⟩⟩
    · left; rw [hp.width]; simp
    · right
      rw [hp.text, hp.width]
      simpa using hp.heads.1
    · simp at hl

/-- **Errors**: reported with an empty text and nothing lost, and only when the last `fill()` got an
error (or EOF) and no data while the buffer held nothing to hand out (nothing at all, or only the
beginning of an incomplete character). -/
theorem readPrintable_error (cw : Nat → Nat) (r : Rdr) (maxW : Nat) (h : r.wf)
    (he : (r.readPrintable cw maxW).2.err = true) :
    (r.readPrintable cw maxW).2.text = [] ∧ (r.readPrintable cw maxW).2.width = 0 ∧
    (r.readPrintable cw maxW).1.pending = r.pending ∧ ErrStop (r.readPrintable cw maxW).1 ∧
    ((r.readPrintable cw maxW).1.buffered = 0 ∨
      stepRune cw (r.readPrintable cw maxW).1.buf.view = none) := by
  obtain ⟨cs, hp⟩ := readPrintable_post cw r maxW h
  obtain ⟨e1, e2, e3⟩ := hp.err he
  subst e1
  have ht : (r.readPrintable cw maxW).2.text = [] := hp.text
  refine ⟨ht, hp.width, ?_, e2, e3⟩
  have := hp.stream
  rw [ht] at this
  exact this.symm

/-- **Maximality.** A run without error stops only for one of these reasons: the buffer is
exhausted; the next buffered byte is not printable; the buffer continues with an incomplete
character (and the run is not empty: otherwise the loop refills); the next character would
exceed the width limit (and the run is not empty). -/
theorem readPrintable_maximal (cw : Nat → Nat) (r : Rdr) (maxW : Nat) (h : r.wf)
    (he : (r.readPrintable cw maxW).2.err = false) :
    StopR cw maxW (r.readPrintable cw maxW).1 (r.readPrintable cw maxW).2 := by
  obtain ⟨cs, hp⟩ := readPrintable_post cw r maxW h
  exact hp.stop trivial he

/-! ## fuel -/

/-- **The main loop stops by itself**: any two amounts of fuel `≥ r.fuel` (which is above the
potential, `pot_lt_fuel`) give the same result, from any state of the run. -/
theorem runLoop_fuel (cw : Nat → Nat) (maxW : Nat) (r : Rdr) (rs wu n m : Nat) (h : r.wf)
    (hn : r.fuel ≤ n) (hm : r.fuel ≤ m) :
    Rdr.runLoop cw maxW n r rs wu = Rdr.runLoop cw maxW m r rs wu := by
  have := pot_lt_fuel r
  exact runLoop_fuel_aux n m r rs wu h (by omega) (by omega)

theorem waitData_fuel (r : Rdr) (n m : Nat) (h : r.wf) (hn : r.fuel ≤ n) (hm : r.fuel ≤ m) :
    Rdr.waitData n r = Rdr.waitData m r := by
  have := pot_lt_fuel r
  exact waitData_fuel_aux n m r h (by omega) (by omega)

theorem waitByte_fuel (r : Rdr) (n m : Nat) (h : r.wf) (hn : r.fuel ≤ n) (hm : r.fuel ≤ m) :
    Rdr.waitByte n r = Rdr.waitByte m r := by
  have := pot_lt_fuel r
  exact waitByte_fuel_aux n m r h (by omega) (by omega)

/-- The refill loop of `ReadPrintableBytes` is not cut short by the fuel: it ends with data
buffered or with an error. -/
theorem waitData_ends (r : Rdr) (h : r.wf) :
    (Rdr.waitData r.fuel r).2 = true ∧ (Rdr.waitData r.fuel r).1.buffered = 0 ∨
    (Rdr.waitData r.fuel r).2 = false ∧ (Rdr.waitData r.fuel r).1.buffered ≠ 0 := by
  obtain ⟨_, _, w3, w4⟩ := waitData_spec r.fuel r h
  cases he : (Rdr.waitData r.fuel r).2 with
  | true => exact Or.inl ⟨rfl, (w3 he).1⟩
  | false => exact Or.inr ⟨rfl, w4 (pot_lt_fuel r) he⟩

/-! ## progress -/

/-- **Progress**: a call that reports no error and returns no text leaves a control byte first in
the buffer; a run never comes back empty-handed because a read returned nothing or cut a character. -/
theorem readPrintable_progress (cw : Nat → Nat) (r : Rdr) (maxW : Nat) (h : r.wf)
    (he : (r.readPrintable cw maxW).2.err = false) (ht : (r.readPrintable cw maxW).2.text = []) :
    ∃ b v, (r.readPrintable cw maxW).1.buf.view = b :: v ∧ isPrintableByte b = false ∧
      (r.readPrintable cw maxW).1.pending = r.pending := by
  obtain ⟨w1, w2, w3, w4⟩ := waitData_spec r.fuel r h
  rw [readPrintable_eq] at he ht ⊢
  split at he
  · cases he
  · rename_i hwe
    have hwe' : (Rdr.waitData r.fuel r).2 = false := by simpa using hwe
    have hne := w4 (pot_lt_fuel r) hwe'
    rw [if_neg hwe] at ht ⊢
    split at he
    · rename_i hc
      rw [if_pos hc] at ht ⊢
      have hfp : (Rdr.waitData r.fuel r).1.firstPrintable = false := by
        rcases hc with hc | hc
        · exact absurd hc hne
        · simpa using hc
      have hl := view_len w1
      cases hv : (Rdr.waitData r.fuel r).1.buf.view with
      | nil => rw [hv] at hl; exact absurd hl.symm hne
      | cons b v =>
        refine ⟨b, v, rfl, ?_, w2⟩
        simpa [Rdr.firstPrintable, Rdr.first, hv] using hfp
    · rename_i hc
      rw [if_neg hc] at ht
      have hfp : (Rdr.waitData r.fuel r).1.firstPrintable = true := by
        cases hq : (Rdr.waitData r.fuel r).1.firstPrintable with
        | true => rfl
        | false => exact absurd (Or.inr (by simp [hq])) hc
      have := runLoop_live (cw := cw) (maxW := maxW) (Rdr.waitData r.fuel r).1.fuel
        (Rdr.waitData r.fuel r).1 (Rdr.waitData r.fuel r).1.buf.start 0
        ⟨w1, Nat.le_refl _, fun _ => ⟨hfp, rfl⟩⟩ (pot_lt_fuel _)
      rcases this with hx | hx
      · rw [hx] at he; cases he
      · exact absurd ht hx

/-! ## sequences of calls; independence of the reads -/

/-- a call of the parser on the reader -/
inductive Call
  | byte
  | run (maxW : Nat)

/-- the reader after a sequence of calls, and all the bytes they returned, in order -/
def runCalls (cw : Nat → Nat) : Rdr → List Call → Rdr × Bytes
  | r, [] => (r, [])
  | r, .byte :: cs =>
    ((runCalls cw (r.readByte).1 cs).1, (r.readByte).2.toList ++ (runCalls cw (r.readByte).1 cs).2)
  | r, .run m :: cs =>
    ((runCalls cw (r.readPrintable cw m).1 cs).1,
      (r.readPrintable cw m).2.text ++ (runCalls cw (r.readPrintable cw m).1 cs).2)

/-- **Every byte exactly once and in order, over any sequence of calls**: what the calls returned,
followed by what the reader will still hand out, is what it would have handed out at the start. -/
theorem calls_conservation (cw : Nat → Nat) : ∀ (calls : List Call) (r : Rdr), r.wf →
    (runCalls cw r calls).2 ++ (runCalls cw r calls).1.pending = r.pending ∧ (runCalls cw r calls).1.wf := by
  intro calls
  induction calls with
  | nil => intro r h; exact ⟨rfl, h⟩
  | cons c cs ih =>
    intro r h
    cases c with
    | byte =>
      simp only [runCalls]
      rcases hr : r.readByte with ⟨r1, ob⟩
      cases ob with
      | none =>
        obtain ⟨a1, a2, _⟩ := readByte_none r r1 h hr
        obtain ⟨i1, i2⟩ := ih r1 a2
        exact ⟨by simpa [a1] using i1, i2⟩
      | some b =>
        obtain ⟨a1, a2⟩ := readByte_some r r1 b h hr
        obtain ⟨i1, i2⟩ := ih r1 a2
        refine ⟨?_, i2⟩
        rw [a1, ← i1]; rfl
    | run m =>
      simp only [runCalls]
      obtain ⟨a1, a2⟩ := readPrintable_conservation cw r m h
      obtain ⟨i1, i2⟩ := ih _ a2
      refine ⟨?_, i2⟩
      rw [List.append_assoc, i1, ← a1]

theorem calls_prefix (cw : Nat → Nat) (calls : List Call) (r : Rdr) (h : r.wf) :
    (runCalls cw r calls).2 <+: r.pending :=
  ⟨_, (calls_conservation cw calls r h).1⟩

/-- all the calls are `ReadPrintableBytes` -/
def allRuns (calls : List Call) : Prop := ∀ c ∈ calls, ∃ m, c = Call.run m

theorem runs_printable (cw : Nat → Nat) : ∀ (calls : List Call) (r : Rdr), r.wf → allRuns calls →
    ∀ b ∈ (runCalls cw r calls).2, isPrintableByte b = true := by
  intro calls
  induction calls with
  | nil => intro r _ _ b hb; cases hb
  | cons c cs ih =>
    intro r h ha b hb
    obtain ⟨m, rfl⟩ := ha c (List.mem_cons_self ..)
    simp only [runCalls] at hb
    rcases List.mem_append.mp hb with hb | hb
    · exact readPrintable_printable cw r m h b hb
    · exact ih _ (readPrintable_conservation cw r m h).2 (fun c hc => ha c (List.mem_cons_of_mem _ hc)) b hb

/-- **The runs do not depend on how the stream is cut into reads**: once `ReadPrintableBytes` calls
have brought a control byte (or the end of the stream) to the front, the texts returned concatenate
to the printable prefix of the byte stream, whatever the script and the width limits. -/
theorem runs_text (cw : Nat → Nat) (calls : List Call) (r : Rdr) (h : r.wf) (ha : allRuns calls)
    (hd : ∀ b, (runCalls cw r calls).1.pending.head? = some b → isPrintableByte b = false) :
    (runCalls cw r calls).2 = r.pending.takeWhile isPrintableByte := by
  rw [← (calls_conservation cw calls r h).1, List.takeWhile_append_of_pos (runs_printable cw calls r h ha)]
  cases hp : (runCalls cw r calls).1.pending with
  | nil => simp
  | cons b v => rw [List.takeWhile_cons_of_neg (by simp [hd b (by rw [hp]; rfl)]), List.append_nil]

/-- two readers over the same byte stream, cut into reads in two different ways -/
theorem runs_independent (cw : Nat → Nat) (c1 c2 : List Call) (r1 r2 : Rdr) (h1 : r1.wf) (h2 : r2.wf)
    (hs : r1.pending = r2.pending) (ha1 : allRuns c1) (ha2 : allRuns c2)
    (hd1 : ∀ b, (runCalls cw r1 c1).1.pending.head? = some b → isPrintableByte b = false)
    (hd2 : ∀ b, (runCalls cw r2 c2).1.pending.head? = some b → isPrintableByte b = false) :
    (runCalls cw r1 c1).2 = (runCalls cw r2 c2).2 := by
  rw [runs_text cw c1 r1 h1 ha1 hd1, runs_text cw c2 r2 h2 ha2 hd2, hs]

/-! ## what every function of the reader keeps; the capacity -/

/-- A property of the reader's state kept by the two things the reader ever does to its state:
    `fill` is one `fill()`, `consume` is `start += c` (so `I` does not look at `buf.start`). Every
    function of the reader then keeps it (`Kept.step` … `Kept.calls`). Instances: `CapOK` below,
    `C03SpanFeed.NoErr`. -/
structure Kept (I : Rdr → Prop) : Prop where
  fill : ∀ {r : Rdr}, r.wf → I r → I r.fill.1
  consume : ∀ {r : Rdr} (c : Nat), I r → I { r with buf := r.buf.consume c }

/-- `res` has the property, and an error reported with it is that of a `fill()` from a state that has
    it (what `NoErr` needs: on such a state `fill()` fails only at the end of the script) -/
def Kept.Post (I : Rdr → Prop) (res : Rdr) (err : Bool) : Prop :=
  I res ∧ (err = true → ∃ rl : Rdr, rl.wf ∧ I rl ∧ rl.fill = (res, true))

theorem Kept.step {I : Rdr → Prop} (hK : Kept I) (cw : Nat → Nat) (maxW : Nat) {r : Rdr} {rs wu : Nat}
    (h : r.wf) (hI : I r) :
    (stepOf cw maxW r rs wu).All (fun res => Kept.Post I res.1 res.2.err) fun r' _ _ => I r' := by
  have hf := hK.fill h hI
  have ht := stepOf_to cw maxW r rs wu
  generalize stepOf cw maxW r rs wu = st at ht ⊢
  cases ht with
  | finish => unfold Rdr.finish; split <;> exact ⟨hI, nofun⟩
  | fillErr _ he => exact ⟨hf, fun _ => ⟨r, h, hI, Prod.ext rfl he⟩⟩
  | fillEnd => exact ⟨hf, nofun⟩
  | refill => exact hf
  | consume c => exact hK.consume c hI

theorem Kept.waitData {I : Rdr → Prop} (hK : Kept I) : ∀ (fuel : Nat) (r : Rdr), r.wf → I r →
    Kept.Post I (Rdr.waitData fuel r).1 (Rdr.waitData fuel r).2 := by
  intro fuel
  induction fuel with
  | zero => intro r _ hI; exact ⟨hI, nofun⟩
  | succ f ih =>
    intro r h hI
    rw [waitData_succ]
    split
    · exact ⟨hI, nofun⟩
    · split
      · rename_i hc; exact ⟨hK.fill h hI, fun _ => ⟨r, h, hI, Prod.ext rfl hc.1⟩⟩
      · exact ih _ (rdr_fill_conserves r h).2 (hK.fill h hI)

theorem Kept.readPrintable {I : Rdr → Prop} (hK : Kept I) (cw : Nat → Nat) (r : Rdr) (maxW : Nat) (h : r.wf)
    (hI : I r) : Kept.Post I (r.readPrintable cw maxW).1 (r.readPrintable cw maxW).2.err := by
  have hw := hK.waitData r.fuel r h hI
  rw [readPrintable_eq]
  split
  · rename_i he; exact ⟨hw.1, fun _ => hw.2 he⟩
  · split
    · exact ⟨hw.1, nofun⟩
    · exact runLoop_ind (P := fun res => Kept.Post I res.1 res.2.err) (hK.step cw maxW) _ _ _ _
        (waitData_spec r.fuel r h).1 hw.1 (pot_lt_fuel _)

theorem Kept.readByte {I : Rdr → Prop} (hK : Kept I) (r : Rdr) (h : r.wf) (hI : I r) : I (r.readByte).1 := by
  -- `waitByte` ends in the state in which `waitData` ends
  have hw := (waitByte_waitData r.fuel r).1 ▸ (hK.waitData r.fuel r h hI).1
  rw [readByte_eq]
  split
  · exact hw
  · exact hK.consume 1 hw

theorem Kept.calls {I : Rdr → Prop} (hK : Kept I) (cw : Nat → Nat) : ∀ (calls : List Call) (r : Rdr), r.wf →
    I r → I (runCalls cw r calls).1 := by
  intro calls
  induction calls with
  | nil => intro r _ hI; exact hI
  | cons c cs ih =>
    intro r h hI
    cases c with
    | byte =>
      simp only [runCalls]
      refine ih _ ?_ (hK.readByte r h hI)
      rcases hr : r.readByte with ⟨r1, ob⟩
      cases ob with
      | none => exact (readByte_none r r1 h hr).2.1
      | some b => exact (readByte_some r r1 b h hr).2
    | run m =>
      simp only [runCalls]
      exact ih _ (readPrintable_conservation cw r m h).2 (hK.readPrintable cw r m h hI).1

def CapOK (r : Rdr) : Prop := r.buf.data = [] ∨ ∃ k, r.buf.data.length = 4096 * 2 ^ k

theorem capOK_fill (r : Rdr) (h : r.wf) (hc : CapOK r) : CapOK (r.fill).1 :=
  Or.inr (rdr_fill_capacity_pow r h hc)

theorem kept_capOK : Kept CapOK := ⟨fun h hc => capOK_fill _ h hc, fun _ hc => hc⟩

/-- **The capacity stays `4096 * 2^k`** through `ReadPrintableBytes` and `ReadByte`. -/
theorem readPrintable_capacity (cw : Nat → Nat) (r : Rdr) (maxW : Nat) (h : r.wf) (hc : CapOK r) :
    CapOK (r.readPrintable cw maxW).1 :=
  (kept_capOK.readPrintable cw r maxW h hc).1

theorem readByte_capacity (r : Rdr) (h : r.wf) (hc : CapOK r) : CapOK (r.readByte).1 :=
  kept_capOK.readByte r h hc

/-- so every reader reached from `Rdr.init` by any sequence of calls has such a capacity -/
theorem calls_capacity (cw : Nat → Nat) : ∀ (calls : List Call) (r : Rdr), r.wf → CapOK r →
    CapOK (runCalls cw r calls).1 :=
  kept_capOK.calls cw

/-! ## non-vacuity -/
section Examples

/-- width 2 from U+1100 on -/
def cw0 : Nat → Nat := fun c => if c ≥ 0x1100 then 2 else 1

/-- `a`, then U+4E2D cut after its first byte by the end of the first read, then LF -/
def cut1 : Rdr := Rdr.init [([0x61, 0xE4], false), ([0xB8, 0xAD, 0x0A], false)]
/-- the stream of `cut1` cut differently: inside the character twice, and before the LF -/
def cut3 : Rdr := Rdr.init [([0x61, 0xE4, 0xB8], false), ([], false), ([0xAD], false), ([0x0A], true)]
/-- another stream, with the cut character first -/
def cut2 : Rdr := Rdr.init [([0xE4], false), ([0xB8, 0xAD, 0x61, 0x0A], false)]

example : cut1.wf ∧ cut2.wf := ⟨(init_wf _).1, (init_wf _).1⟩

set_option maxRecDepth 100000 in
/-- a character cut by the end of a read is not handed out in pieces: the first call returns the
`a` before it (the loop does not refill in the middle of a run), the second call refills and
returns the whole character, width 2; then the control byte is next -/
example : (cut1.readPrintable cw0 0).2 = ⟨[0x61], 1, false⟩ ∧
    ((cut1.readPrintable cw0 0).1.readPrintable cw0 0).2 = ⟨[0xE4, 0xB8, 0xAD], 2, false⟩ ∧
    (runCalls cw0 cut1 [.run 0, .run 0, .run 0, .byte, .byte]).2 = [0x61, 0xE4, 0xB8, 0xAD, 0x0A] ∧
    (runCalls cw0 cut1 [.run 0, .run 0, .run 0, .byte, .byte]).1.pending = [] := by
  decide +kernel

set_option maxRecDepth 100000 in
/-- with the cut character first, one call returns `中a`, width 3 (the run starts with a refill) -/
example : (cut2.readPrintable cw0 0).2 = ⟨[0xE4, 0xB8, 0xAD, 0x61], 3, false⟩ ∧
    (cut2.readPrintable cw0 0).1.pending = [0x0A] := by
  decide +kernel

set_option maxRecDepth 100000 in
/-- the two ways of cutting the stream give the same concatenation (`runs_independent`), its
hypotheses hold here -/
example : (runCalls cw0 cut1 [.run 0, .run 0]).2 = (runCalls cw0 cut3 [.run 1, .run 1]).2 ∧
    cut1.pending = cut3.pending ∧ cut3.wf ∧
    (runCalls cw0 cut1 [.run 0, .run 0]).1.pending.head? = some 0x0A ∧
    (runCalls cw0 cut3 [.run 1, .run 1]).1.pending.head? = some 0x0A ∧ isPrintableByte 0x0A = false :=
  ⟨by decide +kernel, by decide +kernel, (init_wf _).1, by decide +kernel, by decide +kernel, by decide +kernel⟩

set_option maxRecDepth 100000 in
/-- the width limit: `中a` with limit 2 is returned in two runs; a limit of 1 still returns the
wide character alone -/
example : (cut2.readPrintable cw0 2).2 = ⟨[0xE4, 0xB8, 0xAD], 2, false⟩ ∧
    (cut2.readPrintable cw0 1).2 = ⟨[0xE4, 0xB8, 0xAD], 2, false⟩ := by
  decide +kernel

set_option maxRecDepth 100000 in
/-- errors: data that comes with an error is handed out first; an error without data is
reported; the scripted source goes on after it -/
example : ((Rdr.init [([0x61], true)]).readPrintable cw0 0).2 = ⟨[0x61], 1, false⟩ ∧
    ((Rdr.init [([], false), ([], true), ([0x62], false)]).readPrintable cw0 0).2 = ⟨[], 0, true⟩ ∧
    ((Rdr.init [([], false), ([], true), ([0x62], false)]).readPrintable cw0 0).1.pending = [0x62] ∧
    ((Rdr.init [([], false), ([], true), ([0x62], false)]).readByte).2 = none ∧
    ((Rdr.init [([], false), ([0x62], true)]).readByte).2 = some 0x62 ∧
    ((Rdr.init []).readByte).2 = none := by
  decide +kernel

set_option maxRecDepth 100000 in
/-- an error while the buffer holds the beginning of a character: reported, nothing lost -/
example : ((Rdr.init [([0xE4], false), ([], true)]).readPrintable cw0 0).2 = ⟨[], 0, true⟩ ∧
    ((Rdr.init [([0xE4], false), ([], true)]).readPrintable cw0 0).1.pending = [0xE4] := by
  decide +kernel

set_option maxRecDepth 100000 in
/-- `truncated_1`: the text is NOT always a sequence of characters on its own (`textOK` fails):
`E4` followed by a control byte is a complete (invalid) character for `utf8.FullRune`, of the
width of U+FFFD, but alone it is an incomplete character -/
example : ((Rdr.init [([0xE4, 0x0A], false)]).readPrintable cw0 0).2 = ⟨[0xE4], 2, false⟩ ∧
    clusters cw0 [0xE4] = [] ∧ textOK cw0 [0xE4] 2 = false := by
  decide +kernel

set_option maxRecDepth 100000 in
/-- `truncated_2`: the same in the middle of a printable stream, by the width limit -/
example : ((Rdr.init [([0xF0, 0x90, 0x41], false)]).readPrintable cw0 2).2 = ⟨[0xF0], 2, false⟩ ∧
    textOK cw0 [0xF0] 2 = false := by
  decide +kernel

/-- the hypothesis of `readPrintable_textWF` holds for a valid UTF-8 stream -/
example : Toks cw0 (clusters cw0 cut1.pending) := by
  intro p hp
  have : clusters cw0 cut1.pending = [([0x61], 1), ([0xE4, 0xB8, 0xAD], 2), ([0x0A], 1)] := by decide
  rw [this] at hp
  simp only [List.mem_cons, List.not_mem_nil, or_false] at hp
  rcases hp with rfl | rfl | rfl <;> decide

set_option maxRecDepth 100000 in
/-- a partial take: a read offering more than the free space leaves the rest, with its flag,
first in the script and reports no error yet -/
example : ((Rdr.init [(List.replicate 5000 0x61, true)]).fill).2 = false ∧
    ((Rdr.init [(List.replicate 5000 0x61, true)]).fill).1.src = [(List.replicate 904 0x61, true)] ∧
    ((Rdr.init [(List.replicate 5000 0x61, true)]).fill).1.buffered = 4096 := by
  decide +kernel

end Examples

end TM.C16Reader

#print axioms TM.C16Reader.init_wf
#print axioms TM.C16Reader.rdr_fill_conserves
#print axioms TM.C16Reader.rdr_fill_appends
#print axioms TM.C16Reader.rdr_fill_error_no_data
#print axioms TM.C16Reader.rdr_fill_capacity
#print axioms TM.C16Reader.rdr_fill_capacity_pow
#print axioms TM.C16Reader.readByte_some
#print axioms TM.C16Reader.readByte_none
#print axioms TM.C16Reader.readPrintable_conservation
#print axioms TM.C16Reader.readPrintable_printable
#print axioms TM.C16Reader.readPrintable_whole_characters
#print axioms TM.C16Reader.readPrintable_textWF
#print axioms TM.C16Reader.readPrintable_width_limit
#print axioms TM.C16Reader.readPrintable_error
#print axioms TM.C16Reader.readPrintable_maximal
#print axioms TM.C16Reader.readPrintable_progress
#print axioms TM.C16Reader.pot_lt_fuel
#print axioms TM.C16Reader.runLoop_fuel
#print axioms TM.C16Reader.waitData_fuel
#print axioms TM.C16Reader.waitByte_fuel
#print axioms TM.C16Reader.waitData_ends
#print axioms TM.C16Reader.calls_conservation
#print axioms TM.C16Reader.calls_prefix
#print axioms TM.C16Reader.runs_printable
#print axioms TM.C16Reader.runs_text
#print axioms TM.C16Reader.runs_independent
#print axioms TM.C16Reader.readPrintable_capacity
#print axioms TM.C16Reader.readByte_capacity
#print axioms TM.C16Reader.calls_capacity
