import Props.C20Grid
import Props.C11
import TM.Ansi
/-!
# C20GridAnsi — what the grid buffer's `Line` and `ANSILine` read

`GCell.abs` (`TM/GridScreen.lean`) ignores the rune array `ch` (`chars[y][x]`), and `Line(y)` and
`renderLineANSI(y)` read exactly that array (`GRow.line`, `GRow.ansi`). A row's rune array is
consistent when every continuation cell holds rune 0 and every other cell the rune whose encoding
is its text (`GCell.okCh`).

* On such a row `ANSILine` is the cell-level rendering byte for byte (`ansi_eq_renderRowANSI`), so
  the round trip `C11.row_roundtrip` applies to the bytes the grid itself renders
  (`grid_ansi_roundtrip`); `Line` is the texts of the cells with one blank per continuation cell
  (`line_eq_cells`).
* Every operation keeps the rune arrays consistent, with no hypothesis on the shape of the row or
  screen, since `okCh` does not look at the style and holds of the cells the buffer writes
  (`closed_okCh`): rows (`row_ops_okCh`; `writeRune` for a rune that is not 0), screens (`GScr.chOK`),
  the terminal (`apply_chOK` for tokens whose text does not decode to 0: the part of
  `C20Grid.apply_leaf` that needs no invariant; `term_resize_chOK`), and every byte stream
  (`stream_chOK`).
* `stream_ansi_line`: after every byte stream, `ANSILine(y)` and `Line(y)` of both grid buffers are
  the rendering and the texts of row `y` of the model terminal.
* Examples: a row with a wide character and two attribute stretches; the hypotheses are needed.
-/
namespace TM.C20GridAnsi
open TM TM.C20Grid

/-! ## `ANSILine` reads the rune array: it is the cell-level rendering -/

theorem okCh_cont {c : GCell} (h : c.okCh = true) (hc : c.cont = true) : c.ch = 0 := by
  unfold GCell.okCh at h
  rw [if_pos hc] at h
  exact eq_of_beq h

theorem okCh_ch {c : GCell} (h : c.okCh = true) (hc : c.cont = false) :
    encodeRune c.ch = c.text ∧ c.ch ≠ 0 := by
  unfold GCell.okCh at h
  rw [if_neg (by simp [hc])] at h
  rw [Bool.and_eq_true] at h
  exact ⟨eq_of_beq h.1, by simpa using h.2⟩

/-- `d` is what the accessor writes for rune 0: nothing in `ANSILine`, one blank in `Line` -/
theorem cell_ansi_text {c : GCell} (h : c.okCh = true) (d : Bytes) :
    (if c.ch = 0 then d else encodeRune c.ch) =
      (match c.abs.g with | .ch t _ => t | .cont => d) := by
  cases hc : c.cont
  · obtain ⟨h1, h2⟩ := okCh_ch h hc
    rw [abs_of_not_cont hc, if_neg h2, h1]
  · rw [abs_of_cont hc, if_pos (okCh_cont h hc)]

theorem ansiAux_eq_renderCells : ∀ (r : GRow) (prev : Option Style), r.all GCell.okCh = true →
    GRow.ansiAux prev r = renderCells prev (r.map GCell.abs) := by
  intro r
  induction r with
  | nil => intro prev _; rfl
  | cons c rest ih =>
    intro prev h
    rw [List.all_cons, Bool.and_eq_true] at h
    show (if prev = some c.sty then [] else c.sty.ansiEscape) ++
        (if c.ch = 0 then [] else encodeRune c.ch) ++ GRow.ansiAux (some c.sty) rest =
      (if prev = some c.abs.sty then [] else c.abs.sty.ansiEscape) ++
        (match c.abs.g with | .ch t _ => t | .cont => []) ++
        renderCells (some c.abs.sty) (rest.map GCell.abs)
    rw [cell_abs_sty, cell_ansi_text h.1, ih _ h.2]

/-- on a row whose rune array agrees with its text array, the grid buffer's `ANSILine`
    (`renderLineANSI` of `screen_grid.go`, reading `chars`) is the cell-level rendering of the
    cells it shows, byte for byte -/
theorem ansi_eq_renderRowANSI {r : GRow} (h : r.all GCell.okCh = true) :
    GRow.ansi r = renderRowANSI (r.map GCell.abs) :=
  ansiAux_eq_renderCells r none h

/-- hence `C11.row_roundtrip` applies to the grid buffer's own `ANSILine`: `CUP(y,1)`
    followed by the bytes the grid renders for a row, fed to a fresh terminal of the same size,
    reproduces the cells of that row (hypotheses of `row_roundtrip` on the cells shown) -/
theorem grid_ansi_roundtrip (cw : Nat → Nat) (pol : WidePolicy) (w h y : Nat) (r : GRow)
    (hch : r.all GCell.okCh = true)
    (hy : y < h) (hmax : y < paramMax) (hlen : r.length = w) (hr : C11.RowOK cw (r.map GCell.abs)) :
    (run cw (Term.init pol w h) (cupRow y ++ GRow.ansi r)).1.main.row y = r.map GCell.abs := by
  rw [ansi_eq_renderRowANSI hch]
  exact C11.row_roundtrip cw pol w h y (r.map GCell.abs) hy hmax (by rw [List.length_map]; exact hlen) hr

/-! ## `Line` reads the rune array: the texts, one blank per continuation cell -/

/-- `Line(y)` of the grid buffer is the texts of the character cells, every continuation
    cell shown as one blank -/
theorem line_eq_cells {r : GRow} (h : r.all GCell.okCh = true) :
    GRow.line r = (r.map GCell.abs).flatMap fun c => match c.g with
      | .ch t _ => t | .cont => [0x20] := by
  induction r with
  | nil => rfl
  | cons c rest ih =>
    rw [List.all_cons, Bool.and_eq_true] at h
    show (if c.ch = 0 then [0x20] else encodeRune c.ch) ++ GRow.line rest = _
    rw [List.map_cons, List.flatMap_cons, ← ih h.2, cell_ansi_text h.1]

/-! ## the rune array stays consistent -/

/-! ### row level: `okCh` is a `C20Grid.CellClosed` predicate -/

theorem okCh_gBlank (st : Style) : (gBlank st).okCh = true := rfl

theorem okCh_gCont (st : Style) : (gCont st).okCh = true := rfl

theorem okCh_gHead {rune : Nat} (h : rune ≠ 0) (w : Nat) (st : Style) : (gHead rune w st).okCh = true := by
  show (if false = true then _ else encodeRune rune == encodeRune rune && rune != 0) = true
  simp [h]

theorem closed_okCh : CellClosed (fun c => c.okCh = true) := ⟨fun _ h => h, okCh_gBlank, okCh_gCont⟩

/-- the row operations of `TM/GridScreen.lean` as Boolean checks: from a row
    with `r.all GCell.okCh`, every one of them yields a row with `all GCell.okCh` — no hypothesis on
    the shape of the row, the columns or the counts; `writeRune` for a rune that is not 0 -/
theorem row_ops_okCh {r : GRow} (h : r.all GCell.okCh = true) (st : Style) :
    (∀ x, (r.clearWideAt x st).all GCell.okCh = true) ∧
    (∀ x n, (r.writeBlanks x n st).all GCell.okCh = true) ∧
    (∀ x rune w, rune ≠ 0 → (r.writeRune x rune w st).all GCell.okCh = true) ∧
    (∀ x n, (r.deleteChars x n st).all GCell.okCh = true) ∧
    (∀ w, (r.resize w st).all GCell.okCh = true) ∧
    (∀ w, (gBlankRow w st).all GCell.okCh = true) := by
  have h' := List.all_eq_true.1 h
  exact ⟨fun x => List.all_eq_true.2 (closed_okCh.clearWideAt h' x st),
    fun x n => List.all_eq_true.2 (closed_okCh.writeBlanks h' x n st),
    fun x _ _ hr => List.all_eq_true.2 (closed_okCh.writeRune h' x st (okCh_gHead hr _ st)),
    fun x n => List.all_eq_true.2 (closed_okCh.deleteChars h' x n st),
    fun w => List.all_eq_true.2 (closed_okCh.resize h' w st),
    fun w => List.all_eq_true.2 (closed_okCh.blankRow w st)⟩

/-! ### screen level: `C20Grid.Cells` at `closed_okCh` -/

def _root_.TM.GScr.chOK (s : GScr) : Bool := s.rows.all fun r => r.all GCell.okCh

theorem chOK_iff {s : GScr} : s.chOK = true ↔ Cells (fun c => c.okCh = true) s := by
  unfold GScr.chOK Cells
  rw [List.all_eq_true]
  exact forall_congr' fun r => imp_congr_right fun _ => List.all_eq_true

theorem row_chOK {s : GScr} (h : s.chOK = true) (y : Nat) : (s.row y).all GCell.okCh = true :=
  List.all_eq_true.2 ((chOK_iff.1 h).row y)

theorem chOK_of_rows {s s' : GScr} (h : s.chOK = true) (e : s'.rows = s.rows) : s'.chOK = true :=
  chOK_iff.2 ((chOK_iff.1 h).of_rows e)

/-- the head cells `put` may store for a text that does not decode to 0 (U+FFFD, written when the
    character is wider than the screen, is not 0) -/
theorem okCh_heads {text : Bytes} (ht : (decodeRune text).1 ≠ 0) (rune : Nat)
    (hr : rune = 0xFFFD ∨ rune = (decodeRune text).1) (w : Nat) (st : Style) :
    (gHead rune (max w 1) st).okCh = true := by
  refine okCh_gHead ?_ _ st
  rcases hr with rfl | rfl
  · decide
  · exact ht

/-- `put` (the single-rune path of `writeTokens`) keeps every rune array consistent when
    the rune the token decodes to is not 0 -/
theorem put_chOK {s : GScr} (h : s.chOK = true) {text : Bytes} (ht : (decodeRune text).1 ≠ 0) (w0 : Nat) :
    (s.put text w0).chOK = true :=
  chOK_iff.2 ((chOK_iff.1 h).put closed_okCh text w0 (okCh_heads ht))

/-! ### terminal level -/

def TermOK (t : GTerm) : Prop := t.main.chOK = true ∧ t.alt.chOK = true

/-- what a token must satisfy: the rune a text token decodes to is not 0 -/
def TokNZ : Tok → Prop
  | .text stored _ => (decodeRune stored).1 ≠ 0
  | _ => True

theorem scr_ok {t : GTerm} (h : TermOK t) : t.scr.chOK = true := by
  unfold GTerm.scr; split
  · exact h.2
  · exact h.1

theorem setVFlag_ok {t : GTerm} (h : TermOK t) (i : Nat) (v : Bool) : TermOK (t.setVFlag i v).1 := h
theorem setVInt_ok {t : GTerm} (h : TermOK t) (i : Nat) (v : Int) : TermOK (t.setVInt i v).1 := h
theorem setVStr_ok {t : GTerm} (h : TermOK t) (i : Nat) (v : Bytes) : TermOK (t.setVStr i v).1 := h

theorem switchScreen_ok {t : GTerm} (h : TermOK t) (v : Bool) : TermOK (t.switchScreen v).1 := by
  unfold GTerm.switchScreen; split <;> exact h

/-- one token keeps both buffers' rune arrays consistent: `C20Grid.apply_leaf` at `closed_okCh` -/
theorem apply_chOK (cw : Nat → Nat) {t : GTerm} (h : TermOK t) {tok : Tok} (htok : TokNZ tok) :
    TermOK (t.apply cw tok).1 := by
  have hh : Heads (fun c => c.okCh = true) tok := by
    cases tok with
    | text stored cp => exact okCh_heads htok
    | _ => trivial
  obtain ⟨a, b⟩ := (apply_leaf closed_okCh cw t tok).2 hh ⟨chOK_iff.1 h.1, chOK_iff.1 h.2⟩
  exact ⟨chOK_iff.2 a, chOK_iff.2 b⟩

theorem term_resize_chOK {t : GTerm} (h : TermOK t) (w hh : Nat) : TermOK (t.resize w hh).1 :=
  ⟨chOK_iff.2 ((chOK_iff.1 h.1).resize closed_okCh w hh),
    chOK_iff.2 ((chOK_iff.1 h.2).resize closed_okCh w hh)⟩

/-! ### token lists and byte streams -/

theorem init_termOK (w h : Nat) : TermOK (GTerm.init w h) :=
  ⟨chOK_iff.2 (Cells.init closed_okCh w h), chOK_iff.2 (Cells.init closed_okCh w h)⟩

theorem run_chOK_from (cw : Nat → Nat) (toks : List Tok) {t : GTerm} (h : TermOK t)
    (hok : ∀ tok ∈ toks, TokNZ tok) : TermOK (gStateAfter cw t toks) :=
  foldl_inv (I := TermOK) (P := TokNZ) (fun _ _ h htok => apply_chOK cw h htok) h hok

/-- every token the tokeniser yields decodes to a rune that is not 0 (a printable scalar ≥ 32) -/
theorem tokNZ_of_tokOK {tok : Tok} (h : C11M.TokOK tok) : TokNZ tok := by
  cases tok with
  | text stored cp =>
    obtain ⟨hv, h32, _, rfl⟩ := h
    show (decodeRune (encodeRune cp)).1 ≠ 0
    rw [TM.decodeRune_encodeRune_self cp hv]
    show cp ≠ 0
    omega
  | ctl _ => trivial
  | esc _ _ => trivial
  | csi _ _ _ _ => trivial
  | osc _ _ _ => trivial
  | dcs => trivial

/-- for every byte stream, size and width function: both buffers of the array-level terminal have
    consistent rune arrays after the stream -/
theorem stream_chOK (cw : Nat → Nat) (w h : Nat) (bs : Bytes) :
    TermOK (gStateAfter cw (GTerm.init w h) (C10.toksOf bs)) :=
  run_chOK_from cw _ (init_termOK w h)
    (fun tok hk => tokNZ_of_tokOK (C11M.Lemmas.toksFuel_tokOK _ bs tok hk))

/-- for every byte stream, on both buffers and every row `y < h`: the grid buffer's
    `ANSILine(y)` (read from the rune array) is the cell-level rendering of row `y` of the model
    terminal after the stream, byte for byte, and its `Line(y)` is the texts of that row's cells
    with one blank per continuation cell -/
theorem stream_ansi_line (cw : Nat → Nat) {w h : Nat} (hw : 1 ≤ w) (hh : 1 ≤ h) (bs : Bytes) :
    let S := gStateAfter cw (GTerm.init w h) (C10.toksOf bs)
    let T := (run cw (Term.init .blank w h) bs).1
    ∀ y, y < h →
      GRow.ansi (S.main.row y) = renderRowANSI (T.main.row y) ∧
      GRow.ansi (S.alt.row y) = renderRowANSI (T.alt.row y) ∧
      GRow.line (S.main.row y) = (T.main.row y).flatMap (fun c => match c.g with
        | .ch t _ => t | .cont => [0x20]) ∧
      GRow.line (S.alt.row y) = (T.alt.row y).flatMap (fun c => match c.g with
        | .ch t _ => t | .cont => [0x20]) := by
  intro S T y hy
  obtain ⟨_, _, _, _, _, _, _, hrows⟩ := stream_rows cw hw hh bs
  obtain ⟨_, e1, _, e2⟩ := hrows y hy
  have hok : TermOK S := stream_chOK cw w h bs
  have m := row_chOK hok.1 y
  have a := row_chOK hok.2 y
  change T.main.row y = (S.main.row y).map GCell.abs at e1
  change T.alt.row y = (S.alt.row y).map GCell.abs at e2
  rw [e1, e2]
  exact ⟨ansi_eq_renderRowANSI m, ansi_eq_renderRowANSI a, line_eq_cells m, line_eq_cells a⟩

/-! ## non-vacuity -/

section nonvacuity
open TM.C11.Examples (boldRedOn200 fancy)

/-- `A`, `世` (two cells) in bold red on 200, `b` in another rendition: a wide character and two
    attribute stretches; its cells are the row of `C11.Examples` -/
def exG : GRow :=
  [⟨0x41, [0x41], 1, false, boldRedOn200⟩, ⟨0x4E16, [0xE4, 0xB8, 0x96], 2, false, boldRedOn200⟩,
   ⟨0, [], 0, true, boldRedOn200⟩, ⟨0x62, [0x62], 1, false, fancy⟩]

example : exG.all GCell.okCh = true := by decide
example : exG.map GCell.abs = C11.Examples.row := by decide
example : GRow.line exG = [0x41, 0xE4, 0xB8, 0x96, 0x20, 0x62] := by decide
example : GRow.ansi exG = renderRowANSI C11.Examples.row := ansi_eq_renderRowANSI (r := exG) (by decide)
example : GRow.ansi exG = boldRedOn200.ansiEscape ++ [0x41, 0xE4, 0xB8, 0x96] ++ fancy.ansiEscape ++ [0x62] := by
  decide +kernel

/-- the hypotheses of `grid_ansi_roundtrip` hold for this row on a 4 × 3 screen, row 1 -/
example (pol : WidePolicy) :
    (run C11.Examples.cw (Term.init pol 4 3) (cupRow 1 ++ GRow.ansi exG)).1.main.row 1 = exG.map GCell.abs :=
  grid_ansi_roundtrip C11.Examples.cw pol 4 3 1 exG (by decide) (by decide) (by decide) rfl C11.Examples.rowOK

/-- the consistency of the rune array is needed: a continuation cell whose rune is not 0 (never
    stored by the grid buffer) is rendered by the grid's `ANSILine` and `Line`, not by the cells -/
example :
    let bad : GRow := [⟨0x4E16, [0xE4, 0xB8, 0x96], 2, false, Style.default⟩, ⟨0x58, [], 0, true, Style.default⟩]
    bad.all GCell.okCh = false ∧ bad.all GCell.ok = false ∧
    GRow.ansi bad ≠ renderRowANSI (bad.map GCell.abs) ∧
    GRow.line bad = [0xE4, 0xB8, 0x96, 0x58] := by decide

/-- `rune ≠ 0` is needed in `row_ops_okCh`: rune 0 stored in a head cell reads as a blank in
    `Line` and as nothing in `ANSILine`, while the cell holds the text `[0]` -/
example : ((gBlankRow 2 Style.default).writeRune 0 0 1 Style.default).all GCell.okCh = false := by decide

/-- row operations on the example row of `C20Grid` (`a中___`): a write onto the second cell of the
    wide character, an erase ending inside it, DCH cutting it, a resize cutting it -/
example : exRow.all GCell.okCh = true ∧
    (exRow.writeRune 2 0x62 1 Style.default).all GCell.okCh = true ∧
    GRow.line (exRow.writeRune 2 0x62 1 Style.default) = [0x61, 0x20, 0x62, 0x20, 0x20, 0x20] ∧
    GRow.line (exRow.writeBlanks 0 2 Style.default) = [0x20, 0x20, 0x20, 0x20, 0x20, 0x20] ∧
    GRow.line (exRow.deleteChars 2 1 Style.default) = [0x61, 0x20, 0x20, 0x20, 0x20, 0x20] ∧
    GRow.line exRow = [0x61, 0xe4, 0xb8, 0xad, 0x20, 0x20, 0x20, 0x20] := by decide +kernel

/-- the stream of `C20Grid` on a 6 × 3 terminal: both buffers consistent (the theorem) -/
example : TermOK exS := by
  have := stream_chOK TM.C02SpanScreen.cwS 6 3 exBytes
  rwa [toksOf_exBytes] at this
-- … and what the accessors read after it: `Line(0)` = `a_b___`, `Line(1)` = `___中·_` (the
-- continuation cell shown as a blank), `ANSILine(1)` = one escape, three blanks, `中`, one blank
set_option maxRecDepth 100000 in
example : GRow.line (exS.main.row 0) = [0x61, 0x20, 0x62, 0x20, 0x20, 0x20] ∧
    GRow.line (exS.main.row 1) = [0x20, 0x20, 0x20, 0xe4, 0xb8, 0xad, 0x20, 0x20] ∧
    GRow.ansi (exS.main.row 1) = Style.default.ansiEscape ++ [0x20, 0x20, 0x20, 0xe4, 0xb8, 0xad, 0x20] := by
  decide +kernel

end nonvacuity

end TM.C20GridAnsi

#print axioms TM.C20GridAnsi.ansi_eq_renderRowANSI
#print axioms TM.C20GridAnsi.grid_ansi_roundtrip
#print axioms TM.C20GridAnsi.line_eq_cells
#print axioms TM.C20GridAnsi.row_ops_okCh
#print axioms TM.C20GridAnsi.closed_okCh
#print axioms TM.C20GridAnsi.put_chOK
#print axioms TM.C20GridAnsi.apply_chOK
#print axioms TM.C20GridAnsi.term_resize_chOK
#print axioms TM.C20GridAnsi.run_chOK_from
#print axioms TM.C20GridAnsi.tokNZ_of_tokOK
#print axioms TM.C20GridAnsi.stream_chOK
#print axioms TM.C20GridAnsi.stream_ansi_line
