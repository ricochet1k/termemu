import TM.LockFacts
/-!
# C15 — the terminal lock protocol, for every interleaving

Property (fixed text): "Every Frontend callback is invoked with the terminal lock held, so read
accessors are safe inside callbacks and a reader holding the lock never observes a half-applied
update. While the background read loop is consuming input, concurrent use of the documented API
from other goroutines (read accessors under WithLock, Write, SendKey, mouse reports, Resize,
SetTee) is free of data races and deadlocks, and the loop releases the lock whenever it waits
for more input."

The schedule space of the real program lives in the Go runtime. What is proved here is the lock
PROTOCOL of the model `TM/Lock.lean`, for every interleaving:
the abstract interpretation `check` is sound for every finite unfolding `traces n p` of a program
(`check_sound`); a trace it accepts keeps accesses, callbacks and unlocks under the lock and `lock` /
`blockRead` outside it, every access or callback strictly between a `lock` and its matching
`unlock`; the invariant `Inv` — every thread's remaining trace is disciplined from a flag that is
`true` exactly for the holder of the lock — is preserved by EVERY enabled step of EVERY thread,
hence by every schedule, and yields the guarantees collected in `Safe`; the hand-written programs of
the Go entry points pass the check, so any number of goroutines running any finite unfoldings of
them are `Safe` at every reachable state (`entry_points_safe`). The examples at the end show that
the checker rejects the historical defects and that an undisciplined program really reaches a state
violating `callback_under_lock`.

## What is NOT proved here

* That the `Prog`s in `TM/LockFacts.lean` faithfully abstract the Go functions. They are written
  by hand; they are tied to the code only by the dynamic checks of C15 (lock probes inside every
  callback and while the loop waits, and the race detector), not by any proof. (`./check C15`
  also has `tools/lockextract` translate the entry points of the current Go source and lets Lean
  decide `wellLocked` for the result; that translator is trusted in the same way.)
* Anything about the Go memory model or the Go scheduler (the model is sequentially consistent,
  one atomic action per step; `sync.Mutex` is assumed to be a correct mutex).
* The `TTYFrontend`'s second mutex: only ONE lock is modelled, so lock-order acyclicity between
  the terminal lock and the frontend lock is not covered. The `TeeBackend` mutex is likewise
  abstracted into `local`.
* Infinite executions / fairness: traces are finite unfoldings (of every depth), `blockRead` is
  treated as always enabled (arrival of input is up to the environment).

The declarations are in `TM.Lock`, the namespace of the model: the file that `./check C15` generates
from the Go source is in its sub-namespace `TM.Lock.Gen` and states its theorems with `Safe`,
`runSched` and `wellLocked_system_safe` from here.
-/
namespace TM.Lock
open Act Prog

namespace Lemmas

theorem runTrace_append (h : Bool) (t u : List Act) :
    runTrace h (t ++ u) = (runTrace h t).bind fun h' => runTrace h' u := by
  induction t generalizing h with
  | nil => simp [runTrace]
  | cons a t ih =>
    simp only [List.cons_append, runTrace]
    cases actStep h a with
    | none => simp
    | some h1 => simpa using ih h1

theorem runTrace_prefix {h h2 : Bool} {t u : List Act} (H : runTrace h (t ++ u) = some h2) :
    ∃ h1, runTrace h t = some h1 ∧ runTrace h1 u = some h2 := by
  rw [runTrace_append] at H
  cases ht : runTrace h t with
  | none => simp [ht] at H
  | some h1 => exact ⟨h1, rfl, by simpa [ht] using H⟩

theorem runTrace_cons {h h2 : Bool} {a : Act} {t : List Act}
    (H : runTrace h (a :: t) = some h2) :
    ∃ h1, actStep h a = some h1 ∧ runTrace h1 t = some h2 := by
  simp only [runTrace] at H
  cases ha : actStep h a with
  | none => simp [ha] at H
  | some h1 => exact ⟨h1, rfl, by simpa [ha] using H⟩

/-- every trace in `S` keeps to the discipline from the flag `h` and ends with the flag `h'`; the
    rules are those by which `check` computes, one for each way of building a program -/
def Runs (h : Bool) (S : List (List Act)) (h' : Bool) : Prop := ∀ tr ∈ S, runTrace h tr = some h'

theorem Runs.atom {h h' : Bool} {a : Act} (ha : actStep h a = some h') : Runs h [[a]] h' := by
  intro tr htr
  rw [List.mem_singleton.1 htr, runTrace, ha]
  rfl

theorem Runs.nil (h : Bool) : Runs h [[]] h := by
  intro tr htr
  rw [List.mem_singleton.1 htr]
  rfl

theorem Runs.seq {h h1 h2 : Bool} {S T : List (List Act)} (hS : Runs h S h1) (hT : Runs h1 T h2) :
    Runs h (S.flatMap fun t => T.map fun u => t ++ u) h2 := by
  intro tr htr
  obtain ⟨t, ht, u, hu, rfl⟩ := by simpa only [List.mem_flatMap, List.mem_map] using htr
  rw [runTrace_append, hS t ht]
  exact hT u hu

theorem Runs.alt {h h' : Bool} {S T : List (List Act)} (hS : Runs h S h') (hT : Runs h T h') :
    Runs h (S ++ T) h' :=
  fun tr htr => (List.mem_append.1 htr).elim (hS tr) (hT tr)

theorem Runs.star {h : Bool} {S : List (List Act)} (hS : Runs h S h) :
    ∀ k, Runs h (starTraces S k) h
  | 0 => Runs.nil h
  | k + 1 => fun tr htr => by
    rcases List.mem_cons.1 htr with rfl | htr
    · rfl
    · exact hS.seq (Runs.star hS k) tr htr

end Lemmas
open Lemmas

mutual
/-- **Soundness of `check`.** If the abstract interpretation says that `p`, started with the
    flag `held`, respects the discipline and ends with the flag `h`, then EVERY trace of EVERY
    finite unfolding of `p` does so. -/
theorem check_sound : ∀ (p : Prog) (held h : Bool), check p held = some h →
    ∀ n, ∀ tr ∈ traces n p, runTrace held tr = some h
  | .atom a, held, h, hc, n => Runs.atom (by rwa [check] at hc)
  | .seq ps, held, h, hc, n => checkSeq_sound ps held h (by rwa [check] at hc) n
  | .alt ps, held, h, hc, n => checkAlt_sound ps held h (by rwa [check] at hc) n
  | .star p, held, h, hc, n => by
    rw [check] at hc
    split at hc
    · next h1 hp =>
      split at hc
      · next e =>
        cases hc
        subst e
        exact Runs.star (check_sound p _ _ hp n) n
      · cases hc
    · cases hc

theorem checkSeq_sound : ∀ (ps : List Prog) (held h : Bool), checkSeq ps held = some h →
    ∀ n, ∀ tr ∈ tracesSeq n ps, runTrace held tr = some h
  | [], held, h, hc, n => by
    cases hc
    exact Runs.nil held
  | p :: ps, held, h, hc, n => by
    rw [checkSeq] at hc
    split at hc
    · next h1 hp => exact Runs.seq (check_sound p held h1 hp n) (checkSeq_sound ps h1 h hc n)
    · cases hc

theorem checkAlt_sound : ∀ (ps : List Prog) (held h : Bool), checkAlt ps held = some h →
    ∀ n, ∀ tr ∈ tracesAlt n ps, runTrace held tr = some h
  | [], held, h, hc, n => nomatch hc
  | [p], held, h, hc, n => by
    rw [tracesAlt, tracesAlt, List.append_nil]
    exact check_sound p held h (by rwa [checkAlt] at hc) n
  | p :: q :: ps, held, h, hc, n => by
    rw [checkAlt] at hc
    · split at hc
      · next h1 h2 hp hq =>
        split at hc
        · next e =>
          cases hc
          subst e
          exact Runs.alt (check_sound p held _ hp n) (checkAlt_sound (q :: ps) held _ hq n)
        · cases hc
      · cases hc
    · simp
end

/-- an entry point that passes the check only has disciplined traces, at every unfolding depth -/
theorem wellLocked_traces {p : Prog} (hp : wellLocked p = true) :
    ∀ n, ∀ tr ∈ traces n p, runTrace false tr = some false := by
  have : check p false = some false := by simpa [wellLocked] using hp
  exact check_sound p false false this

/-- same for bodies documented "caller must hold the lock" (accessors, callback bodies) -/
theorem wellLockedHeld_traces {p : Prog} (hp : wellLockedHeld p = true) :
    ∀ n, ∀ tr ∈ traces n p, runTrace true tr = some true := by
  have : check p true = some true := by simpa [wellLockedHeld] using hp
  exact check_sound p true true this

def needsLock : Act → Bool
  | .access | .callback | .unlock => true
  | _ => false

def needsUnlocked : Act → Bool
  | .lock | .blockRead => true
  | _ => false

theorem actStep_needsLock {h h' : Bool} {a : Act} (H : actStep h a = some h')
    (ha : needsLock a = true) : h = true := by
  cases a <;> cases h <;> simp_all [actStep, needsLock]

theorem actStep_needsUnlocked {h h' : Bool} {a : Act} (H : actStep h a = some h')
    (ha : needsUnlocked a = true) : h = false := by
  cases a <;> cases h <;> simp_all [actStep, needsUnlocked]

/-- **Discipline at every position.** In a disciplined trace (from any flag `h0` to any flag
    `h1`), at every split `tr = pre ++ a :: post` the prefix is itself disciplined and the flag
    `h` it computes is `true` when `a` is an access, a callback or an unlock, and `false` when
    `a` is a lock or a blocking read; the rest runs on from there. -/
theorem discipline_at_split {h0 h1 : Bool} {tr pre post : List Act} {a : Act}
    (H : runTrace h0 tr = some h1) (hs : tr = pre ++ a :: post) :
    ∃ h h', runTrace h0 pre = some h ∧ actStep h a = some h' ∧ runTrace h' post = some h1 ∧
      (needsLock a = true → h = true) ∧ (needsUnlocked a = true → h = false) := by
  subst hs
  obtain ⟨h, hpre, hrest⟩ := runTrace_prefix H
  obtain ⟨h', ha, hpost⟩ := runTrace_cons hrest
  exact ⟨h, h', hpre, ha, hpost, actStep_needsLock ha, actStep_needsUnlocked ha⟩

theorem discipline_entry {tr pre post : List Act} {a : Act}
    (H : runTrace false tr = some false) (hs : tr = pre ++ a :: post) :
    ∃ h, runTrace false pre = some h ∧
      ((a = .access ∨ a = .callback ∨ a = .unlock) → h = true) ∧
      ((a = .lock ∨ a = .blockRead) → h = false) := by
  obtain ⟨h, _, hpre, _, _, h1, h2⟩ := discipline_at_split H hs
  refine ⟨h, hpre, ?_, ?_⟩
  · rintro (rfl | rfl | rfl) <;> exact h1 rfl
  · rintro (rfl | rfl) <;> exact h2 rfl

theorem actStep_keeps {h h' : Bool} {a : Act} (H : actStep h a = some h') (hl : a ≠ .lock)
    (hu : a ≠ .unlock) : h' = h := by
  cases a <;> cases h <;> simp_all [actStep]

theorem actStep_lock_unlock {h h' : Bool} {a : Act} (H : actStep h a = some h')
    (ha : a = .lock ∨ a = .unlock) : h' = (a == .lock) := by
  rcases ha with rfl | rfl <;> cases h <;> simp_all [actStep]

/-- **The flag is decided by the last lock operation.** After a disciplined run the flag is the
    initial one if the run has no `lock`/`unlock`; otherwise the run ends with a `lock` (flag
    `true`) or an `unlock` (flag `false`) followed by actions that are neither. -/
theorem last_lock_op {h0 h1 : Bool} {tr : List Act} (H : runTrace h0 tr = some h1) :
    (h0 = h1 ∧ Act.lock ∉ tr ∧ Act.unlock ∉ tr) ∨
    ∃ p1 p2, tr = p1 ++ (if h1 then Act.lock else Act.unlock) :: p2 ∧
      Act.lock ∉ p2 ∧ Act.unlock ∉ p2 := by
  induction tr generalizing h0 with
  | nil => left; simpa [runTrace] using H
  | cons a rest ih =>
    obtain ⟨h', ha, hrest⟩ := runTrace_cons H
    rcases ih hrest with ⟨e, hl, hu⟩ | ⟨p1, p2, e, hl, hu⟩
    · subst e
      by_cases hop : a = .lock ∨ a = .unlock
      · right
        refine ⟨[], rest, ?_, hl, hu⟩
        rw [actStep_lock_unlock ha hop]
        rcases hop with rfl | rfl <;> rfl
      · have hnl : a ≠ .lock := fun e => hop (.inl e)
        have hnu : a ≠ .unlock := fun e => hop (.inr e)
        left
        exact ⟨(actStep_keeps ha hnl hnu).symm, by simp [hl, Ne.symm hnl], by simp [hu, Ne.symm hnu]⟩
    · right; exact ⟨a :: p1, p2, by simp [e], hl, hu⟩

theorem held_has_closing_unlock {post : List Act} (H : runTrace true post = some false) :
    ∃ q1 q2, post = q1 ++ Act.unlock :: q2 ∧
      Act.lock ∉ q1 ∧ Act.unlock ∉ q1 ∧ Act.blockRead ∉ q1 := by
  induction post with
  | nil => simp [runTrace] at H
  | cons a rest ih =>
    obtain ⟨h1, ha, hrest⟩ := runTrace_cons H
    by_cases hu : a = .unlock
    · subst hu; exact ⟨[], rest, rfl, by simp, by simp, by simp⟩
    · have hl : a ≠ .lock := by rintro rfl; simp [actStep] at ha
      have hb : a ≠ .blockRead := by rintro rfl; simp [actStep] at ha
      rw [actStep_keeps ha hl hu] at hrest
      obtain ⟨q1, q2, e, g1, g2, g3⟩ := ih hrest
      exact ⟨a :: q1, q2, by simp [e], by simp [g1, Ne.symm hl], by simp [g2, Ne.symm hu],
        by simp [g3, Ne.symm hb]⟩

/-- **Every access / callback lies strictly between a `lock` and its matching `unlock`.**
    In a disciplined entry-point trace, an `access` or `callback` at any position is preceded by
    a `lock` and followed by an `unlock` with no other `lock`/`unlock` (and no blocking read
    after it) in between: `tr = p1 ++ lock :: p2 ++ a :: q1 ++ unlock :: q2`. -/
theorem access_between_lock_unlock {tr pre post : List Act} {a : Act}
    (H : runTrace false tr = some false) (hs : tr = pre ++ a :: post)
    (ha : a = .access ∨ a = .callback) :
    ∃ p1 p2 q1 q2, pre = p1 ++ Act.lock :: p2 ∧ post = q1 ++ Act.unlock :: q2 ∧
      Act.lock ∉ p2 ∧ Act.unlock ∉ p2 ∧
      Act.lock ∉ q1 ∧ Act.unlock ∉ q1 ∧ Act.blockRead ∉ q1 := by
  obtain ⟨h, h', hpre, hact, hpost, h1, _⟩ := discipline_at_split H hs
  have hh : h = true := by rcases ha with rfl | rfl <;> exact h1 rfl
  subst hh
  have hh' : h' = true := by rcases ha with rfl | rfl <;> simpa [actStep] using hact.symm
  subst hh'
  rcases last_lock_op hpre with ⟨e, _, _⟩ | ⟨p1, p2, e, hl, hu⟩
  · cases e
  · obtain ⟨q1, q2, e', g1, g2, g3⟩ := held_has_closing_unlock hpost
    exact ⟨p1, p2, q1, q2, e, e', hl, hu, g1, g2, g3⟩

/-- a blocking read in a disciplined entry-point trace happens with the lock released: the
    trace before it is disciplined and ends unlocked -/
theorem blockRead_after_unlock {tr pre post : List Act}
    (H : runTrace false tr = some false) (hs : tr = pre ++ Act.blockRead :: post) :
    runTrace false pre = some false := by
  obtain ⟨h, hpre, _, h2⟩ := discipline_entry H hs
  rw [h2 (Or.inr rfl)] at hpre
  exact hpre

/-- a disciplined entry-point trace ends unlocked: it is empty of lock operations, or its last
    lock operation is an `unlock` -/
theorem ends_unlocked {tr : List Act} (H : runTrace false tr = some false) :
    (Act.lock ∉ tr ∧ Act.unlock ∉ tr) ∨
    ∃ p1 p2, tr = p1 ++ Act.unlock :: p2 ∧ Act.lock ∉ p2 ∧ Act.unlock ∉ p2 := by
  rcases last_lock_op H with ⟨_, h⟩ | h
  · exact Or.inl h
  · exact Or.inr h

def nextAct (s : Sys) (i : Nat) : Option Act :=
  match s.threads[i]? with
  | some ⟨a :: _⟩ => some a
  | _ => none

theorem nextAct_eq_some {s : Sys} {i : Nat} {a : Act} :
    nextAct s i = some a ↔ ∃ rest, s.threads[i]? = some ⟨a :: rest⟩ := by
  unfold nextAct
  constructor
  · intro h
    split at h
    · next b rest heq => cases h; exact ⟨rest, heq⟩
    · cases h
  · rintro ⟨rest, hi⟩; rw [hi]

theorem enabled_iff {s : Sys} {i : Nat} :
    enabled s i = true ↔ ∃ a rest, s.threads[i]? = some ⟨a :: rest⟩ ∧ (a = .lock → s.holder = none) := by
  unfold enabled
  constructor
  · intro h
    split at h
    · next rest heq => exact ⟨.lock, rest, heq, fun _ => by simpa using h⟩
    · next a rest hne heq => exact ⟨a, rest, heq, fun e => absurd e hne⟩
    · simp at h
  · rintro ⟨a, rest, hi, hl⟩
    rw [hi]
    cases a with
    | lock => simp [hl rfl]
    | _ => rfl

/-- **The invariant**: the state is consistent with disciplined threads. Every thread `i` has a
    flag `h` from which its REMAINING trace is disciplined and ends unlocked, the flag is `true`
    exactly for the holder of the lock, and the holder is an existing thread. -/
def Inv (s : Sys) : Prop :=
  (∀ i t, s.threads[i]? = some t →
    ∃ h : Bool, runTrace h t.todo = some false ∧ (h = true ↔ s.holder = some i)) ∧
  (∀ j, s.holder = some j → j < s.threads.length)

/-- run a schedule (a list of thread indices): each scheduled thread performs its next action
    if it is enabled; scheduling a thread that is blocked or finished is a stutter step -/
def runSched (s : Sys) : List Nat → Sys
  | [] => s
  | i :: is => if enabled s i = true then runSched (stepSys s i) is else runSched s is

theorem Inv_init (s : Sys) (hh : s.holder = none)
    (ht : ∀ t ∈ s.threads, runTrace false t.todo = some false) : Inv s := by
  refine ⟨?_, ?_⟩
  · intro i t hit
    exact ⟨false, ht t (List.mem_of_getElem? hit), by simp [hh]⟩
  · intro j hj; simp [hh] at hj

def newHolder (s : Sys) (i : Nat) : Act → Option Nat
  | .lock => some i
  | .unlock => none
  | _ => s.holder

theorem stepSys_eq {s : Sys} {i : Nat} {a : Act} {rest : List Act}
    (hi : s.threads[i]? = some ⟨a :: rest⟩) :
    stepSys s i = { threads := s.threads.set i ⟨rest⟩, holder := newHolder s i a } := by
  unfold stepSys; rw [hi]; cases a <;> rfl

def flag (s : Sys) (i : Nat) : Bool := s.holder == some i

theorem flag_eq_true {s : Sys} {i : Nat} : flag s i = true ↔ s.holder = some i := by simp [flag]

theorem Inv.iff_flag {s : Sys} : Inv s ↔
    (∀ i t, s.threads[i]? = some t → runTrace (flag s i) t.todo = some false) ∧
    (∀ j, s.holder = some j → j < s.threads.length) := by
  refine and_congr_left' (forall_congr' fun i => forall_congr' fun t => imp_congr_right fun _ => ?_)
  constructor
  · rintro ⟨h, hr, hi⟩
    rwa [show flag s i = h from Bool.eq_iff_iff.2 (flag_eq_true.trans hi.symm)]
  · exact fun h => ⟨_, h, flag_eq_true⟩

theorem Inv.next {s : Sys} {i : Nat} {a : Act} {rest : List Act} (hI : Inv s)
    (hi : s.threads[i]? = some ⟨a :: rest⟩) :
    ∃ h1, actStep (flag s i) a = some h1 ∧ runTrace h1 rest = some false :=
  runTrace_cons ((Inv.iff_flag.1 hI).1 i _ hi)

/-- the mutex argument: after an allowed step of thread `i` (a `lock` only when the lock is free)
    the flags are again those of the new holder -/
theorem flag_step {s : Sys} {i : Nat} {a : Act} {h1 : Bool} (hact : actStep (flag s i) a = some h1)
    (hlock : a = .lock → s.holder = none) (j : Nat) :
    (newHolder s i a == some j) = if j = i then h1 else flag s j := by
  by_cases hop : a = .lock ∨ a = .unlock
  · rw [actStep_lock_unlock hact hop]
    rcases hop with rfl | rfl
    · -- nobody held the lock, so every other flag is `false`
      split
      · next e => simp [newHolder, e]
      · next ne => simp [newHolder, flag, hlock rfl, Ne.symm ne]
    · -- `i` held the lock, so every other flag is `false`
      have hh := flag_eq_true.1 (actStep_needsLock hact rfl)
      split
      · simp [newHolder]
      · next ne => simp [newHolder, flag, hh, Ne.symm ne]
  · have hN : newHolder s i a = s.holder := by cases a <;> first | rfl | simp at hop
    rw [hN, actStep_keeps hact (fun e => hop (.inl e)) (fun e => hop (.inr e))]
    split
    · next e => rw [e]; rfl
    · rfl

/-- **Preservation**: `Inv` is preserved by EVERY enabled step of EVERY thread -/
theorem Inv_step {s : Sys} {i : Nat} (hI : Inv s) (hen : enabled s i = true) :
    Inv (stepSys s i) := by
  obtain ⟨a, rest, hi, hlock⟩ := enabled_iff.1 hen
  obtain ⟨h1, hact, hrest⟩ := hI.next hi
  have hilt : i < s.threads.length := (List.getElem?_eq_some_iff.mp hi).1
  rw [stepSys_eq hi, Inv.iff_flag]
  refine ⟨fun j t hjt => ?_, fun j hj => ?_⟩
  · show runTrace (newHolder s i a == some j) t.todo = _
    rw [flag_step hact hlock j]
    by_cases hij : j = i
    · subst hij
      rw [List.getElem?_set_self hilt] at hjt
      cases hjt
      rwa [if_pos rfl]
    · rw [List.getElem?_set_ne (Ne.symm hij)] at hjt
      rw [if_neg hij]
      exact (Inv.iff_flag.1 hI).1 j t hjt
  · -- the new holder is `i` or the old one
    rw [List.length_set]
    cases a with
    | lock => cases hj; exact hilt
    | unlock => cases hj
    | _ => exact hI.2 j hj

/-- `Inv` is preserved by every finite schedule, i.e. by every interleaving -/
theorem Inv_runSched {s : Sys} (hI : Inv s) (sched : List Nat) : Inv (runSched s sched) := by
  induction sched generalizing s with
  | nil => exact hI
  | cons i is ih =>
    simp only [runSched]
    split
    · next hen => exact ih (Inv_step hI hen)
    · exact ih hI

/-- the states reachable from `s0` by sequences of enabled steps (the interleavings) -/
inductive Reachable (s0 : Sys) : Sys → Prop
  | init : Reachable s0 s0
  | step {s : Sys} {i : Nat} : Reachable s0 s → enabled s i = true → Reachable s0 (stepSys s i)

theorem runSched_append (s : Sys) (l1 l2 : List Nat) :
    runSched s (l1 ++ l2) = runSched (runSched s l1) l2 := by
  induction l1 generalizing s with
  | nil => rfl
  | cons i is ih => simp only [List.cons_append, runSched]; split <;> exact ih _

theorem Reachable.trans {s0 s1 s2 : Sys} (h1 : Reachable s0 s1) (h2 : Reachable s1 s2) :
    Reachable s0 s2 := by
  induction h2 with
  | init => exact h1
  | step _ hen ih => exact .step ih hen

/-- schedules enumerate exactly the reachable states, so "for every schedule" below means "at
    every state reachable by any interleaving of enabled steps" -/
theorem reachable_iff_runSched {s0 s : Sys} :
    Reachable s0 s ↔ ∃ sched, s = runSched s0 sched := by
  constructor
  · intro h
    induction h with
    | init => exact ⟨[], rfl⟩
    | @step s i _ hen ih =>
      obtain ⟨sched, rfl⟩ := ih
      exact ⟨sched ++ [i], by simp [runSched_append, runSched, hen]⟩
  · rintro ⟨sched, rfl⟩
    induction sched generalizing s0 with
    | nil => exact .init
    | cons i is ih =>
      simp only [runSched]
      split
      · next hen => exact Reachable.trans (.step .init hen) ih
      · exact ih

theorem Inv_reachable {s0 s : Sys} (hI : Inv s0) (hr : Reachable s0 s) : Inv s := by
  induction hr with
  | init => exact hI
  | step _ hen ih => exact Inv_step ih hen

theorem needsLock_holder {s : Sys} {i : Nat} {a : Act} (hI : Inv s)
    (hn : nextAct s i = some a) (ha : needsLock a = true) : s.holder = some i := by
  obtain ⟨rest, hi⟩ := nextAct_eq_some.1 hn
  obtain ⟨h1, hact, _⟩ := hI.next hi
  exact flag_eq_true.1 (actStep_needsLock hact ha)

theorem needsUnlocked_not_holder {s : Sys} {i : Nat} {a : Act} (hI : Inv s)
    (hn : nextAct s i = some a) (ha : needsUnlocked a = true) : s.holder ≠ some i := by
  obtain ⟨rest, hi⟩ := nextAct_eq_some.1 hn
  obtain ⟨h1, hact, _⟩ := hI.next hi
  intro hh
  exact Bool.false_ne_true ((actStep_needsUnlocked hact ha).symm.trans (flag_eq_true.2 hh))

/-- **Callbacks run under the lock**: a thread whose next action is a Frontend callback holds
    the terminal lock -/
theorem callback_under_lock {s : Sys} {i : Nat} (hI : Inv s)
    (hn : nextAct s i = some .callback) : s.holder = some i :=
  needsLock_holder hI hn rfl

/-- **Shared state is touched under the lock only** -/
theorem access_under_lock {s : Sys} {i : Nat} (hI : Inv s)
    (hn : nextAct s i = some .access) : s.holder = some i :=
  needsLock_holder hI hn rfl

/-- **Mutual exclusion / data-race freedom of the protocol**: two different threads are never
    both about to perform an `access`, `callback` or `unlock`; in particular two conflicting
    accesses to terminal state are never simultaneously enabled -/
theorem mutual_exclusion {s : Sys} {i j : Nat} {a b : Act} (hI : Inv s)
    (hi : nextAct s i = some a) (hj : nextAct s j = some b)
    (ha : needsLock a = true) (hb : needsLock b = true) : i = j := by
  have h1 := needsLock_holder hI hi ha
  have h2 := needsLock_holder hI hj hb
  rw [h1] at h2
  exact Option.some.inj h2

/-- **A reader holding the lock never observes a half-applied update**: while thread `i` holds
    the lock, no OTHER thread's next action is an access, a callback or an unlock, and this
    remains so after any schedule during which `i` itself does not move -/
theorem reader_isolated {s : Sys} {i : Nat} (hI : Inv s) (hh : s.holder = some i)
    (sched : List Nat) (hs : i ∉ sched) :
    let s' := runSched s sched
    s'.holder = some i ∧
    ∀ j b, j ≠ i → nextAct s' j = some b → needsLock b = false := by
  induction sched generalizing s with
  | nil =>
    refine ⟨hh, ?_⟩
    intro j b hji hn
    cases hb : needsLock b with
    | false => rfl
    | true =>
      have := needsLock_holder hI hn hb
      rw [hh] at this; cases this; exact absurd rfl hji
  | cons k ks ih =>
    have hki : k ≠ i := fun e => hs (by simp [e])
    have hks : i ∉ ks := fun e => hs (by simp [e])
    simp only [runSched]
    split
    · next hen =>
      refine ih (Inv_step hI hen) ?_ hks
      -- `k ≠ i` is enabled while `i` holds the lock: its action is neither lock nor unlock
      obtain ⟨a, rest, hk, hlock⟩ := enabled_iff.1 hen
      have hna : nextAct s k = some a := nextAct_eq_some.2 ⟨rest, hk⟩
      have hnl : a ≠ .lock := fun e => by have := hlock e; rw [hh] at this; cases this
      have hnu : a ≠ .unlock := fun e => by
        subst e
        have := needsLock_holder hI hna rfl
        rw [hh] at this; cases this; exact hki rfl
      rw [stepSys_eq hk]
      cases a with
      | lock => exact absurd rfl hnl
      | unlock => exact absurd rfl hnu
      | _ => exact hh
    · exact ih hI hh hks

/-- **The loop releases the lock whenever it waits for more input**: a thread whose next action
    is a blocking read does not hold the lock -/
theorem no_blocking_read_under_lock {s : Sys} {i : Nat} (hI : Inv s)
    (hn : nextAct s i = some .blockRead) : s.holder ≠ some i :=
  needsUnlocked_not_holder hI hn rfl

/-- no re-acquisition: a thread whose next action is `lock` does not already hold it -/
theorem no_reacquire {s : Sys} {i : Nat} (hI : Inv s)
    (hn : nextAct s i = some .lock) : s.holder ≠ some i :=
  needsUnlocked_not_holder hI hn rfl

theorem holder_enabled {s : Sys} {j : Nat} (hI : Inv s) (hh : s.holder = some j) :
    enabled s j = true := by
  have hj := hI.2 j hh
  have hget : s.threads[j]? = some s.threads[j] := List.getElem?_eq_getElem hj
  have hrun := (Inv.iff_flag.1 hI).1 j _ hget
  rw [flag_eq_true.2 hh] at hrun
  rcases hthr : s.threads[j] with ⟨todo⟩
  rw [hthr] at hrun hget
  cases todo with
  | nil => simp [runTrace] at hrun
  | cons a rest =>
    -- the holder's next action is allowed under the flag `true`: it is not a `lock`
    obtain ⟨h1, hact, _⟩ := runTrace_cons hrun
    exact enabled_iff.2 ⟨a, rest, hget, fun e => by subst e; simp [actStep] at hact⟩

/-- **Deadlock freedom**: as long as some thread still has actions left, some thread is enabled
    (a blocking read counts as enabled: input arrival is up to the environment, and by
    `no_blocking_read_under_lock` the waiting thread blocks nobody) -/
theorem deadlock_free {s : Sys} (hI : Inv s)
    (hw : ∃ i a, nextAct s i = some a) : ∃ j, enabled s j = true := by
  cases hh : s.holder with
  | some j => exact ⟨j, holder_enabled hI hh⟩
  | none =>
    obtain ⟨i, a, hn⟩ := hw
    obtain ⟨rest, hi⟩ := nextAct_eq_some.1 hn
    exact ⟨i, enabled_iff.2 ⟨a, rest, hi, fun _ => hh⟩⟩

/-- a state in which no thread can move is a state in which every thread has finished, and the
    lock is free (contrapositive of `deadlock_free`: the system never gets stuck half-way) -/
theorem stuck_only_when_done {s : Sys} (hI : Inv s) (hs : ∀ j, enabled s j = false) :
    (∀ t ∈ s.threads, t.todo = []) ∧ s.holder = none := by
  refine ⟨?_, ?_⟩
  · intro t ht
    obtain ⟨i, hi, rfl⟩ := List.mem_iff_getElem.mp ht
    rcases htd : s.threads[i] with ⟨todo⟩
    cases todo with
    | nil => rfl
    | cons a rest =>
      have : nextAct s i = some a := nextAct_eq_some.2 ⟨rest, by rw [List.getElem?_eq_getElem hi, htd]⟩
      obtain ⟨j, hj⟩ := deadlock_free hI ⟨i, a, this⟩
      rw [hs j] at hj; cases hj
  · cases hh : s.holder with
    | none => rfl
    | some j => have := holder_enabled hI hh; rw [hs j] at this; cases this

def remaining (s : Sys) : Nat := (s.threads.map fun t => t.todo.length).sum

theorem remaining_set (l : List Thread) (i : Nat) (a : Act) (rest : List Act)
    (hi : l[i]? = some ⟨a :: rest⟩) :
    ((l.set i ⟨rest⟩).map fun t => t.todo.length).sum + 1
      = (l.map fun t => t.todo.length).sum := by
  induction l generalizing i with
  | nil => simp at hi
  | cons t l ih =>
    cases i with
    | zero =>
      simp only [List.getElem?_cons_zero, Option.some.injEq] at hi
      subst hi
      simp only [List.set_cons_zero, List.map_cons, List.sum_cons, List.length_cons]
      omega
    | succ i =>
      simp only [List.getElem?_cons_succ] at hi
      have := ih i hi
      simp only [List.set_cons_succ, List.map_cons, List.sum_cons]
      omega

theorem remaining_step {s : Sys} {i : Nat} (hen : enabled s i = true) :
    remaining (stepSys s i) + 1 = remaining s := by
  obtain ⟨a, rest, hi, _⟩ := enabled_iff.1 hen
  rw [stepSys_eq hi]
  exact remaining_set s.threads i a rest hi

/-- **Progress to completion**: from every state satisfying `Inv` (hence from every reachable
    state of a disciplined system) there is a schedule, all of whose steps are enabled, after
    which every thread has finished and the lock is free: no reachable state is doomed. -/
theorem can_finish {s : Sys} (hI : Inv s) :
    ∃ sched, (∀ t ∈ (runSched s sched).threads, t.todo = []) ∧
      (runSched s sched).holder = none := by
  induction hn : remaining s using Nat.strongRecOn generalizing s with
  | ind n ih =>
    by_cases hw : ∃ j, enabled s j = true
    · obtain ⟨j, hj⟩ := hw
      have hr := remaining_step hj
      obtain ⟨sched, h⟩ := ih _ (by omega) (Inv_step hI hj) rfl
      exact ⟨j :: sched, by simpa [runSched, hj] using h⟩
    · exact ⟨[], stuck_only_when_done hI fun j => Bool.eq_false_iff.2 fun hen => hw ⟨j, hen⟩⟩

/-- every hand-written entry-point program passes the lock check -/
theorem repo_welllocked : ∀ p ∈ entryPoints, wellLocked p = true := by decide

/-- the body of an accessor documented "caller must hold the lock" (a loop of accesses): started
    with the lock held it keeps to the discipline and ends with the lock held -/
theorem lockedAccessor_ok : wellLockedHeld lockedAccessor = true := by decide

/-- the guarantees of C15 at one state of the system -/
structure Safe (s : Sys) : Prop where
  /-- every Frontend callback is invoked with the terminal lock held -/
  callback_under_lock : ∀ i, nextAct s i = some .callback → s.holder = some i
  /-- terminal state is read / written with the terminal lock held -/
  access_under_lock : ∀ i, nextAct s i = some .access → s.holder = some i
  /-- no two threads are simultaneously at an access / callback / unlock -/
  mutual_exclusion : ∀ i j a b, nextAct s i = some a → nextAct s j = some b →
    needsLock a = true → needsLock b = true → i = j
  /-- a thread waiting for input does not hold the lock -/
  no_blocking_read_under_lock : ∀ i, nextAct s i = some .blockRead → s.holder ≠ some i
  /-- the lock is never re-acquired by its holder -/
  no_reacquire : ∀ i, nextAct s i = some .lock → s.holder ≠ some i
  /-- if some thread has work left, some thread can move -/
  deadlock_free : (∃ i a, nextAct s i = some a) → ∃ j, enabled s j = true
  /-- completion stays reachable -/
  can_finish : ∃ sched, (∀ t ∈ (runSched s sched).threads, t.todo = []) ∧
      (runSched s sched).holder = none

theorem Inv.safe {s : Sys} (hI : Inv s) : Safe s where
  callback_under_lock := fun _ h => TM.Lock.callback_under_lock hI h
  access_under_lock := fun _ h => TM.Lock.access_under_lock hI h
  mutual_exclusion := fun _ _ _ _ hi hj ha hb => TM.Lock.mutual_exclusion hI hi hj ha hb
  no_blocking_read_under_lock := fun _ h => TM.Lock.no_blocking_read_under_lock hI h
  no_reacquire := fun _ h => TM.Lock.no_reacquire hI h
  deadlock_free := TM.Lock.deadlock_free hI
  can_finish := TM.Lock.can_finish hI

theorem Inv.of_wellLocked (progs : List Prog) (hp : ∀ p ∈ progs, wellLocked p = true)
    (s0 : Sys) (hh : s0.holder = none)
    (ht : ∀ t ∈ s0.threads, ∃ p ∈ progs, ∃ n, t.todo ∈ traces n p)
    (sched : List Nat) : Inv (runSched s0 sched) :=
  Inv_runSched (Inv_init s0 hh fun t htm =>
    let ⟨p, hpm, n, htr⟩ := ht t htm
    wellLocked_traces (hp p hpm) n _ htr) sched

/-- **Any system of well-locked programs is safe in every interleaving.** Start with the lock
    free and any number of threads, each running any trace of any finite unfolding of a program
    that passes `wellLocked`; then after every schedule all the guarantees hold. -/
theorem wellLocked_system_safe (progs : List Prog) (hp : ∀ p ∈ progs, wellLocked p = true)
    (s0 : Sys) (hh : s0.holder = none)
    (ht : ∀ t ∈ s0.threads, ∃ p ∈ progs, ∃ n, t.todo ∈ traces n p)
    (sched : List Nat) : Safe (runSched s0 sched) :=
  (Inv.of_wellLocked progs hp s0 hh ht sched).safe

/-- **C15 for the terminal's API.** Any number of goroutines, each running (any trace of any
    finite unfolding of) one of the entry points — the background read loop, `Resize`,
    `SetFrontend`, `SendKey`, mouse reports, `Write`, read accessors under `WithLock`, `SetTee`
    — started with the lock free: at EVERY state reachable by ANY schedule, callbacks and
    accesses happen under the lock, no two threads are in conflicting actions, a thread waiting
    for input does not hold the lock, nothing deadlocks and completion stays reachable. -/
theorem entry_points_safe (s0 : Sys) (hh : s0.holder = none)
    (ht : ∀ t ∈ s0.threads, ∃ p ∈ entryPoints, ∃ n, t.todo ∈ traces n p)
    (sched : List Nat) : Safe (runSched s0 sched) :=
  wellLocked_system_safe entryPoints repo_welllocked s0 hh ht sched

/-- a reader inside `WithLock` is isolated: in any reachable state of the entry-point system in
    which thread `i` holds the lock, however the OTHER threads are scheduled from there, none of
    them performs (or is about to perform) an access or a callback while `i` stays inside -/
theorem entry_points_reader_isolated (s0 : Sys) (hh : s0.holder = none)
    (ht : ∀ t ∈ s0.threads, ∃ p ∈ entryPoints, ∃ n, t.todo ∈ traces n p)
    (sched : List Nat) (i : Nat) (hi : (runSched s0 sched).holder = some i)
    (sched' : List Nat) (hs : i ∉ sched') :
    let s' := runSched (runSched s0 sched) sched'
    s'.holder = some i ∧ ∀ j b, j ≠ i → nextAct s' j = some b → needsLock b = false := by
  exact reader_isolated (Inv.of_wellLocked entryPoints repo_welllocked s0 hh ht sched) hi sched' hs

/-! ## non-vacuity: a concrete three-thread system of entry points -/

/-- read loop (one iteration: geometry, wait, ESC command with a lock-releasing read, callback),
    `Resize`, and a reader under `WithLock` -/
def demoSys : Sys :=
  { threads :=
      [ ⟨[.lock, .access, .unlock, .blockRead, .blockRead,
          .lock, .unlock, .blockRead, .lock, .callback, .unlock]⟩,
        ⟨[.lock, .callback, .unlock, .local]⟩,
        ⟨[.lock, .access, .unlock]⟩ ],
    holder := none }

example : demoSys.holder = none := rfl
example : ∀ t ∈ demoSys.threads, ∃ p ∈ entryPoints, ∃ n, t.todo ∈ traces n p := by
  intro t ht
  simp only [demoSys, List.mem_cons, List.not_mem_nil, or_false] at ht
  rcases ht with rfl | rfl | rfl
  · exact ⟨ptyReadLoop, by simp [entryPoints], 1, by decide⟩
  · exact ⟨resize, by simp [entryPoints], 1, by decide⟩
  · exact ⟨withLockReader, by simp [entryPoints], 1, by decide⟩
-- the hypotheses of the per-thread theorems are satisfiable on non-trivial traces
example : ∀ t ∈ demoSys.threads, runTrace false t.todo = some false := by decide
-- a schedule that interleaves the three threads; thread 2 is scheduled while blocked (stutter)
example : (runSched demoSys [0, 0, 0, 1, 2, 0, 1, 0]).holder = some 1 := by decide
example : nextAct (runSched demoSys [0, 0, 0, 1, 2, 0, 1, 0]) 1 = some .unlock := by decide
example : nextAct (runSched demoSys [0, 0, 0, 1, 2, 0, 1, 0]) 0 = some .lock := by decide
example : enabled (runSched demoSys [0, 0, 0, 1, 2, 0, 1, 0]) 0 = false := by decide
example : enabled (runSched demoSys [0, 0, 0, 1, 2, 0, 1, 0]) 1 = true := by decide
-- the loop waits for input (blockRead) while another thread holds the lock: nobody is blocked
example : nextAct (runSched demoSys [0, 0, 0, 1]) 0 = some .blockRead ∧
    (runSched demoSys [0, 0, 0, 1]).holder = some 1 := by decide
-- the traces really contain nested structure: unbounded loops, choice
example : (traces 1 ptyReadLoop).length = 20 := by decide +kernel
example : [Act.lock, .access, .unlock, .blockRead, .blockRead, .lock, .unlock, .blockRead,
    .lock, .callback, .unlock] ∈ traces 1 ptyReadLoop := by decide +kernel

/-! ## sensitivity: the checker rejects the historical defects -/

/-- `Resize` mutating the screen without taking the lock -/
def badResize : Prog := .seq [mutate, a «local»]
/-- the ESC handler doing a blocking read while holding the lock -/
def badEscHandler : Prog := withLock (.seq [a blockRead, mutate])
/-- a callback fired after the lock has been released -/
def badLateCallback : Prog := .seq [withLock (a access), a callback]
/-- re-acquisition of the (non-reentrant) lock -/
def badReacquire : Prog := withLock (withLock (a access))
/-- a path that forgets to unlock -/
def badMissingUnlock : Prog := .seq [a lock, .alt [a unlock, a «local»]]
/-- a loop body that does not restore the flag -/
def badLoop : Prog := .star (a lock)

example : wellLocked badResize = false := by decide
example : wellLocked badEscHandler = false := by decide
example : wellLocked badLateCallback = false := by decide
example : wellLocked badReacquire = false := by decide
example : wellLocked badMissingUnlock = false := by decide
example : wellLocked badLoop = false := by decide
-- an accessor that releases the lock is not a valid callback body
example : wellLockedHeld (.seq [a unlock, a blockRead, a lock, a access]) = true := by decide
example : wellLockedHeld (.seq [a unlock, a access, a lock]) = false := by decide
-- and the rejected programs really have undisciplined traces (the check is not just strict)
example : ∃ tr ∈ traces 1 badResize, runTrace false tr = none :=
  ⟨[.callback, .local], by decide, by decide⟩
example : ∃ tr ∈ traces 1 badEscHandler, runTrace false tr = none :=
  ⟨[.lock, .blockRead, .unlock], by decide, by decide⟩

/-- the unlocked `Resize` next to a reader under `WithLock` -/
def racySys : Sys :=
  { threads := [⟨[.callback, .local]⟩, ⟨[.lock, .access, .unlock]⟩], holder := none }

example : racySys.threads.map (·.todo) ⊆ traces 1 badResize ++ traces 1 withLockReader := by
  decide

/-- an undisciplined program does reach a state violating `callback_under_lock` and
    `mutual_exclusion`: after the reader has taken the lock, the unlocked `Resize` is about to
    fire a callback while the reader is about to access the same state -/
example :
    let s := runSched racySys [1]
    nextAct s 0 = some .callback ∧ s.holder ≠ some 0 ∧
    nextAct s 1 = some .access ∧ enabled s 0 = true ∧ enabled s 1 = true := by decide

example : ¬ Safe (runSched racySys [1]) := fun h => by
  have := h.callback_under_lock 0 (by decide)
  revert this; decide

/-- a blocking read under the lock does produce a state where the waiting thread holds the lock
    and another thread is stuck behind it -/
example :
    let s := runSched { threads := [⟨[.lock, .blockRead, .unlock]⟩, ⟨[.lock, .access, .unlock]⟩],
                        holder := none } [0]
    nextAct s 0 = some .blockRead ∧ s.holder = some 0 ∧ enabled s 1 = false := by decide

/-- re-acquisition does deadlock: a state with work left and nobody enabled -/
example :
    let s := runSched { threads := [⟨[.lock, .lock, .access, .unlock, .unlock]⟩],
                        holder := none } [0]
    nextAct s 0 = some .lock ∧ ∀ j < 1, enabled s j = false := by decide

end TM.Lock

#print axioms TM.Lock.check_sound
#print axioms TM.Lock.wellLocked_traces
#print axioms TM.Lock.wellLockedHeld_traces
#print axioms TM.Lock.discipline_at_split
#print axioms TM.Lock.discipline_entry
#print axioms TM.Lock.access_between_lock_unlock
#print axioms TM.Lock.blockRead_after_unlock
#print axioms TM.Lock.ends_unlocked
#print axioms TM.Lock.Inv_init
#print axioms TM.Lock.Inv_step
#print axioms TM.Lock.Inv_runSched
#print axioms TM.Lock.reachable_iff_runSched
#print axioms TM.Lock.Inv_reachable
#print axioms TM.Lock.callback_under_lock
#print axioms TM.Lock.access_under_lock
#print axioms TM.Lock.mutual_exclusion
#print axioms TM.Lock.reader_isolated
#print axioms TM.Lock.no_blocking_read_under_lock
#print axioms TM.Lock.no_reacquire
#print axioms TM.Lock.deadlock_free
#print axioms TM.Lock.stuck_only_when_done
#print axioms TM.Lock.can_finish
#print axioms TM.Lock.repo_welllocked
#print axioms TM.Lock.lockedAccessor_ok
#print axioms TM.Lock.wellLocked_system_safe
#print axioms TM.Lock.entry_points_safe
#print axioms TM.Lock.entry_points_reader_isolated
