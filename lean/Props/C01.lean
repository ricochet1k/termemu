import Proofs.Parser
import Proofs.Run
import Props.C02
/-!
# C01 — no panic, termination

"For every byte stream delivered by the backend, cut into reads in any way, at every screen size
of at least 1x1, in either text mode, and interleaved with any sequence of Resize calls,
processing never panics and always consumes a finite input in finite time. Afterwards every read
accessor still returns without panicking."

Model-level reading. The model's functions are total, so "no panic" means that every index the
code uses is in range — which is what the invariant of `Props/C02.lean` gives for every reachable
state — and "finite time" means progress: every token spans at least one byte and at most the
bytes available, so the read loop `run` consumes every complete token with `length + 1` steps and
the fuel is never the reason it stops.
-/
namespace TM.C01
open TM.C02

/-! ## 1. progress of the tokeniser -/

theorem next_progress (bs : Bytes) (t : Tok) (n : Nat) (h : next bs = .tok t n) :
    0 < n ∧ n ≤ bs.length :=
  TM.next_progress bs t n h

theorem next_nil : next [] = .need := rfl

/-! ## 2. the read loop terminates by consuming its input -/

/-- the fuel is never the reason the loop stops -/
theorem runFuel_fuel_irrelevant (cw : Nat → Nat) (fuel k : Nat) (t : Term) (bs : Bytes)
    (evs : List Ev) (hf : bs.length < fuel) :
    runFuel cw (fuel + k) t bs evs = runFuel cw fuel t bs evs :=
  runFuel_fuel cw _ _ t bs evs (by omega) hf

/-- `run` consumes every complete token: the unconsumed rest is a suffix of the input, not longer
    than it, and either empty or an incomplete sequence / character; and the result does not
    depend on the fuel bound `length + 1` built into `run`. -/
theorem run_consumes (cw : Nat → Nat) (t : Term) (bs : Bytes) :
    let r := run cw t bs
    r.2.2.length ≤ bs.length ∧ (r.2.2 = [] ∨ next r.2.2 = .need) ∧
    (∃ k, k ≤ bs.length ∧ r.2.2 = bs.drop k) ∧
    ∀ k, runFuel cw (bs.length + 1 + k) t bs [] = r := by
  obtain ⟨a, k, hk, e⟩ := runFuel_rest cw (bs.length + 1) t bs [] (by omega)
  refine ⟨?_, Or.inr a, ⟨k, hk, e⟩, fun k' => runFuel_fuel_irrelevant cw _ k' t bs [] (by omega)⟩
  show (runFuel cw (bs.length + 1) t bs []).2.2.length ≤ _
  rw [e, List.length_drop]; omega

/-- any number of steps above the number of bytes gives what `run` gives: the loop has stopped
    by then (finite time); `C08.run_fuel_irrelevant` says the same -/
theorem run_steps_bounded (cw : Nat → Nat) (t : Term) (bs : Bytes) (n : Nat) (hn : bs.length < n) :
    runFuel cw n t bs [] = run cw t bs :=
  runFuel_fuel cw n _ t bs [] hn (Nat.lt_succ_self _)

/-! ## 3. read accessors index inside the grid -/

theorem geo_row {s : Scr} (h : s.geo) {y : Nat} (hy : y < s.h) : (s.row y).length = s.w :=
  have ⟨_, gl, rl⟩ := (C02.Lemmas.geo_iff s).1 h
  rl _ (row_mem s y (gl ▸ hy))

/-- In a state satisfying the geometric invariant, row `y < h` of the active screen has exactly
    `w` cells (so `Line(y)`, `StyledLine(x,w,y)`, `ANSILine(y)`, for arguments inside the screen,
    index inside the row), the cursor is a valid cell and the margins are valid rows. -/
theorem accessors_in_range (t : Term) (h : t.geo) :
    t.scr.grid.length = t.scr.h ∧ (∀ y, y < t.scr.h → (t.scr.row y).length = t.scr.w) ∧
    t.scr.cx < t.scr.w ∧ t.scr.cy < t.scr.h ∧ ((t.scr.row t.scr.cy)[t.scr.cx]?).isSome ∧
    t.scr.top ≤ t.scr.bot ∧ t.scr.bot < t.scr.h := by
  have hs : t.scr.geo := Term.scr_both h.1 h.2.1
  have ⟨g, gl, _⟩ := (C02.Lemmas.geo_iff _).1 hs
  refine ⟨gl, fun y => geo_row hs, g.cx_lt, g.cy_lt, ?_, g.top_le, g.bot_lt⟩
  rw [List.getElem?_eq_getElem (by rw [geo_row hs g.cy_lt]; exact g.cx_lt)]
  rfl

/-- every row inside either buffer, shown or not, has that buffer's width -/
theorem accessors_in_range_both (t : Term) (h : t.geo) (b : Term → Scr)
    (hb : b = Term.main ∨ b = Term.alt) (y : Nat) (hy : y < (b t).h) :
    ((b t).row y).length = (b t).w :=
  geo_row (by rcases hb with rfl | rfl; exact h.1; exact h.2.1) hy

/-! ## 4. the whole system: reads cut in any way, interleaved with resizes -/

/-- what can happen to the reader + terminal: a chunk of bytes arrives, or the frontend resizes -/
inductive SysOp
  | read (chunk : Bytes)
  | resize (w h : Nat)

def SysOp.valid : SysOp → Prop
  | .read _ => True
  | .resize w h => 1 ≤ w ∧ 1 ≤ h

def SysOp.step (cw : Nat → Nat) (s : Sys) : SysOp → Sys
  | .read c => (s.feed cw c).1
  | .resize w h => { s with t := (s.t.resize w h).1 }

def runSys (cw : Nat → Nat) (s : Sys) (ops : List SysOp) : Sys := ops.foldl (SysOp.step cw) s

/-- the invariant of the whole system: valid terminal, and the pending bytes are an incomplete
    sequence (everything complete has been consumed) -/
def SysOK (s : Sys) : Prop := s.t.wf ∧ next s.pending = .need

theorem sysStep_ok (cw : Nat → Nat) (s : Sys) (h : SysOK s) (op : SysOp)
    (hv : op.valid) : SysOK (op.step cw s) := by
  cases op with
  | read c => exact ⟨run_wf cw s.t h.1 _, run_pending_stuck cw _ _⟩
  | resize w h' => exact ⟨resize_wf s.t w h' hv.1 hv.2 h.1, h.2⟩

/-- For every script of reads (the byte stream cut in any way) and resizes to positive sizes, from
    a fresh terminal of any size ≥ 1×1 under either policy: processing reaches a state that
    satisfies the invariant (so every index used by the accessors is in range, see
    `accessors_in_range`) and has consumed every complete token. -/
theorem system_never_stuck (cw : Nat → Nat) (pol : WidePolicy) (w h : Nat)
    (hw : 1 ≤ w) (hh : 1 ≤ h) (ops : List SysOp) (hv : ∀ op ∈ ops, op.valid) :
    let s := runSys cw { t := Term.init pol w h } ops
    s.t.wf ∧ s.t.geo ∧ next s.pending = .need ∧
      ∀ y, y < s.t.scr.h → (s.t.scr.row y).length = s.t.scr.w := by
  have : SysOK (runSys cw { t := Term.init pol w h } ops) :=
    foldl_inv (fun s op h hv => sysStep_ok cw s h op hv) ⟨init_wf pol w h hw hh, rfl⟩ hv
  exact ⟨this.1, wf_geo this.1, this.2, (accessors_in_range _ (wf_geo this.1)).2.1⟩

/-! ## Non-vacuity -/

section Examples

example : next [0x1b, 0x5b, 0x33, 0x31, 0x6d, 0x41] = .tok (.csi 0 [31] true 0x6d) 5 := by decide
example : next [0x1b, 0x5b, 0x33] = .need := by decide
-- an incomplete sequence stays pending, a complete one is consumed
example : (run C02.cw2 (Term.init .blank 4 2) [0x61, 0x1b, 0x5b, 0x33]).2.2 = [0x1b, 0x5b, 0x33] := by
  decide
example : SysOp.valid (.resize 1 1) := ⟨by omega, by omega⟩
example : (Term.init .keep 1 1).geo := init_geo _ _ _ (by omega) (by omega)

end Examples

end TM.C01

#print axioms TM.C01.next_progress
#print axioms TM.C01.runFuel_fuel_irrelevant
#print axioms TM.C01.run_consumes
#print axioms TM.C01.run_steps_bounded
#print axioms TM.C01.accessors_in_range
#print axioms TM.C01.accessors_in_range_both
#print axioms TM.C01.system_never_stuck
