import Proofs.Act
import Proofs.Bits
import Proofs.CellsK
import Proofs.Clusters
import Proofs.Decimal
import Proofs.Dispatch
import Proofs.Events
import Proofs.Fold
import Proofs.Ite
import Proofs.List
import Proofs.Lost
import Proofs.Parser
import Proofs.Put
import Proofs.Refine
import Proofs.Row
import Proofs.RowClosed
import Proofs.RowIns
import Proofs.Run
import Proofs.Scan
import Proofs.Scr
import Proofs.SubCells
import Proofs.Term
import Proofs.Utf8
-- shared lemmas (what the property files have in common)
