import TM.Screen
import Proofs.List
/-!
# Rows of cells: `contAt`, `headOf`, `widthAt`, `rowWF` and the row editors

What the row definitions of `TM.Screen` do, cell by cell. A column `x` of a well-formed row lies in
one character: it starts at `headOf r x` and ends before `endOf r x`, and both are character
boundaries (columns that are not continuation cells). The editors `Row.put`, `Row.erase`, `Row.dch`,
`cutRow`, `fitRow` first blank the wide characters that a boundary of their range cuts (`Row.fixAt`,
which blanks the cells `Row.inCut`; `blankStraddlers` is two such steps) and then replace cells; the
`getElem?_*` lemmas say which cell is where afterwards, the `mem_*` lemmas only where it comes from.
The same editors as lists (`takeB`, `dropB`, `rowIns`) are in `Proofs/RowIns`, the predicates they
all keep in `Proofs/RowClosed`.
-/
namespace TM

/-! ### the predicates `contAt`, `widthAt`, `headOf`, `rowWF` -/

theorem contAt_iff {r : Row} {x : Nat} : contAt r x = true ↔ ∃ st, r[x]? = some ⟨.cont, st⟩ := by
  unfold contAt; split <;> simp_all

theorem contAt_cont {r : Row} {x : Nat} {st : Style} (h : r[x]? = some ⟨.cont, st⟩) :
    contAt r x = true := contAt_iff.2 ⟨st, h⟩

theorem contAt_ch {r : Row} {x : Nat} {t : Bytes} {w : Nat} {st : Style}
    (h : r[x]? = some ⟨.ch t w, st⟩) : contAt r x = false := by
  unfold contAt; rw [h]

theorem contAt_none {r : Row} {x : Nat} (h : r[x]? = none) : contAt r x = false := by
  unfold contAt; rw [h]

theorem contAt_ge {r : Row} {x : Nat} (h : r.length ≤ x) : contAt r x = false :=
  contAt_none (List.getElem?_eq_none h)

theorem contAt_lt {r : Row} {x : Nat} (h : contAt r x = true) : x < r.length := by
  false_or_by_contra
  rw [contAt_ge (by omega)] at h; cases h

theorem contAt_congr {r r' : Row} {x : Nat} (h : r'[x]? = r[x]?) : contAt r' x = contAt r x := by
  unfold contAt; rw [h]

theorem contAt_blank {r : Row} {x : Nat} {st : Style} (h : r[x]? = some (blank st)) :
    contAt r x = false := contAt_ch h

theorem widthAt_ch {r : Row} {x : Nat} {t : Bytes} {w : Nat} {st : Style}
    (h : r[x]? = some ⟨.ch t w, st⟩) : widthAt r x = max w 1 := by
  unfold widthAt; rw [h]

theorem widthAt_pos (r : Row) (x : Nat) : 1 ≤ widthAt r x := by
  unfold widthAt; split <;> omega

theorem widthAt_congr {r r' : Row} {x : Nat} (h : r'[x]? = r[x]?) : widthAt r' x = widthAt r x := by
  unfold widthAt; rw [h]

theorem headOf_le (r : Row) (x : Nat) : headOf r x ≤ x := by
  induction x with
  | zero => simp [headOf]
  | succ x ih => simp only [headOf]; split <;> omega

theorem headOf_cont (r : Row) (x j : Nat) (h1 : headOf r x < j) (h2 : j ≤ x) : contAt r j = true := by
  induction x with
  | zero => simp [headOf] at h1; omega
  | succ x ih =>
    simp only [headOf] at h1
    split at h1
    · next hc =>
      by_cases hj : j = x + 1
      · rw [hj]; exact hc
      · exact ih h1 (by omega)
    · omega

theorem le_headOf {r : Row} {x i : Nat} (hx : contAt r x = false) (hi : x ≤ i) : x ≤ headOf r i := by
  false_or_by_contra
  rw [headOf_cont r i x (by omega) hi] at hx; cases hx

theorem headOf_head (r : Row) (x : Nat) : headOf r x = 0 ∨ contAt r (headOf r x) = false := by
  induction x with
  | zero => simp [headOf]
  | succ x ih =>
    simp only [headOf]
    split
    · exact ih
    · next hc => right; simpa using hc

theorem headOf_unique (r : Row) (x h : Nat) (hle : h ≤ x)
    (hc : ∀ j, h < j → j ≤ x → contAt r j = true) (hh : h = 0 ∨ contAt r h = false) :
    headOf r x = h := by
  induction x with
  | zero => simp [headOf]; omega
  | succ x ih =>
    simp only [headOf]
    by_cases hx : h = x + 1
    · have : contAt r (x + 1) = false := by
        rcases hh with hh | hh
        · omega
        · rw [← hx]; exact hh
      simp [this, hx]
    · have : contAt r (x + 1) = true := hc _ (by omega) (by omega)
      simp only [this, if_true]
      exact ih (by omega) (fun j a b => hc j a (by omega))

theorem headOf_of_not_cont {r : Row} {x : Nat} (h : contAt r x = false) : headOf r x = x :=
  headOf_unique r x x (Nat.le_refl _) (fun j a b => by omega) (Or.inr h)

theorem headOf_congr {r r' : Row} {x : Nat}
    (h : ∀ j, headOf r x ≤ j → j ≤ x → contAt r' j = contAt r j) : headOf r' x = headOf r x := by
  apply headOf_unique r' x (headOf r x) (headOf_le r x)
  · intro j a b
    rw [h j (by omega) b]; exact headOf_cont r x j a b
  · rcases headOf_head r x with h0 | h0
    · exact Or.inl h0
    · right; rw [h _ (Nat.le_refl _) (headOf_le r x)]; exact h0

theorem rowWF_iff (r : Row) : rowWF r = true ↔
    (contAt r 0 = false ∧ ∀ i t w st, r[i]? = some ⟨.ch t w, st⟩ →
      1 ≤ w ∧ i + w ≤ r.length ∧ (∀ k, i < k → k < i + w → contAt r k = true) ∧
        contAt r (i + w) = false) := by
  unfold rowWF
  rw [List.all_eq_true]
  simp only [List.mem_range]
  constructor
  · intro H
    constructor
    · cases hc : contAt r 0 with
      | false => rfl
      | true =>
        obtain ⟨st, hst⟩ := contAt_iff.1 hc
        have := H 0 (contAt_lt hc)
        rw [hst] at this
        simp at this
    · intro i t w st h
      have hi : i < r.length := by
        false_or_by_contra
        rw [List.getElem?_eq_none (by omega)] at h; cases h
      have := H i hi
      rw [h] at this
      simp only [Bool.and_eq_true, decide_eq_true_eq, List.all_eq_true, List.mem_range,
        Bool.not_eq_true'] at this
      refine ⟨this.1.1.1, this.1.1.2, ?_, this.2⟩
      intro k h1 h2
      have := this.1.2 (k - (i + 1)) (by omega)
      have e : i + 1 + (k - (i + 1)) = k := by omega
      rwa [e] at this
  · intro ⟨h0, H⟩ i hi
    cases hc : r[i]? with
    | none => rw [List.getElem?_eq_none_iff] at hc; omega
    | some c =>
      obtain ⟨g, st⟩ := c
      cases g with
      | cont =>
        simp only [decide_eq_true_eq]
        false_or_by_contra
        have : i = 0 := by omega
        subst this
        rw [contAt_cont hc] at h0; cases h0
      | ch t w =>
        obtain ⟨a, b, c, d⟩ := H i t w st hc
        simp only [Bool.and_eq_true, decide_eq_true_eq, List.all_eq_true, List.mem_range,
          Bool.not_eq_true']
        exact ⟨⟨⟨a, b⟩, fun k hk => c _ (by omega) (by omega)⟩, d⟩

theorem wf_cont0 {r : Row} (hwf : rowWF r = true) : contAt r 0 = false := ((rowWF_iff r).1 hwf).1

theorem contAt_headOf {r : Row} (hwf : rowWF r = true) (x : Nat) : contAt r (headOf r x) = false :=
  (headOf_head r x).elim (fun e => e ▸ wf_cont0 hwf) id

theorem wf_ch {r : Row} (hwf : rowWF r = true) {i : Nat} {t : Bytes} {w : Nat} {st : Style}
    (h : r[i]? = some ⟨.ch t w, st⟩) :
    1 ≤ w ∧ i + w ≤ r.length ∧ (∀ k, i < k → k < i + w → contAt r k = true) ∧
      contAt r (i + w) = false := ((rowWF_iff r).1 hwf).2 i t w st h

theorem wf_widthAt {r : Row} (hwf : rowWF r = true) {i : Nat} {t : Bytes} {w : Nat} {st : Style}
    (h : r[i]? = some ⟨.ch t w, st⟩) : widthAt r i = w := by
  rw [widthAt_ch h]; have := (wf_ch hwf h).1; omega

theorem wf_head {r : Row} (hwf : rowWF r = true) {x : Nat} (hx : x < r.length) :
    ∃ t cw st, r[headOf r x]? = some ⟨.ch t cw, st⟩ ∧ 1 ≤ cw ∧ x < headOf r x + cw ∧
      headOf r x + cw ≤ r.length ∧ contAt r (headOf r x) = false ∧
      contAt r (headOf r x + cw) = false := by
  obtain ⟨h0, H⟩ := (rowWF_iff r).1 hwf
  have hle := headOf_le r x
  have hnc := contAt_headOf hwf x
  cases hc : r[headOf r x]? with
  | none => rw [List.getElem?_eq_none_iff] at hc; omega
  | some c =>
    obtain ⟨g, st⟩ := c
    cases g with
    | cont => rw [contAt_cont hc] at hnc; cases hnc
    | ch t cw =>
      obtain ⟨a, b, _, d⟩ := H _ t cw st hc
      refine ⟨t, cw, st, rfl, a, ?_, b, hnc, d⟩
      false_or_by_contra
      have := headOf_cont r x (headOf r x + cw) (by omega) (by omega)
      rw [this] at d; cases d

theorem wf_headOf_eq {r : Row} (hwf : rowWF r = true) {h x : Nat} {t : Bytes} {w : Nat} {st : Style}
    (hch : r[h]? = some ⟨.ch t w, st⟩) (h1 : h ≤ x) (h2 : x < h + w) : headOf r x = h :=
  headOf_unique r x h h1 (fun j a b => (wf_ch hwf hch).2.2.1 j a (by omega)) (Or.inr (contAt_ch hch))

theorem headOf_eq_of_lt {r : Row} (hwf : rowWF r = true) {p i : Nat} (hpi : p ≤ i) (hi : i < r.length)
    (h : headOf r i < p) : headOf r p = headOf r i := by
  obtain ⟨t, w, s, hcell, _, hiw, _⟩ := wf_head hwf hi
  exact wf_headOf_eq hwf hcell (Nat.le_of_lt h) (by omega)

theorem wf_cut {r : Row} (hwf : rowWF r = true) {c : Nat} (hc : contAt r c = true) :
    ∃ t w s, r[headOf r c]? = some ⟨.ch t w, s⟩ ∧ 2 ≤ w ∧ widthAt r (headOf r c) = w ∧
      headOf r c < c ∧ c < headOf r c + w ∧ headOf r c + w ≤ r.length ∧
      (∀ j, headOf r c < j → j < headOf r c + w → contAt r j = true) ∧
      contAt r (headOf r c) = false ∧ contAt r (headOf r c + w) = false := by
  obtain ⟨t, w, s, hhd, h1, h2, h3, h4, h5⟩ := wf_head hwf (contAt_lt hc)
  have hle := headOf_le r c
  have hne : headOf r c ≠ c := fun e => by rw [e, hc] at h4; cases h4
  exact ⟨t, w, s, hhd, by omega, wf_widthAt hwf hhd, by omega, h2, h3, (wf_ch hwf hhd).2.2.1, h4, h5⟩

/-! ### `endOf`: the first character boundary at or right of a column

`endOf` is in namespace `TM.C02Span`, and `takeB`, `dropB`, `rowIns` of `Proofs/RowIns` in
`TM.C02Span` / `TM.C03SpanWrite`: the property files of these names state their theorems with them. -/
namespace C02Span

/-- first column after the character covering column `b` (`b` itself on a character boundary) -/
def endOf (R : Row) (b : Nat) : Nat :=
  if contAt R b then headOf R b + widthAt R (headOf R b) else b

theorem endOf_of_not_cont {R : Row} {b : Nat} (hc : contAt R b = false) : endOf R b = b := by
  simp [endOf, hc]

theorem endOf_bounds {R : Row} (hwf : rowWF R = true) {x : Nat} (hc : contAt R x = true) :
    x < endOf R x ∧ endOf R x ≤ R.length ∧ headOf R x < x := by
  obtain ⟨t, w, s, _, _, hwid, hlt, hcw, hlen, _⟩ := wf_cut hwf hc
  simp only [endOf, hc, if_true, hwid]; omega

theorem le_endOf {R : Row} (hwf : rowWF R = true) (b : Nat) : b ≤ endOf R b := by
  cases hc : contAt R b
  · rw [endOf_of_not_cont hc]; exact Nat.le_refl b
  · exact Nat.le_of_lt (endOf_bounds hwf hc).1

theorem endOf_le_length {R : Row} (hwf : rowWF R = true) {b : Nat} (hb : b ≤ R.length) :
    endOf R b ≤ R.length := by
  cases hc : contAt R b
  · rw [endOf_of_not_cont hc]; exact hb
  · exact (endOf_bounds hwf hc).2.1

theorem contAt_endOf {R : Row} (hwf : rowWF R = true) (b : Nat) : contAt R (endOf R b) = false := by
  cases hc : contAt R b
  · simp [endOf, hc]
  · obtain ⟨t, w, s, _, _, hwid, _, _, _, _, _, hend⟩ := wf_cut hwf hc
    simpa [endOf, hc, hwid] using hend

theorem contAt_of_lt_endOf {R : Row} (hwf : rowWF R = true) {b m : Nat} (hbm : b ≤ m)
    (hm : m < endOf R b) : contAt R m = true := by
  cases hc : contAt R b
  · simp [endOf, hc] at hm; omega
  · obtain ⟨t, w, s, _, _, hwid, hlt, _, _, hconts, _⟩ := wf_cut hwf hc
    simp only [endOf, hc, if_true, hwid] at hm
    exact hconts m (by omega) hm

theorem endOf_same {R : Row} (hwf : rowWF R = true) {p m : Nat} (hpm : p ≤ m) (hm : m < endOf R p) :
    endOf R m = endOf R p := by
  cases hc : contAt R p
  · simp [endOf, hc] at hm; omega
  · obtain ⟨t, w, s, hcell, _, hwid, hlt, _, _, hconts, _⟩ := wf_cut hwf hc
    simp only [endOf, hc, if_true, hwid] at hm ⊢
    rw [if_pos (hconts m (by omega) hm), wf_headOf_eq hwf hcell (by omega) hm, hwid]

/-- right of a column `p`, the cells of the character that `p` cuts are those left of `endOf R p` -/
theorem lt_endOf_iff {R : Row} (hwf : rowWF R = true) {p i : Nat} (hpi : p ≤ i) (hi : i < R.length) :
    i < endOf R p ↔ headOf R i < p := by
  constructor
  · intro h
    cases hc : contAt R p
    · simp [endOf, hc] at h; omega
    · obtain ⟨t, w, s, hcell, _, hwid, hlt, _⟩ := wf_cut hwf hc
      simp only [endOf, hc, if_true, hwid] at h
      rw [wf_headOf_eq hwf hcell (by omega) h]; exact hlt
  · intro h
    obtain ⟨t, w, s, hcell, _, hiw, _⟩ := wf_head hwf hi
    simp only [endOf, headOf_cont R i p h hpi, if_true,
      wf_headOf_eq hwf hcell (Nat.le_of_lt h) (by omega : p < headOf R i + w), wf_widthAt hwf hcell]
    exact hiw

end C02Span

/-! ### lengths: every row editor keeps the length, `fitRow` and `cutRow` set it -/

@[simp] theorem blankRange_length (r : Row) (a n : Nat) (st : Style) :
    (blankRange r a n st).length = r.length := by
  simp [blankRange]

@[simp] theorem blankCharAt_length (r : Row) (x : Nat) (st : Style) :
    (blankCharAt r x st).length = r.length := by
  unfold blankCharAt
  simp only
  split <;> simp

@[simp] theorem setRange_length (r : Row) (a : Nat) (cells : List Cell) :
    (setRange r a cells).length = r.length := by simp [setRange]

theorem charCells_length (t : Bytes) (w : Nat) (st : Style) :
    (charCells t w st).length = 1 + (w - 1) := by simp [charCells]; omega

theorem charCells_length_pos (t : Bytes) {w : Nat} (hw : 1 ≤ w) (st : Style) :
    (charCells t w st).length = w := by rw [charCells_length]; omega

@[simp] theorem blankStraddlers_length (r : Row) (a b : Nat) (st : Style) :
    (blankStraddlers r a b st).length = r.length := by
  unfold blankStraddlers
  simp only
  split <;> split <;> simp

@[simp] theorem put_length (r : Row) (x : Nat) (t : Bytes) (w : Nat) (st : Style) :
    (r.put x t w st).length = r.length := by simp [Row.put]

@[simp] theorem erase_length (r : Row) (a b : Nat) (st : Style) :
    (r.erase a b st).length = r.length := by
  unfold Row.erase
  simp only
  split <;> simp

@[simp] theorem dch_length (r : Row) (x n : Nat) (st : Style) :
    (r.dch x n st).length = r.length := by
  unfold Row.dch
  simp only
  split
  · rfl
  · simp; omega

@[simp] theorem fixTail_length (r : Row) (st : Style) : (fixTail r st).length = r.length := by
  unfold fixTail
  split
  · next h =>
    split
    · have hne : r ≠ [] := by intro e; subst e; simp at h
      have := List.length_pos_iff.2 hne
      simp; omega
    · rfl
  · rfl

@[simp] theorem fitRow_length (r : Row) (w : Nat) (st : Style) : (fitRow r w st).length = w := by
  unfold fitRow
  split
  · simp only [List.length_take]
    split <;> (try simp only [blankCharAt_length]) <;> omega
  · simp; omega

theorem blankRow_length (w : Nat) (st : Style) : (blankRow w st).length = w :=
  List.length_replicate

theorem cutRow_eq_fitRow {r : Row} {W : Nat} (st : Style) (h : W ≤ r.length) :
    cutRow r W st = fitRow r W st := by
  unfold cutRow fitRow
  rw [if_pos (show r.length ≥ W from h)]

theorem cutRow_length {r : Row} {W : Nat} (st : Style) (h : W ≤ r.length) :
    (cutRow r W st).length = W := by
  rw [cutRow_eq_fitRow st h, fitRow_length]

/-! ### the results cell by cell -/

theorem getElem?_blankRange (r : Row) (a n : Nat) (st : Style) (i : Nat) :
    (blankRange r a n st)[i]? =
      if a ≤ i ∧ i < a + n ∧ i < r.length then some (blank st) else r[i]? := by
  unfold blankRange
  rw [List.getElem?_mapIdx]
  by_cases hi : i < r.length
  · rw [List.getElem?_eq_getElem hi]
    by_cases h : a ≤ i ∧ i < a + n
    · simp [h, hi]
    · have : ¬ (a ≤ i ∧ i < a + n ∧ i < r.length) := fun ⟨p, q, _⟩ => h ⟨p, q⟩
      simp [h, this]
  · rw [List.getElem?_eq_none (by omega)]
    have : ¬ (a ≤ i ∧ i < a + n ∧ i < r.length) := fun ⟨_, _, q⟩ => hi q
    simp [this]

theorem contAt_blankRange_imp {r : Row} {a n : Nat} {st : Style} {k : Nat}
    (h : contAt (blankRange r a n st) k = true) : contAt r k = true := by
  obtain ⟨st', hst⟩ := contAt_iff.1 h
  rw [getElem?_blankRange] at hst
  split at hst
  · simp [blank] at hst
  · exact contAt_cont hst

theorem contAt_blankRange_in {r : Row} {a n : Nat} {st : Style} {k : Nat}
    (h1 : a ≤ k) (h2 : k < a + n) : contAt (blankRange r a n st) k = false := by
  by_cases hk : k < r.length
  · apply contAt_blank (st := st); rw [getElem?_blankRange, if_pos ⟨h1, h2, hk⟩]
  · apply contAt_ge; simp; omega

theorem blankRange_eq (r : Row) (a n : Nat) (st : Style) (h : a + n ≤ r.length) :
    blankRange r a n st = r.take a ++ List.replicate n (blank st) ++ r.drop (a + n) := by
  apply List.ext_getElem?; intro i
  rw [getElem?_blankRange, List.append_assoc, List.getElem?_append, List.getElem?_append]
  simp only [List.length_take, List.length_replicate, Nat.min_eq_left (show a ≤ r.length by omega)]
  by_cases h1 : i < a
  · rw [if_pos h1, if_neg (by omega), List.getElem?_take, if_pos h1]
  · rw [if_neg h1]
    by_cases h2 : i - a < n
    · rw [if_pos h2, if_pos ⟨by omega, by omega, by omega⟩, List.getElem?_replicate, if_pos h2]
    · rw [if_neg h2, if_neg (by omega), List.getElem?_drop]; congr 1; omega

theorem blankCharAt_of_cont {r : Row} {x : Nat} (st : Style) (h : contAt r x = true) :
    blankCharAt r x st = blankRange r (headOf r x) (widthAt r (headOf r x)) st := by
  unfold blankCharAt
  simp [h]

theorem getElem?_setRange (r : Row) (a : Nat) (cells : List Cell) (i : Nat) :
    (setRange r a cells)[i]? =
      if a ≤ i ∧ i < a + cells.length ∧ i < r.length then cells[i - a]? else r[i]? := by
  unfold setRange
  rw [List.getElem?_mapIdx]
  by_cases hi : i < r.length
  · rw [List.getElem?_eq_getElem hi]
    by_cases h : a ≤ i ∧ i < a + cells.length
    · have h' : a ≤ i ∧ i < a + cells.length ∧ i < r.length := ⟨h.1, h.2, hi⟩
      have hl : i - a < cells.length := by omega
      simp only [Option.map, if_pos h, if_pos h', List.getD_eq_getElem?_getD,
        List.getElem?_eq_getElem hl, Option.getD_some]
    · have h' : ¬ (a ≤ i ∧ i < a + cells.length ∧ i < r.length) := fun ⟨p, q, _⟩ => h ⟨p, q⟩
      simp only [Option.map, if_neg h, if_neg h']
  · rw [List.getElem?_eq_none (by omega)]
    have : ¬ (a ≤ i ∧ i < a + cells.length ∧ i < r.length) := fun ⟨_, _, q⟩ => hi q
    simp [this]

theorem setRange_eq (r : Row) (a : Nat) (cells : List Cell) (h : a + cells.length ≤ r.length) :
    setRange r a cells = r.take a ++ cells ++ r.drop (a + cells.length) := by
  apply List.ext_getElem?; intro i
  rw [getElem?_setRange, List.append_assoc, List.getElem?_append, List.getElem?_append]
  simp only [List.length_take, Nat.min_eq_left (show a ≤ r.length by omega)]
  by_cases h1 : i < a
  · rw [if_pos h1, if_neg (by omega), List.getElem?_take, if_pos h1]
  · rw [if_neg h1]
    by_cases h2 : i - a < cells.length
    · rw [if_pos h2, if_pos ⟨by omega, by omega, by omega⟩]
    · rw [if_neg h2, if_neg (by omega), List.getElem?_drop]; congr 1; omega

theorem getElem?_charCells (t : Bytes) (w : Nat) (st : Style) (i : Nat) :
    (charCells t w st)[i]? =
      if i = 0 then some ⟨.ch t w, st⟩ else if i < w then some ⟨.cont, st⟩ else none := by
  unfold charCells
  cases i with
  | zero => simp
  | succ i =>
    rw [List.getElem?_cons_succ, List.getElem?_replicate]
    have h0 : ¬ (i + 1 = 0) := by omega
    rw [if_neg h0]
    by_cases h : i < w - 1
    · rw [if_pos h, if_pos (by omega)]
    · rw [if_neg h, if_neg (by omega)]

/-- the written cells are those of the character (one cell also for `w = 0`); elsewhere only the
    characters cut by the two ends have changed -/
theorem getElem?_put (r : Row) (x : Nat) (t : Bytes) (w : Nat) (st : Style) (i : Nat) :
    (r.put x t w st)[i]? =
      if x ≤ i ∧ i < x + max w 1 ∧ i < r.length
      then some (if i = x then ⟨.ch t w, st⟩ else ⟨.cont, st⟩)
      else (blankStraddlers r x (x + w) st)[i]? := by
  unfold Row.put
  rw [getElem?_setRange, charCells_length, blankStraddlers_length,
    show 1 + (w - 1) = max w 1 by omega]
  split
  · rw [getElem?_charCells]
    by_cases e : i = x
    · rw [if_pos (by omega), if_pos e]
    · rw [if_neg (by omega), if_pos (by omega), if_neg e]
  · rfl

/-! ### `rowWF` along `++`, `take`, `drop`; blank rows and single characters -/

theorem contAt_append (r1 r2 : Row) (k : Nat) :
    contAt (r1 ++ r2) k = if k < r1.length then contAt r1 k else contAt r2 (k - r1.length) := by
  unfold contAt; rw [List.getElem?_append]
  by_cases h : k < r1.length <;> simp only [h, ↓reduceIte]

theorem contAt_take (r : Row) (n k : Nat) :
    contAt (r.take n) k = if k < n then contAt r k else false := by
  unfold contAt; rw [List.getElem?_take]
  by_cases h : k < n <;> simp only [h, ↓reduceIte]

theorem contAt_drop (r : Row) (n k : Nat) : contAt (r.drop n) k = contAt r (n + k) := by
  unfold contAt; rw [List.getElem?_drop]

theorem rowWF_append {r1 r2 : Row} (h1 : rowWF r1 = true) (h2 : rowWF r2 = true) :
    rowWF (r1 ++ r2) = true := by
  obtain ⟨a0, A⟩ := (rowWF_iff r1).1 h1
  obtain ⟨b0, Bq⟩ := (rowWF_iff r2).1 h2
  rw [rowWF_iff]
  refine ⟨?_, ?_⟩
  · rw [contAt_append]; split
    · exact a0
    · simpa using b0
  · intro i t w st hi
    rw [List.getElem?_append] at hi
    rw [List.length_append]
    by_cases h : i < r1.length
    · rw [if_pos h] at hi
      obtain ⟨a, b, c, d⟩ := A i t w st hi
      refine ⟨a, by omega, ?_, ?_⟩
      · intro k hk1 hk2; rw [contAt_append, if_pos (by omega)]; exact c k hk1 hk2
      · rw [contAt_append]; split
        · exact d
        · have : i + w - r1.length = 0 := by omega
          rw [this]; exact b0
    · rw [if_neg h] at hi
      obtain ⟨a, b, c, d⟩ := Bq (i - r1.length) t w st hi
      refine ⟨a, by omega, ?_, ?_⟩
      · intro k hk1 hk2; rw [contAt_append, if_neg (by omega)]; exact c _ (by omega) (by omega)
      · rw [contAt_append, if_neg (by omega)]
        have : i + w - r1.length = i - r1.length + w := by omega
        rw [this]; exact d

theorem rowWF_take {r : Row} {n : Nat} (h : rowWF r = true) (hb : contAt r n = false) :
    rowWF (r.take n) = true := by
  obtain ⟨a0, A⟩ := (rowWF_iff r).1 h
  rw [rowWF_iff]
  refine ⟨?_, ?_⟩
  · rw [contAt_take]; split
    · exact a0
    · rfl
  · intro i t w st hi
    rw [List.getElem?_take] at hi
    by_cases hin : i < n
    · rw [if_pos hin] at hi
      obtain ⟨a, b, c, d⟩ := A i t w st hi
      have hle : i + w ≤ n := by
        false_or_by_contra
        have := c n (by omega) (by omega); rw [this] at hb; cases hb
      refine ⟨a, by rw [List.length_take]; omega, ?_, ?_⟩
      · intro k hk1 hk2; rw [contAt_take, if_pos (by omega)]; exact c k hk1 hk2
      · rw [contAt_take]; split
        · exact d
        · rfl
    · rw [if_neg hin] at hi; cases hi

theorem rowWF_drop {r : Row} {n : Nat} (h : rowWF r = true) (hb : contAt r n = false) :
    rowWF (r.drop n) = true := by
  obtain ⟨a0, A⟩ := (rowWF_iff r).1 h
  rw [rowWF_iff]
  refine ⟨?_, ?_⟩
  · rw [contAt_drop]; exact hb
  · intro i t w st hi
    rw [List.getElem?_drop] at hi
    obtain ⟨a, b, c, d⟩ := A (n + i) t w st hi
    refine ⟨a, by rw [List.length_drop]; omega, ?_, ?_⟩
    · intro k hk1 hk2; rw [contAt_drop]; exact c _ (by omega) (by omega)
    · rw [contAt_drop]
      have : n + (i + w) = n + i + w := by omega
      rw [this]; exact d

theorem contAt_blankRow (w : Nat) (st : Style) (x : Nat) : contAt (blankRow w st) x = false := by
  unfold contAt blankRow
  rw [List.getElem?_replicate]
  split <;> simp_all [blank]

theorem fitRow_self {r : Row} {w : Nat} (st : Style) (h : r.length = w) : fitRow r w st = r := by
  subst h
  unfold fitRow
  have hc : contAt r r.length = false := contAt_ge (Nat.le_refl _)
  rw [if_pos (Nat.le_refl _)]
  simp [hc]

theorem fitRow_blankRow (w0 w : Nat) (st : Style) : fitRow (blankRow w0 st) w st = blankRow w st := by
  unfold fitRow
  rw [contAt_blankRow]
  simp only [blankRow, List.length_replicate]
  split
  · simp [List.take_replicate]; omega
  · simp [List.replicate_append_replicate]; omega

theorem blankRow_wf (n : Nat) (st : Style) : rowWF (blankRow n st) = true := by
  unfold blankRow
  rw [rowWF_iff]
  refine ⟨contAt_blankRow n st 0, ?_⟩
  intro i t w st' hi
  rw [List.getElem?_replicate] at hi
  split at hi
  · simp only [blank, Option.some.injEq, Cell.mk.injEq, Glyph.ch.injEq] at hi
    obtain ⟨⟨_, rfl⟩, _⟩ := hi
    refine ⟨Nat.le_refl _, by simp; omega, fun k h1 h2 => by omega, contAt_blankRow n st _⟩
  · cases hi

theorem rowWF_charCells (t : Bytes) (w : Nat) (st : Style) (hw : 1 ≤ w) :
    rowWF (charCells t w st) = true := by
  rw [rowWF_iff]
  refine ⟨contAt_ch (t := t) (w := w) (st := st) (by rw [getElem?_charCells]; simp), ?_⟩
  intro i t' w' st' hi
  rw [getElem?_charCells] at hi
  by_cases h0 : i = 0
  · subst h0
    simp only [if_true, Option.some.injEq, Cell.mk.injEq, Glyph.ch.injEq] at hi
    obtain ⟨⟨rfl, rfl⟩, rfl⟩ := hi
    refine ⟨hw, by rw [charCells_length]; omega, ?_, ?_⟩
    · intro k h1 h2
      apply contAt_cont (st := st)
      rw [getElem?_charCells, if_neg (by omega), if_pos (by omega)]
    · apply contAt_none
      rw [getElem?_charCells, if_neg (by omega), if_neg (by omega)]
  · rw [if_neg h0] at hi
    split at hi <;> simp at hi

/-! ### `contAt`, `headOf`, `widthAt`, `endOf` behind a prefix and inside the character at the head of a row -/

theorem contAt_append_right (A B : Row) (k : Nat) : contAt (A ++ B) (A.length + k) = contAt B k := by
  rw [contAt_append, if_neg (by omega), Nat.add_sub_cancel_left]

theorem widthAt_append_right (A B : Row) (k : Nat) : widthAt (A ++ B) (A.length + k) = widthAt B k := by
  unfold widthAt
  rw [List.getElem?_append_right (by omega), Nat.add_sub_cancel_left]

/-- right of a character boundary `headOf` does not look left of it -/
theorem headOf_append (A : Row) {B : Row} (hB : contAt B 0 = false) (k : Nat) :
    headOf (A ++ B) (A.length + k) = A.length + headOf B k := by
  induction k with
  | zero => exact headOf_of_not_cont (by rw [contAt_append, if_neg (by omega)]; simpa using hB)
  | succ k ih =>
    show (if contAt (A ++ B) (A.length + k + 1) then headOf (A ++ B) (A.length + k) else _) =
      A.length + if contAt B (k + 1) then headOf B k else k + 1
    rw [contAt_append, if_neg (show ¬ A.length + k + 1 < A.length by omega),
      show A.length + k + 1 - A.length = k + 1 by omega, ih]
    split <;> rfl

theorem C02Span.endOf_append (A : Row) {B : Row} (hB : contAt B 0 = false) (k : Nat) :
    C02Span.endOf (A ++ B) (A.length + k) = A.length + C02Span.endOf B k := by
  unfold C02Span.endOf
  rw [contAt_append_right, headOf_append A hB, widthAt_append_right]
  split <;> omega

theorem contAt_charCells (t : Bytes) {w k : Nat} (h0 : 0 < k) (hk : k < w) (s : Style) (B : Row) :
    contAt (charCells t w s ++ B) k = true :=
  contAt_cont (st := s) (by
    rw [List.getElem?_append_left (by rw [charCells_length]; omega), getElem?_charCells,
      if_neg (by omega), if_pos hk])

theorem headOf_charCells (t : Bytes) {w k : Nat} (hk : k < w) (s : Style) (B : Row) :
    headOf (charCells t w s ++ B) k = 0 :=
  headOf_unique _ k 0 (Nat.zero_le _) (fun _ h1 h2 => contAt_charCells t h1 (by omega) s B) (Or.inl rfl)

theorem widthAt_charCells (t : Bytes) {w : Nat} (hw : 1 ≤ w) (s : Style) (B : Row) :
    widthAt (charCells t w s ++ B) 0 = w := by
  simp only [widthAt, charCells, List.cons_append, List.getElem?_cons_zero]; omega

theorem C02Span.endOf_charCells (t : Bytes) {w k : Nat} (h0 : 0 < k) (hk : k < w) (s : Style) (B : Row) :
    C02Span.endOf (charCells t w s ++ B) k = w := by
  unfold C02Span.endOf
  rw [contAt_charCells t h0 hk, if_pos rfl, headOf_charCells t hk, widthAt_charCells t (by omega),
    Nat.zero_add]

/-! ### the character cut by a column boundary: `Row.inCut`, `Row.fixAt`, `blankStraddlers`

`blankStraddlers r a b` is two steps of `Row.fixAt`; in a well-formed row it blanks exactly the
cells `Row.inCut r a` and `Row.inCut r b`. -/

namespace C05

/-- Column `i` belongs to the character that owns the continuation cell at column `c`
    (`headOf r c` is its first column, `widthAt r (headOf r c)` its width): the character is
    "cut" by a range boundary placed between columns `c - 1` and `c`. False when column `c` is
    not a continuation cell (then no character straddles that boundary). -/
def inCut (r : Row) (c i : Nat) : Prop :=
  contAt r c = true ∧ headOf r c ≤ i ∧ i < headOf r c + widthAt r (headOf r c)

instance (r : Row) (c i : Nat) : Decidable (inCut r c i) :=
  inferInstanceAs (Decidable (contAt r c = true ∧ headOf r c ≤ i ∧ i < headOf r c + widthAt r (headOf r c)))

end C05

namespace C03.Lemmas

/-- one step of `blankStraddlers` -/
def fixAt (r : Row) (c : Nat) (st : Style) : Row := if contAt r c then blankCharAt r c st else r

end C03.Lemmas

/- `inCut` and `fixAt` stand in the namespaces of the property files that state their theorems
   with them; the lemmas here call them `Row.inCut` and `Row.fixAt` -/
namespace Row
export C05 (inCut)
export C03.Lemmas (fixAt)
end Row

theorem blankStraddlers_eq_fixAt (r : Row) (a b : Nat) (st : Style) :
    blankStraddlers r a b st = Row.fixAt (Row.fixAt r a st) b st := rfl

theorem cutRow_eq_fixAt (r : Row) (W : Nat) (st : Style) : cutRow r W st = (Row.fixAt r W st).take W := rfl

theorem Row.fixAt_of_not_cont {r : Row} {c : Nat} {st : Style} (h : contAt r c = false) :
    Row.fixAt r c st = r := by
  simp [Row.fixAt, h]

theorem Row.fixAt_of_cont {r : Row} {c : Nat} {st : Style} (h : contAt r c = true) :
    Row.fixAt r c st = blankRange r (headOf r c) (widthAt r (headOf r c)) st := by
  rw [Row.fixAt, if_pos h, blankCharAt_of_cont st h]

@[simp] theorem Row.fixAt_length (r : Row) (c : Nat) (st : Style) : (Row.fixAt r c st).length = r.length := by
  cases h : contAt r c
  · rw [Row.fixAt_of_not_cont h]
  · rw [Row.fixAt_of_cont h, blankRange_length]

theorem Row.not_inCut_of_not_cont {r : Row} {c : Nat} (h : contAt r c = false) (i : Nat) :
    ¬ Row.inCut r c i := fun hi => by rw [hi.1] at h; cases h

theorem Row.getElem?_fixAt (r : Row) (c : Nat) (st : Style) (i : Nat) :
    (Row.fixAt r c st)[i]? =
      if Row.inCut r c i ∧ i < r.length then some (blank st) else r[i]? := by
  cases h : contAt r c
  · rw [Row.fixAt_of_not_cont h, if_neg (fun hh => Row.not_inCut_of_not_cont h i hh.1)]
  · rw [Row.fixAt_of_cont h, getElem?_blankRange]
    simp [Row.inCut, h, and_assoc]

theorem Row.contAt_fixAt_imp {r : Row} {c k : Nat} {st : Style}
    (h : contAt (Row.fixAt r c st) k = true) : contAt r k = true := by
  obtain ⟨st', hst⟩ := contAt_iff.1 h
  rw [Row.getElem?_fixAt] at hst
  split at hst
  · simp [blank] at hst
  · exact contAt_cont hst

theorem getElem?_cutRow (r : Row) (W : Nat) (st : Style) (i : Nat) :
    (cutRow r W st)[i]? = if i < W then (Row.fixAt r W st)[i]? else none := by
  rw [cutRow_eq_fixAt, List.getElem?_take]

theorem getElem?_fitRow_old (r : Row) (w : Nat) (st : Style) (x : Nat) (hx : x < w)
    (hxr : x < r.length) :
    (fitRow r w st)[x]? = if Row.inCut r w x then some (blank st) else r[x]? := by
  have : (fitRow r w st)[x]? = (Row.fixAt r w st)[x]? := by
    unfold fitRow; split
    · exact (List.getElem?_take).trans (if_pos hx)
    · rw [List.getElem?_append_left hxr, Row.fixAt_of_not_cont (contAt_ge (by omega))]
  rw [this, Row.getElem?_fixAt]; simp only [hxr, and_true]

theorem getElem?_fitRow_new (r : Row) (w : Nat) (st : Style) (x : Nat) (hx : x < w)
    (hxr : r.length ≤ x) : (fitRow r w st)[x]? = some (blank st) := by
  unfold fitRow
  rw [if_neg (by omega), List.getElem?_append, if_neg (by omega), List.getElem?_replicate,
    if_pos (by omega)]

theorem blankStraddlers_clean {r : Row} {a b : Nat} {st : Style}
    (ha : contAt r a = false) (hb : contAt r b = false) : blankStraddlers r a b st = r := by
  rw [blankStraddlers_eq_fixAt, Row.fixAt_of_not_cont ha, Row.fixAt_of_not_cont hb]

theorem Row.inCut_lt_length {r : Row} (hwf : rowWF r = true) {c i : Nat} (h : Row.inCut r c i) :
    i < r.length := by
  obtain ⟨t, w, s, _, _, hwid, _, _, hlen, _⟩ := wf_cut hwf h.1
  have := h.2.2; rw [hwid] at this; omega

theorem Row.inCut_self {r : Row} (hwf : rowWF r = true) {c : Nat} (hc : contAt r c = true) :
    Row.inCut r c c := by
  obtain ⟨_, _, _, _, _, hwid, _, hcw, _⟩ := wf_cut hwf hc
  exact ⟨hc, headOf_le r c, by rw [hwid]; exact hcw⟩

theorem Row.contAt_fixAt_self {r : Row} (hwf : rowWF r = true) (c : Nat) (st : Style) :
    contAt (Row.fixAt r c st) c = false := by
  cases hc : contAt r c
  · rw [Row.fixAt_of_not_cont hc]; exact hc
  · exact contAt_blank (st := st)
      (by rw [Row.getElem?_fixAt, if_pos ⟨Row.inCut_self hwf hc, contAt_lt hc⟩])

theorem Row.inCut_same {r : Row} (hwf : rowWF r = true) {c i : Nat} (h : Row.inCut r c i) (c' : Nat)
    (h1 : headOf r c < c') (h2 : c' < headOf r c + widthAt r (headOf r c)) : Row.inCut r c' i := by
  obtain ⟨t, w, s, hcell, _, hwid, _, _, _, hconts, _, _⟩ := wf_cut hwf h.1
  rw [hwid] at h2
  have hu : headOf r c' = headOf r c := wf_headOf_eq hwf hcell (by omega) h2
  refine ⟨hconts c' h1 h2, ?_, ?_⟩
  · rw [hu]; exact h.2.1
  · rw [hu]; exact h.2.2

theorem Row.inCut_of_lt {r : Row} (hwf : rowWF r = true) {c c' i : Nat} (h : Row.inCut r c' i)
    (h1 : i < c) (h2 : c ≤ c') : Row.inCut r c i := by
  obtain ⟨_, w, _, _, _, hwid, _, hcw, _⟩ := wf_cut hwf h.1
  exact Row.inCut_same hwf h c (by have := h.2.1; omega) (by rw [hwid]; omega)

theorem Row.inCut_of_ge {r : Row} (hwf : rowWF r = true) {c c' i : Nat} (h : Row.inCut r c i)
    (h1 : c' ≤ i) (h2 : c ≤ c') : Row.inCut r c' i := by
  obtain ⟨_, _, _, _, _, _, hlt, _⟩ := wf_cut hwf h.1
  exact Row.inCut_same hwf h c' (by omega) (by have := h.2.2; omega)

theorem Row.inCut_or_left {r : Row} (hwf : rowWF r = true) {a b i : Nat} (hab : a ≤ b) (hi : i < a) :
    (Row.inCut r a i ∨ Row.inCut r b i) ↔ Row.inCut r a i :=
  ⟨fun h => h.elim id fun h => Row.inCut_of_lt hwf h hi hab, Or.inl⟩

theorem Row.inCut_or_right {r : Row} (hwf : rowWF r = true) {a b i : Nat} (hab : a ≤ b) (hi : b ≤ i) :
    (Row.inCut r a i ∨ Row.inCut r b i) ↔ Row.inCut r b i :=
  ⟨fun h => h.elim (fun h => Row.inCut_of_ge hwf h hi hab) id, Or.inr⟩

theorem Row.inCut_min (r : Row) (b i : Nat) : Row.inCut r (min b r.length) i ↔ Row.inCut r b i := by
  rcases Nat.le_total b r.length with h | h
  · rw [Nat.min_eq_left h]
  · rw [Nat.min_eq_right h]
    simp [Row.inCut, contAt_ge (Nat.le_refl _), contAt_ge h]

/-- `Row.inCut r c` looks at the cells from `headOf r c` to `c` only -/
theorem Row.inCut_congr {r r' : Row} {c : Nat}
    (h : ∀ j, headOf r c ≤ j → j ≤ c → r'[j]? = r[j]?) (i : Nat) :
    Row.inCut r' c i ↔ Row.inCut r c i := by
  have hle := headOf_le r c
  unfold Row.inCut
  rw [contAt_congr (h c hle (Nat.le_refl _)), headOf_congr fun j a b => contAt_congr (h j a b),
    widthAt_congr (h _ (Nat.le_refl _) hle)]

/-- the second step of `blankStraddlers` read on the original row -/
theorem Row.inCut_fixAt {r : Row} (hwf : rowWF r = true) (a b i : Nat) (st : Style) :
    (Row.inCut r a i ∨ Row.inCut (Row.fixAt r a st) b i) ↔ (Row.inCut r a i ∨ Row.inCut r b i) := by
  cases ha : contAt r a with
  | false => rw [Row.fixAt_of_not_cont ha]
  | true =>
    obtain ⟨t, w, s, hcell, hw2, hwid, hlt, hcw, hlen, hconts, hhd, hend⟩ := wf_cut hwf ha
    have hia : ∀ j, Row.inCut r a j ↔ (headOf r a ≤ j ∧ j < headOf r a + w) := by
      intro j; simp [Row.inCut, ha, hwid]
    have hr1 : ∀ j, (Row.fixAt r a st)[j]? =
        if headOf r a ≤ j ∧ j < headOf r a + w then some (blank st) else r[j]? := by
      intro j
      rw [Row.getElem?_fixAt]
      by_cases hj : headOf r a ≤ j ∧ j < headOf r a + w
      · rw [if_pos ⟨(hia j).2 hj, by omega⟩, if_pos hj]
      · rw [if_neg (fun h => hj ((hia j).1 h.1)), if_neg hj]
    by_cases hb : headOf r a ≤ b ∧ b < headOf r a + w
    · -- `b` lies in the same character: the second step finds a blank at `b`, nothing to do
      have h1 : ¬ Row.inCut (Row.fixAt r a st) b i :=
        Row.not_inCut_of_not_cont (contAt_blank (st := st) (by rw [hr1, if_pos hb])) i
      have h2 : Row.inCut r b i → Row.inCut r a i := by
        intro h
        have hu : headOf r b = headOf r a := wf_headOf_eq hwf hcell hb.1 hb.2
        rw [hia]; have := h.2; rw [hu, hwid] at this; exact this
      exact ⟨fun h => h.elim Or.inl (fun h' => absurd h' h1),
        fun h => h.elim Or.inl (fun h' => Or.inl (h2 h'))⟩
    · -- `b` lies outside: the cell after the blanked character is not a continuation cell, so
      -- the cells from `headOf r b` to `b` lie outside it too and are untouched by the first step
      rw [Row.inCut_congr (r := r) (r' := Row.fixAt r a st) fun j j1 j2 => by
        rw [hr1, if_neg]
        intro hj
        have := headOf_cont r b (headOf r a + w) (by omega) (by omega)
        rw [this] at hend; cases hend]

theorem getElem?_blankStraddlers {r : Row} (hwf : rowWF r = true) (a b : Nat) (st : Style)
    (i : Nat) :
    (blankStraddlers r a b st)[i]? =
      if Row.inCut r a i ∨ Row.inCut r b i then some (blank st) else r[i]? := by
  rw [blankStraddlers_eq_fixAt, Row.getElem?_fixAt, Row.getElem?_fixAt, Row.fixAt_length]
  have key := Row.inCut_fixAt hwf a b i st
  by_cases h : Row.inCut r a i ∨ Row.inCut r b i
  · have hl : i < r.length := h.elim (Row.inCut_lt_length hwf) (Row.inCut_lt_length hwf)
    rw [if_pos h]
    rcases key.2 h with h' | h'
    · by_cases h1 : Row.inCut (Row.fixAt r a st) b i ∧ i < r.length
      · rw [if_pos h1]
      · rw [if_neg h1, if_pos ⟨h', hl⟩]
    · rw [if_pos ⟨h', hl⟩]
  · rw [if_neg h, if_neg (fun h1 => h (key.1 (Or.inr h1.1))), if_neg (fun h2 => h (Or.inl h2.1))]

theorem contAt_blankStraddlers_imp {r : Row} {a b k : Nat} {st : Style}
    (h : contAt (blankStraddlers r a b st) k = true) : contAt r k = true :=
  Row.contAt_fixAt_imp (Row.contAt_fixAt_imp (blankStraddlers_eq_fixAt r a b st ▸ h))

/-- both ends of the range are character boundaries afterwards: no continuation cell is made, and
    one that stood at `a` or `b` is blanked with its character -/
theorem contAt_blankStraddlers_at {r : Row} (hwf : rowWF r = true) (a b : Nat) (st : Style) {c : Nat}
    (hc : c = a ∨ c = b) : contAt (blankStraddlers r a b st) c = false := by
  cases h : contAt (blankStraddlers r a b st) c with
  | false => rfl
  | true =>
    have hs := Row.inCut_self hwf (contAt_blankStraddlers_imp h)
    rw [contAt_blank (st := st) (by
      rw [getElem?_blankStraddlers hwf, if_pos (hc.elim (fun e => .inl (e ▸ hs)) fun e => .inr (e ▸ hs))])] at h
    cases h

theorem contAt_put_end {r : Row} (hwf : rowWF r = true) (x : Nat) (t : Bytes) {w : Nat} (hw : 1 ≤ w)
    (st : Style) : contAt (r.put x t w st) (x + w) = false := by
  rw [contAt_congr ((getElem?_put r x t w st (x + w)).trans (if_neg (by omega)))]
  exact contAt_blankStraddlers_at hwf x (x + w) st (.inr rfl)

/-! ### where the cells of an edited row come from -/

theorem mem_blankRange {r : Row} {a n : Nat} {st : Style} {c : Cell} (h : c ∈ blankRange r a n st) :
    c ∈ r ∨ c = blank st := by
  unfold blankRange at h
  rw [List.mem_mapIdx] at h
  obtain ⟨i, hi, rfl⟩ := h
  split
  · exact Or.inr rfl
  · exact Or.inl (List.getElem_mem _)

theorem mem_blankCharAt {r : Row} {x : Nat} {st : Style} {c : Cell} (h : c ∈ blankCharAt r x st) :
    c ∈ r ∨ c = blank st := by
  unfold blankCharAt at h
  simp only at h
  split at h
  · exact Or.inl h
  · exact mem_blankRange h

theorem Row.mem_fixAt {r : Row} {c : Nat} {st : Style} {x : Cell} (h : x ∈ Row.fixAt r c st) :
    x ∈ r ∨ x = blank st := by
  unfold Row.fixAt at h
  split at h
  · exact mem_blankCharAt h
  · exact Or.inl h

theorem mem_blankStraddlers {r : Row} {a b : Nat} {st : Style} {c : Cell}
    (h : c ∈ blankStraddlers r a b st) : c ∈ r ∨ c = blank st := by
  rw [blankStraddlers_eq_fixAt] at h
  rcases Row.mem_fixAt h with h | h
  · exact Row.mem_fixAt h
  · exact Or.inr h

theorem mem_charCells {t : Bytes} {w : Nat} {st : Style} {c : Cell} (h : c ∈ charCells t w st) :
    c = ⟨.ch t w, st⟩ ∨ c = ⟨.cont, st⟩ := by
  simp only [charCells, List.mem_cons, List.mem_replicate] at h
  exact h.imp id And.right

theorem mem_setRange {r : Row} {a : Nat} {cells : List Cell} {c : Cell}
    (h : c ∈ setRange r a cells) : c ∈ r ∨ c ∈ cells := by
  unfold setRange at h
  rw [List.mem_mapIdx] at h
  obtain ⟨i, hi, rfl⟩ := h
  split
  · next hc =>
    right
    rw [List.getD_eq_getElem?_getD, List.getElem?_eq_getElem (by omega)]
    exact List.getElem_mem _
  · exact Or.inl (List.getElem_mem _)

theorem mem_put {r : Row} {x w : Nat} {t : Bytes} {st : Style} {c : Cell}
    (h : c ∈ r.put x t w st) : c ∈ r ∨ c = blank st ∨ c ∈ charCells t w st := by
  unfold Row.put at h
  rcases mem_setRange h with h | h
  · rcases mem_blankStraddlers h with h | h
    · exact Or.inl h
    · exact Or.inr (Or.inl h)
  · exact Or.inr (Or.inr h)

theorem mem_fixTail {r : Row} {st : Style} {c : Cell} (h : c ∈ fixTail r st) :
    c ∈ r ∨ c = blank st := by
  unfold fixTail at h
  split at h
  · split at h
    · simp only [List.mem_append, List.mem_singleton] at h
      rcases h with h | h
      · rw [List.dropLast_eq_take] at h; exact Or.inl (List.mem_of_mem_take h)
      · exact Or.inr h
    · exact Or.inl h
  · exact Or.inl h

theorem mem_cutRow {r : Row} {W : Nat} {st : Style} {c : Cell} (h : c ∈ cutRow r W st) :
    c ∈ r ∨ c = blank st := by
  rw [cutRow_eq_fixAt] at h
  exact Row.mem_fixAt (List.mem_of_mem_take h)

theorem mem_putKeep {r : Row} {x w : Nat} {t : Bytes} {st : Style} {c : Cell}
    (h : c ∈ r.putKeep x t w st) : c ∈ r ∨ c = blank st ∨ c ∈ charCells t w st := by
  unfold Row.putKeep at h
  simp only at h
  rcases mem_cutRow h with h | h
  · simp only [List.mem_append] at h
    rcases h with (h | h) | h
    · exact Or.inl (List.mem_of_mem_take h)
    · exact Or.inr (Or.inr h)
    · split at h
      · simp only [List.mem_append, List.mem_replicate] at h
        rcases h with h | h
        · exact Or.inr (Or.inl h.2)
        · exact Or.inl (List.mem_of_mem_drop h)
      · rcases Row.mem_fixAt (List.mem_of_mem_drop h) with h | h
        · exact Or.inl h
        · exact Or.inr (Or.inl h)
  · exact Or.inr (Or.inl h)

/-! ### `Row.erase` and `Row.dch` cell by cell -/

theorem erase_empty (r : Row) (a b : Nat) (st : Style) (h : min b r.length ≤ a) :
    r.erase a b st = r := by
  unfold Row.erase; simp only []; rw [if_pos h]

theorem erase_min (r : Row) (a b : Nat) (st : Style) :
    r.erase a (min b r.length) st = r.erase a b st := by
  unfold Row.erase
  simp only [Nat.min_assoc, Nat.min_self]

theorem getElem?_erase {r : Row} (hwf : rowWF r = true) (a b : Nat) (st : Style)
    (hab : a < min b r.length) (i : Nat) :
    (r.erase a b st)[i]? =
      if (a ≤ i ∧ i < b ∧ i < r.length) ∨ Row.inCut r a i ∨ Row.inCut r b i
      then some (blank st) else r[i]? := by
  unfold Row.erase
  simp only []
  rw [if_neg (by omega), getElem?_blankRange, getElem?_blankStraddlers hwf, blankStraddlers_length]
  simp only [Row.inCut_min]
  by_cases h2 : a ≤ i ∧ i < b ∧ i < r.length
  · rw [if_pos (by omega), if_pos (Or.inl h2)]
  · rw [if_neg (by omega)]
    by_cases h3 : Row.inCut r a i ∨ Row.inCut r b i
    · rw [if_pos h3, if_pos (Or.inr h3)]
    · rw [if_neg h3, if_neg (fun h => h.elim h2 h3)]

theorem erase_nil (a b : Nat) (st : Style) : Row.erase [] a b st = [] := by
  apply List.eq_nil_of_length_eq_zero; rw [erase_length]; rfl

theorem erase_max_left (r : Row) (a b : Nat) (st : Style) :
    r.erase a (max b a) st = r.erase a b st := by
  rcases Nat.le_total a b with h | h
  · rw [Nat.max_eq_left h]
  · rw [Nat.max_eq_right h, erase_empty r a a st (by omega), erase_empty r a b st (by omega)]

/-- `Row.dch` with `n' = min n (r.length - x)`: left part, the cells shifted by `n'`, `n'` blanks -/
theorem getElem?_dch (r : Row) (x n : Nat) (st : Style) (hx : x < r.length) (hn : 0 < n) (i : Nat) :
    (r.dch x n st)[i]? =
      if i < x then (blankStraddlers r x (x + min n (r.length - x)) st)[i]?
      else if i < r.length - min n (r.length - x) then
        (blankStraddlers r x (x + min n (r.length - x)) st)[i + min n (r.length - x)]?
      else if i < r.length then some (blank st) else none := by
  unfold Row.dch
  simp only []
  rw [if_neg (by omega)]
  have hl := blankStraddlers_length r x (x + min n (r.length - x)) st
  generalize blankStraddlers r x (x + min n (r.length - x)) st = r1 at hl ⊢
  generalize hn' : min n (r.length - x) = n'
  have hn1 : 0 < n' := by omega
  have hn2 : x + n' ≤ r.length := by omega
  rw [getElem?_append3]
  simp only [List.length_take, List.length_drop, hl, Nat.min_eq_left (show x ≤ r.length by omega)]
  by_cases h1 : i < x
  · rw [if_pos h1, if_pos h1, List.getElem?_take, if_pos h1]
  · rw [if_neg h1, if_neg h1]
    by_cases h2 : i < r.length - n'
    · rw [if_pos h2, if_pos (by omega), List.getElem?_drop]; congr 1; omega
    · rw [if_neg h2, if_neg (by omega), List.getElem?_replicate]
      by_cases h3 : i < r.length
      · rw [if_pos h3, if_pos (by omega)]
      · rw [if_neg h3, if_neg (by omega)]

theorem dch_nil (x n : Nat) (st : Style) : Row.dch [] x n st = [] := by
  apply List.eq_nil_of_length_eq_zero; rw [dch_length]; rfl

end TM
