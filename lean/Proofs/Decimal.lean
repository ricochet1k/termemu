import TM.Basic
import Proofs.Bits
/-!
# Decimal: `itoa` (Go's `strconv.Itoa`) writes digits that read back as the number

`itoa` is computed with fuel and an accumulator; `itoa_lt_ten` and `itoa_ge_ten` are its equations
without either, and `itoa_induction` is the induction over those two, by which every fact about
the digits of a number is proved.
-/
namespace TM

theorem digit_isDigit (d : Nat) (h : d < 10) : isDigit (UInt8.ofNat (48 + d)) = true := by
  simp only [isDigit, Bool.and_eq_true, decide_eq_true_eq, UInt8.le_iff_toNat_le, digit_toNat d h]
  change 48 ≤ 48 + d ∧ 48 + d ≤ 57
  omega

theorem natDigitsAux_acc (fuel n : Nat) (acc : Bytes) :
    natDigitsAux fuel n acc = natDigitsAux fuel n [] ++ acc := by
  induction fuel generalizing n acc with
  | zero => rfl
  | succ fuel ih =>
    simp only [natDigitsAux]
    split
    · rfl
    · rw [ih _ (_ :: acc), ih _ [_], List.append_assoc]; rfl

theorem natDigitsAux_fuel (f f' n : Nat) (h : n < f) (h' : n < f') :
    natDigitsAux f n [] = natDigitsAux f' n [] := by
  induction f generalizing n f' with
  | zero => omega
  | succ f ih =>
    obtain ⟨f', rfl⟩ : ∃ k, f' = k + 1 := ⟨f' - 1, by omega⟩
    simp only [natDigitsAux]
    split
    · rfl
    · rw [natDigitsAux_acc f, natDigitsAux_acc f', ih f' (n / 10) (by omega) (by omega)]

theorem itoa_lt_ten (n : Nat) (h : n < 10) : itoa n = [UInt8.ofNat (48 + n)] := by
  simp only [itoa, natDigitsAux]
  rw [if_pos (by omega), Nat.mod_eq_of_lt h]

theorem itoa_ge_ten (n : Nat) (h : 10 ≤ n) :
    itoa n = itoa (n / 10) ++ [UInt8.ofNat (48 + n % 10)] := by
  show natDigitsAux (n + 1) n [] = natDigitsAux (n / 10 + 1) (n / 10) [] ++ _
  rw [natDigitsAux, if_neg (by omega), natDigitsAux_acc,
    natDigitsAux_fuel n (n / 10 + 1) _ (by omega) (by omega)]

/-- the digits of a number, most significant first: a fact about `n` and `itoa n` that holds of one
    digit and is kept when a digit is appended holds of every number -/
theorem itoa_induction (P : Nat → Bytes → Prop) (h0 : ∀ d, d < 10 → P d [UInt8.ofNat (48 + d)])
    (hs : ∀ m l d, 0 < m → d < 10 → P m l → P (m * 10 + d) (l ++ [UInt8.ofNat (48 + d)]))
    (n : Nat) : P n (itoa n) := by
  induction n using Nat.strongRecOn with
  | ind n ih =>
    by_cases h : n < 10
    · rw [itoa_lt_ten n h]
      exact h0 n h
    · rw [itoa_ge_ten n (by omega)]
      have := hs (n / 10) _ (n % 10) (by omega) (Nat.mod_lt _ (by decide)) (ih (n / 10) (by omega))
      rwa [Nat.div_add_mod' n 10] at this

theorem itoa_ne_nil (n : Nat) : itoa n ≠ [] :=
  itoa_induction (fun _ l => l ≠ []) (fun _ _ => List.cons_ne_nil _ _)
    (fun _ _ _ _ _ _ => List.append_ne_nil_of_right_ne_nil _ (List.cons_ne_nil _ _)) n

theorem itoa_digits (n : Nat) : ∀ b ∈ itoa n, isDigit b = true :=
  itoa_induction (fun _ l => ∀ b ∈ l, isDigit b = true)
    (fun d hd b hb => by rw [List.mem_singleton.1 hb]; exact digit_isDigit d hd)
    (fun _ l d _ hd ih b hb => by
      rcases List.mem_append.1 hb with hb | hb
      · exact ih b hb
      · rw [List.mem_singleton.1 hb]; exact digit_isDigit d hd) n

theorem itoa_head (n : Nat) : ∃ d tl, itoa n = d :: tl ∧ isDigit d = true := by
  cases e : itoa n with
  | nil => exact absurd e (itoa_ne_nil n)
  | cons d tl => exact ⟨d, tl, rfl, itoa_digits n d (by simp [e])⟩

theorem itoa_val (n : Nat) : (itoa n).foldl (fun a d => a * 10 + (d.toNat - 48)) 0 = n :=
  itoa_induction (fun n l => l.foldl (fun a d => a * 10 + (d.toNat - 48)) 0 = n)
    (fun d hd => by rw [List.foldl_cons, List.foldl_nil, digit_toNat d hd]; omega)
    (fun m l d _ hd ih => by
      rw [List.foldl_append, ih, List.foldl_cons, List.foldl_nil, digit_toNat d hd]; omega) n

/-- a digit is none of the bytes that are not digits (`:`, `;`, the CSI prefix bytes) -/
theorem isDigit_ne {b c : UInt8} (h : isDigit b = true) (hc : isDigit c = false) : b ≠ c :=
  fun e => Bool.false_ne_true (hc.symm.trans (e ▸ h))

end TM
