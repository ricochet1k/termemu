import Proofs.Row
/-!
# Screens

What the operations of `TM.Screen` do to a whole screen, row by row. `Scr.inv` is read by names
(`inv_glen`, `inv_rows`, `inv_row`, and `Geo`, the structure of its eight bounds on sizes, cursors
and margins). The rows of `scroll` are `scrollRows`, stated for any kind of row so that the concrete
screens of the refinements share it; `scroll`, `lineDown` and `lineUp` keep the frame (`Scr.Frame`)
and only move rows or bring in blank ones (`Scr.Shift`). `Scr.put` is read in `Proofs/Put`, the rows
that leave through the top are counted in `Proofs/Lost`, why every operation keeps `Geo` is said in
`Proofs/Refine`.
-/
namespace TM

/-! ### `clampNat` -/

theorem clampNat_le (v : Int) (hi : Nat) : clampNat v hi ≤ hi := by unfold clampNat; omega

theorem clampNat_ofNat {n hi : Nat} (h : n ≤ hi) : clampNat (n : Int) hi = n := by
  unfold clampNat; omega

theorem clampNat_mono {t b : Int} (h : t ≤ b) (hi : Nat) : clampNat t hi ≤ clampNat b hi := by
  unfold clampNat; omega

theorem clampNat_succ {n hi : Nat} (h : n < hi) : clampNat ((n : Int) + 1) hi = n + 1 := by
  unfold clampNat; omega

theorem clampNat_ofNat_add (n m hi : Nat) : clampNat ((n : Int) + (m : Int)) hi = min (n + m) hi := by
  unfold clampNat; omega

theorem clampNat_of_nonpos {v : Int} (h : v ≤ 0) (hi : Nat) : clampNat v hi = 0 := by
  unfold clampNat; omega

theorem clampNat_of_ge {v : Int} {hi : Nat} (h : (hi : Int) ≤ v) : clampNat v hi = hi := by
  unfold clampNat; omega

theorem clampNat_cast {v : Int} {hi : Nat} (h0 : 0 ≤ v) (h1 : v ≤ hi) : (clampNat v hi : Int) = v := by
  unfold clampNat; omega

theorem clampNat_eq_min (v : Int) (hi : Nat) : clampNat v hi = min v.toNat hi := by
  unfold clampNat; omega

theorem clampNat_lt_iff (t b : Int) (hi : Nat) :
    clampNat b hi < clampNat t hi ↔ max b 0 < t ∧ max b 0 < hi := by
  unfold clampNat; omega

/-! ### rows of a screen, the invariant -/

theorem inv_iff (s : Scr) : s.inv = true ↔
    (1 ≤ s.w ∧ 1 ≤ s.h ∧ s.grid.length = s.h ∧ (∀ r ∈ s.grid, r.length = s.w ∧ rowWF r = true) ∧
      s.cx < s.w ∧ s.cy < s.h ∧ s.sx < s.w ∧ s.sy < s.h ∧ s.top ≤ s.bot ∧ s.bot < s.h) := by
  simp [Scr.inv, and_assoc]

/-- `Scr.inv` without what it says about the rows -/
structure Geo (s : Scr) : Prop where
  w_pos : 1 ≤ s.w
  h_pos : 1 ≤ s.h
  cx_lt : s.cx < s.w
  cy_lt : s.cy < s.h
  sx_lt : s.sx < s.w
  sy_lt : s.sy < s.h
  top_le : s.top ≤ s.bot
  bot_lt : s.bot < s.h

theorem inv_iff_geo (s : Scr) : s.inv = true ↔
    s.grid.length = s.h ∧ (∀ r ∈ s.grid, r.length = s.w ∧ rowWF r = true) ∧ Geo s := by
  rw [inv_iff]
  constructor
  · rintro ⟨h1, h2, h3, h4, h5, h6, h7, h8, h9, h10⟩; exact ⟨h3, h4, h1, h2, h5, h6, h7, h8, h9, h10⟩
  · rintro ⟨h3, h4, g⟩
    exact ⟨g.w_pos, g.h_pos, h3, h4, g.cx_lt, g.cy_lt, g.sx_lt, g.sy_lt, g.top_le, g.bot_lt⟩

theorem geo_of_inv {s : Scr} (h : s.inv = true) : Geo s := ((inv_iff_geo s).1 h).2.2

theorem inv_glen {s : Scr} (h : s.inv = true) : s.grid.length = s.h := ((inv_iff_geo s).1 h).1

theorem inv_rows {s : Scr} (h : s.inv = true) : ∀ r ∈ s.grid, r.length = s.w ∧ rowWF r = true :=
  ((inv_iff_geo s).1 h).2.1

theorem Scr.ext {a b : Scr} (w : a.w = b.w) (h : a.h = b.h) (grid : a.grid = b.grid)
    (cx : a.cx = b.cx) (cy : a.cy = b.cy) (sx : a.sx = b.sx) (sy : a.sy = b.sy)
    (top : a.top = b.top) (bot : a.bot = b.bot) (wrap : a.wrap = b.wrap) (sty : a.sty = b.sty) :
    a = b := by
  cases a; cases b; simp_all

theorem row_eq (s : Scr) (y : Nat) : s.row y = (s.grid[y]?).getD [] := by
  unfold Scr.row; rw [List.getD_eq_getElem?_getD]

theorem row_mem (s : Scr) (y : Nat) (h : y < s.grid.length) : s.row y ∈ s.grid := getD_mem h _

theorem row_eq_getElem (s : Scr) (y : Nat) (hy : y < s.grid.length) : s.row y = s.grid[y] := by
  rw [row_eq, List.getElem?_eq_getElem hy]; rfl

theorem row_nil {s : Scr} {y : Nat} (h : s.grid.length ≤ y) : s.row y = [] := by
  rw [row_eq, List.getElem?_eq_none h]; rfl

theorem inv_row {s : Scr} (h : s.inv = true) {y : Nat} (hy : y < s.h) :
    (s.row y).length = s.w ∧ rowWF (s.row y) = true :=
  inv_rows h _ (row_mem s y (inv_glen h ▸ hy))

theorem row_setRow (s : Scr) (c : Nat) (r : Row) (y : Nat) :
    (s.setRow c r).row y = if y = c ∧ c < s.grid.length then r else s.row y := by
  simp only [row_eq, Scr.setRow, List.getElem?_set]
  by_cases h : c = y
  · subst h
    by_cases hl : c < s.grid.length
    · simp [hl]
    · simp [hl]
  · have : ¬ (y = c ∧ c < s.grid.length) := fun hh => h hh.1.symm
    simp [h, this]

/-! ### `scrollRows`: the row list of `scroll`, for any kind of row -/

/-- rows `[a,b]` of `L` shifted by `d` (down if positive), vacated rows `blank` -/
def scrollRows {α : Type} (blank : α) (L : List α) (a b : Nat) (d : Int) : List α :=
  let n := b - a + 1
  let k := min d.natAbs n
  let region := (L.drop a).take n
  let blanks := List.replicate k blank
  L.take a ++ (if d ≥ 0 then blanks ++ region.take (n - k) else region.drop k ++ blanks) ++ L.drop (b + 1)

theorem scrollRows_length {α : Type} (blank : α) (L : List α) {a b : Nat} (d : Int)
    (hab : a ≤ b) (hb : b < L.length) : (scrollRows blank L a b d).length = L.length := by
  unfold scrollRows
  simp only []
  split <;> simp only [List.length_append, List.length_replicate, List.length_take,
    List.length_drop] <;> omega

theorem scrollRows_mem {α : Type} {blank : α} {L : List α} {a b : Nat} {d : Int} {r : α}
    (h : r ∈ scrollRows blank L a b d) : r ∈ L ∨ r = blank := by
  unfold scrollRows at h
  simp only [List.mem_append] at h
  rcases h with (h | h) | h
  · exact Or.inl (List.mem_of_mem_take h)
  · split at h
    · rcases List.mem_append.1 h with h | h
      · exact Or.inr (List.mem_replicate.1 h).2
      · exact Or.inl (List.mem_of_mem_drop (List.mem_of_mem_take (List.mem_of_mem_take h)))
    · rcases List.mem_append.1 h with h | h
      · exact Or.inl (List.mem_of_mem_drop (List.mem_of_mem_take (List.mem_of_mem_drop h)))
      · exact Or.inr (List.mem_replicate.1 h).2
  · exact Or.inl (List.mem_of_mem_drop h)

/-- row `y` after the scroll of `[a,b]`, with `k = min |d| (b - a + 1)` rows moved in: rows outside
    the range stay, a row of the range is the row `k` places away or a vacated one -/
theorem getElem?_scrollRows {α : Type} (blank : α) (L : List α) {a b : Nat} (d : Int)
    (hab : a ≤ b) (hb : b < L.length) (y : Nat) :
    (scrollRows blank L a b d)[y]? =
      if y < a ∨ b < y then L[y]?
      else if 0 ≤ d then
        (if y < a + min d.natAbs (b - a + 1) then some blank else L[y - min d.natAbs (b - a + 1)]?)
      else
        (if y + min d.natAbs (b - a + 1) ≤ b then L[y + min d.natAbs (b - a + 1)]? else some blank) := by
  unfold scrollRows
  simp only []
  have hk : min d.natAbs (b - a + 1) ≤ b - a + 1 := Nat.min_le_right _ _
  generalize min d.natAbs (b - a + 1) = k at hk ⊢
  have hta : (L.take a).length = a := by rw [List.length_take]; omega
  have hm : (if d ≥ 0 then List.replicate k blank ++ ((L.drop a).take (b - a + 1)).take (b - a + 1 - k)
      else ((L.drop a).take (b - a + 1)).drop k ++ List.replicate k blank).length = b - a + 1 := by
    split <;> simp only [List.length_append, List.length_replicate, List.length_take,
      List.length_drop] <;> omega
  rw [getElem?_append3, hta, hm]
  by_cases hy : y < a ∨ b < y
  · rw [if_pos hy]
    by_cases h1 : y < a
    · rw [if_pos h1, List.getElem?_take, if_pos h1]
    · rw [if_neg h1, if_neg (by omega), List.getElem?_drop]; congr 1; omega
  · rw [if_neg hy, if_neg (by omega), if_pos (by omega)]
    by_cases hd : d ≥ 0
    · rw [if_pos hd, if_pos hd, List.getElem?_append, List.length_replicate]
      by_cases h1 : y < a + k
      · rw [if_pos (by omega), if_pos h1, List.getElem?_replicate, if_pos (by omega)]
      · rw [if_neg (by omega), if_neg h1, List.getElem?_take, if_pos (by omega), List.getElem?_take,
          if_pos (by omega), List.getElem?_drop]
        congr 1; omega
    · rw [if_neg hd, if_neg hd, List.getElem?_append]
      simp only [List.length_drop, List.length_take]
      by_cases h1 : y + k ≤ b
      · rw [if_pos (by omega), if_pos h1, List.getElem?_drop, List.getElem?_take, if_pos (by omega),
          List.getElem?_drop]
        congr 1; omega
      · rw [if_neg (by omega), if_neg h1, List.getElem?_replicate, if_pos (by omega)]

/-! ### `scroll` -/

theorem scroll_eq_rows (s : Scr) (a b : Nat) (d : Int) :
    s.scroll a b d = if a > b ∨ b ≥ s.h then s
      else { s with grid := scrollRows (blankRow s.w s.sty) s.grid a b d } := rfl

theorem scroll_noop (s : Scr) (a b : Nat) (d : Int) (hc : a > b ∨ b ≥ s.h) : s.scroll a b d = s := by
  unfold Scr.scroll; rw [if_pos hc]

theorem scroll_eq_grid (s : Scr) (a b : Nat) (d : Int) :
    s.scroll a b d = { s with grid := (s.scroll a b d).grid } := by
  unfold Scr.scroll; split <;> rfl

theorem scroll_cursor (s : Scr) (a b : Nat) (d : Int) :
    (s.scroll a b d).cx = s.cx ∧ (s.scroll a b d).cy = s.cy := by
  rw [scroll_eq_grid]; exact ⟨rfl, rfl⟩

theorem scroll_zero (s : Scr) (a b : Nat) : s.scroll a b 0 = s := by
  unfold Scr.scroll
  split
  · rfl
  · have e : b + 1 = a + (b - a + 1) := by omega
    have : s.grid.take a ++ (((s.grid.drop a).take (b - a + 1)).take (b - a + 1) ++
        s.grid.drop (b + 1)) = s.grid := by
      rw [List.take_take, Nat.min_self, e, ← List.drop_drop, List.take_append_drop,
        List.take_append_drop]
    simp [this]

theorem scroll_getElem?_in (s : Scr) (a b : Nat) (d : Int) (hg : s.grid.length = s.h)
    (hc : ¬ (a > b ∨ b ≥ s.h)) (y : Nat) (hy : a ≤ y ∧ y ≤ b) :
    (s.scroll a b d).grid[y]? =
      if 0 ≤ d then
        (if y < a + min d.natAbs (b - a + 1) then some (blankRow s.w s.sty)
         else s.grid[y - min d.natAbs (b - a + 1)]?)
      else
        (if y + min d.natAbs (b - a + 1) ≤ b then s.grid[y + min d.natAbs (b - a + 1)]?
         else some (blankRow s.w s.sty)) := by
  rw [scroll_eq_rows, if_neg hc]
  exact (getElem?_scrollRows _ _ d (by omega) (by omega) y).trans (if_neg (by omega))

theorem scroll_outside (s : Scr) (a b : Nat) (d : Int) (hg : s.grid.length = s.h) (y : Nat)
    (hy : ¬ (a ≤ y ∧ y ≤ b)) : (s.scroll a b d).grid[y]? = s.grid[y]? := by
  rw [scroll_eq_rows]
  split
  · rfl
  · exact (getElem?_scrollRows _ _ d (by omega) (by omega) y).trans (if_pos (by omega))

/-! ### `lineDown`, `lineUp` -/

theorem lineDown_eq (s : Scr) :
    s.lineDown =
      if s.cy = s.bot then { s with grid := (s.scroll s.top s.bot (-1)).grid }
      else if s.cy + 1 < s.h then { s with cy := s.cy + 1 } else s := by
  unfold Scr.lineDown; split
  · exact scroll_eq_grid ..
  · rfl

theorem lineDown_of_ne {s : Scr} (hb : s.cy ≠ s.bot) :
    s.lineDown = { s with cy := if s.cy + 1 < s.h then s.cy + 1 else s.cy } := by
  rw [lineDown_eq, if_neg hb]; split <;> rfl

theorem lineUp_eq (s : Scr) :
    s.lineUp =
      if s.cy = s.top then { s with grid := (s.scroll s.top s.bot 1).grid }
      else if 0 < s.cy then { s with cy := s.cy - 1 } else s := by
  unfold Scr.lineUp; split
  · exact scroll_eq_grid ..
  · rfl

theorem lineDown_grid (s : Scr) :
    s.lineDown.grid = if s.cy = s.bot then (s.scroll s.top s.bot (-1)).grid else s.grid := by
  unfold Scr.lineDown
  split
  · rfl
  · split <;> rfl

theorem lineDown_bot {s : Scr} (hb : s.cy = s.bot) : s.lineDown = { s with grid := s.lineDown.grid } := by
  rw [lineDown_grid, if_pos hb, lineDown_eq, if_pos hb]

theorem lineDown_cx (s : Scr) : s.lineDown.cx = s.cx := by
  rw [lineDown_eq]; split
  · rfl
  · split <;> rfl

theorem lineUp_cx (s : Scr) : s.lineUp.cx = s.cx := by
  rw [lineUp_eq]; split
  · rfl
  · split <;> rfl

theorem lineDown_cy (s : Scr) :
    s.lineDown.cy = if s.cy ≠ s.bot ∧ s.cy + 1 < s.h then s.cy + 1 else s.cy := by
  unfold Scr.lineDown
  split
  · next h => rw [(scroll_cursor s s.top s.bot (-1)).2]; simp [h]
  · next h => split <;> simp [*]

theorem lineDown_row (s : Scr) (h1 : s.top ≤ s.bot) (h2 : s.bot < s.h) (hg : s.grid.length = s.h)
    (y : Nat) :
    s.lineDown.row y =
      if s.cy = s.bot then
        (if s.top ≤ y ∧ y < s.bot then s.row (y + 1)
         else if y = s.bot then blankRow s.w s.sty else s.row y)
      else s.row y := by
  rw [row_eq, lineDown_grid]
  by_cases hb : s.cy = s.bot
  · rw [if_pos hb, if_pos hb]
    have hc : ¬ (s.top > s.bot ∨ s.bot ≥ s.h) := by omega
    have hk : min (-1 : Int).natAbs (s.bot - s.top + 1) = 1 := by
      have : (-1 : Int).natAbs = 1 := rfl
      rw [this]; omega
    by_cases hy : s.top ≤ y ∧ y ≤ s.bot
    · rw [scroll_getElem?_in s _ _ _ hg hc y hy, if_neg (by omega), hk]
      by_cases hy2 : y < s.bot
      · rw [if_pos (by omega), if_pos ⟨hy.1, hy2⟩, row_eq]
      · rw [if_neg (by omega), if_neg (by omega), if_pos (by omega)]; rfl
    · rw [scroll_outside s _ _ _ hg y hy, if_neg (by omega), if_neg (by omega), row_eq]
  · rw [if_neg hb, if_neg hb, row_eq]

/-! ### what scrolling keeps: `Scr.Frame`, `Scr.Shift` -/

/-- what scrolling, line feeds and `Scr.put` never touch: size, saved cursor, margins, autowrap and
    current style (they change rows and cursor only) -/
structure Scr.Frame (s s' : Scr) : Prop where
  w : s'.w = s.w
  h : s'.h = s.h
  sx : s'.sx = s.sx
  sy : s'.sy = s.sy
  top : s'.top = s.top
  bot : s'.bot = s.bot
  wrap : s'.wrap = s.wrap
  sty : s'.sty = s.sty

theorem Scr.Frame.set (s : Scr) (g : List Row) (x y : Nat) :
    s.Frame { s with grid := g, cx := x, cy := y } := ⟨rfl, rfl, rfl, rfl, rfl, rfl, rfl, rfl⟩

theorem Scr.Frame.trans {a b c : Scr} (h1 : a.Frame b) (h2 : b.Frame c) : a.Frame c :=
  ⟨h2.w.trans h1.w, h2.h.trans h1.h, h2.sx.trans h1.sx, h2.sy.trans h1.sy, h2.top.trans h1.top,
    h2.bot.trans h1.bot, h2.wrap.trans h1.wrap, h2.sty.trans h1.sty⟩

/-- a scrolling step: the frame is kept, every row is an old row or a blank row in the current
    style, and a screen with `h` rows keeps that many -/
structure Scr.Shift (s s' : Scr) : Prop extends Scr.Frame s s' where
  mem : ∀ {r : Row}, r ∈ s'.grid → r ∈ s.grid ∨ r = blankRow s.w s.sty
  len : s.grid.length = s.h → s'.grid.length = s.grid.length

theorem Scr.Shift.cursor (s : Scr) (x y : Nat) : s.Shift { s with cx := x, cy := y } :=
  ⟨.set s s.grid x y, Or.inl, fun _ => rfl⟩

theorem Scr.Shift.trans {a b c : Scr} (h1 : a.Shift b) (h2 : b.Shift c) : a.Shift c :=
  ⟨h1.toFrame.trans h2.toFrame,
    fun hr => (h2.mem hr).elim h1.mem fun e => Or.inr (by rw [e, h1.w, h1.sty]),
    fun hg => (h2.len ((h1.len hg).trans (hg.trans h1.h.symm))).trans (h1.len hg)⟩

theorem shift_scroll (s : Scr) (a b : Nat) (d : Int) : s.Shift (s.scroll a b d) := by
  refine ⟨by rw [scroll_eq_grid]; exact .set s _ s.cx s.cy, fun h => ?_, fun hg => ?_⟩
  · rw [scroll_eq_rows] at h
    split at h
    · exact Or.inl h
    · exact scrollRows_mem h
  · rw [scroll_eq_rows]
    split
    · rfl
    · exact scrollRows_length _ _ d (by omega) (by omega)

theorem shift_lineDown (s : Scr) : s.Shift s.lineDown := by
  unfold Scr.lineDown; split
  · exact shift_scroll ..
  · split
    · exact .cursor s s.cx _
    · exact .cursor s s.cx s.cy

theorem shift_lineUp (s : Scr) : s.Shift s.lineUp := by
  unfold Scr.lineUp; split
  · exact shift_scroll ..
  · split
    · exact .cursor s s.cx _
    · exact .cursor s s.cx s.cy

/-! ### `eraseRegion`, `Scr.dch` -/

theorem eraseRegion_row (s : Scr) (x1 y1 x2 y2 y : Nat) :
    (s.eraseRegion x1 y1 x2 y2).row y =
      if y1 ≤ y ∧ y < y2 then (s.row y).erase x1 x2 s.sty else s.row y := by
  simp only [row_eq, Scr.eraseRegion, List.getElem?_mapIdx]
  cases s.grid[y]? with
  | none => simp [erase_nil]
  | some r => split <;> simp

theorem eraseRegionI_eq (s : Scr) (x1 y1 x2 y2 : Int) :
    s.eraseRegionI x1 y1 x2 y2 =
      s.eraseRegion (clampNat x1 s.w) (clampNat y1 s.h) (max (clampNat x2 s.w) (clampNat x1 s.w))
        (max (clampNat y2 s.h) (clampNat y1 s.h)) := rfl

theorem eraseRegionI_row (s : Scr) (x1 y1 x2 y2 : Int) (y : Nat) :
    (s.eraseRegionI x1 y1 x2 y2).row y =
      if clampNat y1 s.h ≤ y ∧ y < clampNat y2 s.h then
        (s.row y).erase (clampNat x1 s.w) (clampNat x2 s.w) s.sty
      else s.row y := by
  rw [eraseRegionI_eq, eraseRegion_row, erase_max_left]
  exact ite_congr (propext (by omega)) (fun _ => rfl) (fun _ => rfl)

theorem eraseRegionI_nat (s : Scr) (x1 y1 x2 y2 : Nat)
    (h : x1 ≤ x2 ∧ x2 ≤ s.w ∧ y1 ≤ y2 ∧ y2 ≤ s.h) :
    s.eraseRegionI x1 y1 x2 y2 = s.eraseRegion x1 y1 x2 y2 := by
  rw [eraseRegionI_eq, clampNat_ofNat h.2.1, clampNat_ofNat (Nat.le_trans h.1 h.2.1),
    clampNat_ofNat h.2.2.2, clampNat_ofNat (Nat.le_trans h.2.2.1 h.2.2.2),
    Nat.max_eq_left h.1, Nat.max_eq_left h.2.2.1]

theorem dch_row (s : Scr) (n y : Nat) :
    (s.dch n).row y = if y = s.cy then (s.row y).dch s.cx n s.sty else s.row y := by
  unfold Scr.dch
  rw [row_setRow]
  by_cases hy : y = s.cy
  · subst hy
    by_cases hl : s.cy < s.grid.length
    · rw [if_pos ⟨rfl, hl⟩, if_pos rfl]
    · rw [if_neg (fun h => hl h.2), if_pos rfl, row_nil (by omega), dch_nil]
  · rw [if_neg (fun h => hy h.1), if_neg hy]

theorem setRow_row {s : Scr} {y : Nat} (hy : y < s.grid.length) : s.setRow y (s.row y) = s := by
  unfold Scr.setRow
  rw [row_eq_getElem s _ hy, List.set_getElem_self]

theorem dch_noop {s : Scr} {n : Nat} (hy : s.cy < s.grid.length)
    (h : s.cx ≥ (s.row s.cy).length ∨ n = 0) : s.dch n = s := by
  have e : (s.row s.cy).dch s.cx n s.sty = s.row s.cy := if_pos h
  unfold Scr.dch
  rw [e, setRow_row hy]

/-! ### `setCursor`, `setMargins`, `inRegion` -/

theorem setCursor_cx (s : Scr) (x y : Int) : (s.setCursor x y).cx = clampNat x (s.w - 1) := rfl

theorem setCursor_cy (s : Scr) (x y : Int) : (s.setCursor x y).cy = clampNat y (s.h - 1) := rfl

/-- DECSTBM with its second test removed: clamping is monotone (`clampNat_mono`), so a request
    that is not inverted as given is not inverted after clamping either -/
theorem setMargins_eq (s : Scr) (t b : Int) :
    s.setMargins t b =
      if b < t then s else { s with top := clampNat t (s.h - 1), bot := clampNat b (s.h - 1) } := by
  unfold Scr.setMargins
  by_cases h : b < t
  · rw [if_pos h, if_pos h]
  · rw [if_neg h, if_neg h]
    exact if_neg (Nat.not_lt.2 (clampNat_mono (by omega) _))

theorem inRegion_iff (s : Scr) : s.inRegion = true ↔ s.top ≤ s.cy ∧ s.cy ≤ s.bot := by
  simp [Scr.inRegion]

/-! ### the grid after `Scr.resize` -/

theorem resize_grid_length (s : Scr) (w h : Nat) : (s.resize w h).grid.length = h := by
  simp [Scr.resize]; omega

theorem resize_mem {s : Scr} {w h : Nat} {r : Row} (hr : r ∈ (s.resize w h).grid) :
    (∃ r0 ∈ s.grid, r = fitRow r0 w s.sty) ∨ r = blankRow w s.sty := by
  simp only [Scr.resize, List.mem_append, List.mem_map, List.mem_replicate] at hr
  rcases hr with ⟨r0, h0, rfl⟩ | ⟨_, rfl⟩
  · exact .inl ⟨r0, List.mem_of_mem_take h0, rfl⟩
  · exact .inr rfl

theorem resize_row_old (s : Scr) (w h y : Nat) (hy : y < h) (hys : y < s.grid.length) :
    (s.resize w h).row y = fitRow (s.row y) w s.sty := by
  rw [row_eq, row_eq_getElem s y hys]
  simp only [Scr.resize]
  rw [List.getElem?_append, if_pos (by simp; omega), List.getElem?_map, List.getElem?_take,
    if_pos hy, List.getElem?_eq_getElem hys]
  rfl

theorem resize_row_new (s : Scr) (w h y : Nat) (hy : y < h) (hys : s.grid.length ≤ y) :
    (s.resize w h).row y = blankRow w s.sty := by
  rw [row_eq]
  simp only [Scr.resize]
  rw [List.getElem?_append, if_neg (by simp; omega), List.getElem?_replicate, if_pos (by simp; omega)]
  rfl

end TM
