import Proofs.Clusters
import Proofs.SubCells
/-!
# Rows as lists of styled characters

The cells `cellsK L` of a list `L` of styled characters `((bytes, width), style)` of positive widths
(`PosK L`) form a well-formed row of length `wk L`. A column of such a row is a character boundary
(`L = P ++ Q`, `wk P` the column) or lies strictly inside a character (`L = P ++ k :: Q`), and on
the two shapes `contAt` / `headOf` / `endOf` and the cuts `takeB` / `dropB` are evaluated once
(`at_boundary`, `at_inside`). `cellsK L` satisfies every `RowClosed` predicate that admits the
characters (`RowClosed.cellsK`, in particular `rowWF_cellsK`), so the cell-level theory of the row
editors applies to it. `clipR a b L` is the window `[a, b)` of `L`, a character cut by an edge shown
as blanks; its cells are the mirror model's read `subCells` of the window (`cellsK_clipR`). No run
structure here: `Props/C02Span.lean` (a row as a list of runs) and `Props/C03SpanWrite.lean` (a run
of characters written as one span, against the characters put one by one) both argue on `cellsK`.
-/
namespace TM.C02Span

/-- a styled character -/
abbrev K := Cl × Style

def cellsK (L : List K) : List Cell := L.flatMap fun k => charCells k.1.1 k.1.2 k.2

def wk (L : List K) : Nat := (L.map (·.1.2)).sum

def PosK (L : List K) : Prop := ∀ k ∈ L, 1 ≤ k.1.2

def blanksK (n : Nat) (st : Style) : List K := List.replicate n (([0x20], 1), st)

@[simp] theorem cellsK_nil : cellsK [] = [] := rfl
@[simp] theorem cellsK_cons (k : K) (L : List K) :
    cellsK (k :: L) = charCells k.1.1 k.1.2 k.2 ++ cellsK L := by simp [cellsK]

@[simp] theorem cellsK_append (A B : List K) : cellsK (A ++ B) = cellsK A ++ cellsK B := by
  simp [cellsK]

@[simp] theorem wk_nil : wk [] = 0 := rfl
@[simp] theorem wk_cons (k : K) (L : List K) : wk (k :: L) = k.1.2 + wk L := by simp [wk]
@[simp] theorem wk_append (A B : List K) : wk (A ++ B) = wk A + wk B := by simp [wk]

theorem PosK.append {A B : List K} (ha : PosK A) (hb : PosK B) : PosK (A ++ B) :=
  List.forall_mem_append.2 ⟨ha, hb⟩

theorem PosK.left {A B : List K} (h : PosK (A ++ B)) : PosK A :=
  fun k hk => h k (List.mem_append_left _ hk)

theorem PosK.right {A B : List K} (h : PosK (A ++ B)) : PosK B :=
  fun k hk => h k (List.mem_append_right _ hk)

theorem PosK.tail {k : K} {B : List K} (h : PosK (k :: B)) : PosK B :=
  fun q hq => h q (List.mem_cons_of_mem _ hq)

theorem PosK.head {k : K} {B : List K} (h : PosK (k :: B)) : 1 ≤ k.1.2 := h k (List.mem_cons_self ..)

theorem PosK.cons {k : K} {B : List K} (hk : 1 ≤ k.1.2) (h : PosK B) : PosK (k :: B) :=
  List.forall_mem_cons.2 ⟨hk, h⟩

theorem PosK.nil : PosK [] := fun _ h => nomatch h

theorem cellsK_length {L : List K} (h : PosK L) : (cellsK L).length = wk L := by
  induction L with
  | nil => rfl
  | cons k r ih =>
    have := h.head
    rw [cellsK_cons, List.length_append, charCells_length, ih h.tail, wk_cons]; omega

theorem wk_replicate1 (n : Nat) (c : Cl) (st : Style) (h : c.2 = 1) :
    wk (List.replicate n (c, st)) = n := by simp [wk, h]

theorem cellsK_replicate1 (n : Nat) (b : Bytes) (st : Style) :
    cellsK (List.replicate n ((b, 1), st)) = List.replicate n ⟨.ch b 1, st⟩ := by
  simp [cellsK, List.flatMap_replicate, charCells]

@[simp] theorem wk_blanksK (n : Nat) (st : Style) : wk (blanksK n st) = n := wk_replicate1 n _ st rfl
@[simp] theorem cellsK_blanksK (n : Nat) (st : Style) :
    cellsK (blanksK n st) = List.replicate n (blank st) := cellsK_replicate1 n _ st

theorem cellsK_map (cs : List Cl) (st : Style) :
    cellsK (cs.map fun c => (c, st)) = cs.flatMap fun c => charCells c.1 c.2 st := by
  induction cs with
  | nil => rfl
  | cons c r ih => simp [ih]

theorem wk_map (cs : List Cl) (st : Style) : wk (cs.map fun c => (c, st)) = ws cs := by
  induction cs with
  | nil => rfl
  | cons c r ih => simp [ih]

theorem posK_map {cs : List Cl} (st : Style) (h : ∀ p ∈ cs, 1 ≤ p.2) :
    PosK (cs.map fun c => (c, st)) := by
  intro k hk
  obtain ⟨c, hc, rfl⟩ := List.mem_map.1 hk
  exact h c hc

theorem take_cellsK {A B : List K} (h : PosK A) : (cellsK (A ++ B)).take (wk A) = cellsK A := by
  rw [cellsK_append, ← cellsK_length h]; exact List.take_left' rfl

theorem drop_cellsK {A B : List K} (h : PosK A) : (cellsK (A ++ B)).drop (wk A) = cellsK B := by
  rw [cellsK_append, ← cellsK_length h]; exact List.drop_left' rfl

theorem contAt_cellsK_zero (B : List K) : contAt (cellsK B) 0 = false := by
  cases B with
  | nil => rfl
  | cons k r => simp [contAt, charCells]

theorem widthAt_head {A B : List K} {k : K} (h : PosK (A ++ k :: B)) :
    widthAt (cellsK (A ++ k :: B)) (wk A) = k.1.2 := by
  have hk : 1 ≤ k.1.2 := h.right.head
  have : (cellsK (A ++ k :: B))[wk A]? = some ⟨.ch k.1.1 k.1.2, k.2⟩ := by
    rw [cellsK_append, ← cellsK_length h.left, List.getElem?_append_right (Nat.le_refl _)]
    simp [charCells]
  simp only [widthAt, this]
  omega

theorem at_boundary {L P Q : List K} (h : PosK L) (hL : L = P ++ Q) {c : Nat} (hc : wk P = c) (st : Style) :
    contAt (cellsK L) c = false ∧ headOf (cellsK L) c = c ∧ endOf (cellsK L) c = c ∧
    takeB (cellsK L) c st = cellsK P ∧ dropB (cellsK L) c st = cellsK Q := by
  subst hL hc
  have hc : contAt (cellsK (P ++ Q)) (wk P) = false := by
    have := contAt_append_right (cellsK P) (cellsK Q) 0
    rw [cellsK_length h.left, Nat.add_zero] at this
    rw [cellsK_append, this, contAt_cellsK_zero]
  refine ⟨hc, headOf_of_not_cont hc, by simp only [endOf, hc, Bool.false_eq_true, if_false], ?_, ?_⟩
  · rw [takeB_of_not_cont hc, take_cellsK h.left]
  · rw [dropB_of_not_cont hc, drop_cellsK h.left]

theorem at_inside {L P Q : List K} {k : K} (h : PosK L) (hL : L = P ++ k :: Q) {x : Nat}
    (h1 : wk P < x) (h2 : x < wk P + k.1.2) (st : Style) :
    contAt (cellsK L) x = true ∧ headOf (cellsK L) x = wk P ∧ endOf (cellsK L) x = wk P + k.1.2 ∧
    takeB (cellsK L) x st = cellsK P ++ List.replicate (x - wk P) (blank st) ∧
    dropB (cellsK L) x st = List.replicate (wk P + k.1.2 - x) (blank st) ++ cellsK Q ∧
    (cellsK L).take (wk P + k.1.2) = cellsK (P ++ [k]) := by
  subst hL
  have hlen := cellsK_length h.left
  obtain ⟨d, rfl⟩ : ∃ d, x = (cellsK P).length + d := ⟨x - wk P, by omega⟩
  have hd0 : 0 < d := by omega
  have hd : d < k.1.2 := by omega
  have hB : contAt (charCells k.1.1 k.1.2 k.2 ++ cellsK Q) 0 = false := contAt_cellsK_zero (k :: Q)
  have hk := charCells_length_pos k.1.1 h.right.head k.2
  rw [cellsK_append, cellsK_append, cellsK_cons, cellsK_cons, cellsK_nil, List.append_nil]
  refine ⟨?_, ?_, ?_, ?_, ?_, ?_⟩
  · rw [contAt_append_right, contAt_charCells _ hd0 hd]
  · rw [headOf_append _ hB, headOf_charCells _ hd, hlen]; rfl
  · rw [endOf_append _ hB, endOf_charCells _ hd0 hd, hlen]
  · rw [takeB_append _ hB, takeB_charCells _ hd, hlen, Nat.add_sub_cancel_left]
  · rw [dropB_append _ hB, dropB_charCells _ hd0 hd, hlen, Nat.add_sub_add_left]
  · rw [← List.append_assoc]; exact List.take_left' (by rw [List.length_append, hlen, hk])

end TM.C02Span

namespace TM.RowClosed
open C02Span

theorem cellsK {St : Style → Prop} {Tx : Bytes → Nat → Prop} {P : Row → Prop}
    (C : RowClosed St Tx P) :
    ∀ {L : List K}, (∀ k ∈ L, 1 ≤ k.1.2 ∧ Tx k.1.1 k.1.2 ∧ St k.2) → P (cellsK L)
  | [], _ => C.nil
  | k :: L, h => by
    rw [cellsK_cons]
    have hk := h k (List.mem_cons_self ..)
    exact C.append (C.chars hk.1 hk.2.1 hk.2.2) (C.cellsK fun q hq => h q (List.mem_cons_of_mem _ hq))

end TM.RowClosed

namespace TM.C02Span

theorem rowWF_cellsK {L : List K} (h : PosK L) : rowWF (cellsK L) = true :=
  closed_wf.cellsK fun k hk => ⟨h k hk, trivial, trivial⟩

/-- `blankStraddlers_cut` on `cellsK L` -/
theorem straddle {L : List K} (hL : PosK L) {a b : Nat} (hab : a ≤ b) (hb : b ≤ wk L) (st : Style) :
    (blankStraddlers (cellsK L) a b st).take a = takeB (cellsK L) a st ∧
    (blankStraddlers (cellsK L) a b st).drop b = dropB (cellsK L) b st :=
  blankStraddlers_cut (rowWF_cellsK hL) hab (by rw [cellsK_length hL]; exact hb) st

theorem length_dropB {L : List K} (hL : PosK L) {a : Nat} (ha : a ≤ wk L) (st : Style) :
    (dropB (cellsK L) a st).length = wk L - a := by
  rw [dropB_length (rowWF_cellsK hL), cellsK_length hL]

/-! ### a window of a list of characters -/

/-- what the window `[a, b)` shows of one character that starts at column 0: nothing, the
    character, or blanks in its style for the cells of a character cut by an edge -/
def clip1 (a b : Nat) (k : K) : List K :=
  if k.1.2 ≤ a ∨ b = 0 then [] else if a = 0 ∧ k.1.2 ≤ b then [k] else blanksK (min k.1.2 b - a) k.2

/-- columns `[a, b)` of a list of characters, in the list's own coordinates: the window moves left
    by the width of each character passed (truncated subtraction) -/
def clipR (a b : Nat) : List K → List K
  | [] => []
  | k :: r => clip1 a b k ++ clipR (a - k.1.2) (b - k.1.2) r

theorem clipR_append : ∀ (A B : List K) (a b : Nat),
    clipR a b (A ++ B) = clipR a b A ++ clipR (a - wk A) (b - wk A) B
  | [], _, _, _ => rfl
  | k :: r, B, a, b => by
    rw [List.cons_append, clipR, clipR, clipR_append r, wk_cons, List.append_assoc, Nat.sub_sub,
      Nat.sub_sub]

theorem clipR_before : ∀ (L : List K) (a b : Nat), wk L ≤ a → clipR a b L = []
  | [], _, _, _ => rfl
  | k :: r, a, b, h => by
    rw [wk_cons] at h
    rw [clipR, clip1, if_pos (Or.inl (by omega)), clipR_before r _ _ (by omega)]; rfl

theorem clipR_empty : ∀ (L : List K) (a b : Nat), b ≤ a → clipR a b L = []
  | [], _, _, _ => rfl
  | k :: r, a, b, h => by
    rw [clipR, clipR_empty r _ _ (by omega), List.append_nil, clip1]
    split
    · rfl
    · rw [if_neg (by omega), show min k.1.2 b - a = 0 by omega]; rfl

theorem clipR_inside : ∀ (L : List K) (b : Nat), PosK L → wk L ≤ b → clipR 0 b L = L
  | [], _, _, _ => rfl
  | k :: r, b, hL, h => by
    have hk := hL.head
    rw [wk_cons] at h
    rw [clipR, clip1, if_neg (by omega), if_pos ⟨rfl, by omega⟩, Nat.zero_sub,
      clipR_inside r _ hL.tail (by omega)]; rfl

theorem clip1_of_le {k : K} {b : Nat} (a : Nat) (h : k.1.2 ≤ b) : clip1 a b k = clip1 a k.1.2 k := by
  unfold clip1
  by_cases h1 : k.1.2 ≤ a
  · rw [if_pos (Or.inl h1), if_pos (Or.inl h1)]
  · have c1 : ¬ (k.1.2 ≤ a ∨ b = 0) := by omega
    have c2 : ¬ (k.1.2 ≤ a ∨ k.1.2 = 0) := by omega
    rw [if_neg c1, if_neg c2, Nat.min_eq_left h, Nat.min_self]
    by_cases h2 : a = 0
    · rw [if_pos ⟨h2, h⟩, if_pos ⟨h2, Nat.le_refl _⟩]
    · rw [if_neg (fun c => h2 c.1), if_neg (fun c => h2 c.1)]

/-- what lies beyond the end of the list does not matter -/
theorem clipR_of_le : ∀ (L : List K) (a : Nat) {b : Nat}, wk L ≤ b → clipR a b L = clipR a (wk L) L
  | [], _, _, _ => rfl
  | k :: r, a, b, h => by
    rw [wk_cons] at h
    rw [clipR, clipR, wk_cons, clip1_of_le a (show k.1.2 ≤ b by omega),
      clip1_of_le a (Nat.le_add_right k.1.2 (wk r)), clipR_of_le r _ (show wk r ≤ b - k.1.2 by omega),
      Nat.add_sub_cancel_left]

theorem clipR_min (L : List K) (a b : Nat) : clipR a (min b (wk L)) L = clipR a b L := by
  rcases Nat.le_total b (wk L) with h | h
  · rw [Nat.min_eq_left h]
  · rw [Nat.min_eq_right h, clipR_of_le L a h]

theorem clipR_cut {c : Cl} {a b : Nat} (ha : a < c.2) (hab : a < b) (hcut : 0 < a ∨ b < c.2) (st : Style)
    (r : List K) :
    clipR a b ((c, st) :: r) = blanksK (min c.2 b - a) st ++ clipR 0 (b - c.2) r := by
  have c1 : ¬ (c.2 ≤ a ∨ b = 0) := by omega
  have c2 : ¬ (a = 0 ∧ c.2 ≤ b) := by omega
  rw [clipR, clip1, if_neg c1, if_neg c2, Nat.sub_eq_zero_of_le (Nat.le_of_lt ha)]

theorem cellsK_clipR : ∀ {L : List K}, PosK L → ∀ (a : Nat) {b : Nat}, b ≤ wk L →
    cellsK (clipR a b L) = subCells (cellsK L) a b
  | [], _, a, b, hb => by
    rw [wk_nil] at hb
    simp [clipR, subCells, show b - a = 0 by omega]
  | k :: r, hL, a, b, hb => by
    have hk := hL.head
    have hr0 := contAt_cellsK_zero r
    have hlen := charCells_length_pos k.1.1 hk k.2
    rw [wk_cons] at hb
    rw [clipR, cellsK_append, cellsK_cons, subCells_eq_subSeg]
    by_cases h1 : k.1.2 ≤ a
    · -- the window begins behind the character
      obtain ⟨a', rfl⟩ := Nat.le.dest h1
      have := subSeg_append_right (charCells k.1.1 k.1.2 k.2) hr0 (k.1.2 + a') b a' (b - (k.1.2 + a'))
      rw [hlen] at this
      rw [this, clip1, if_pos (Or.inl h1), cellsK_nil, List.nil_append,
        cellsK_clipR hL.tail _ (show b - k.1.2 ≤ wk r by omega), subCells_eq_subSeg,
        Nat.add_sub_cancel_left, Nat.sub_sub]
    · by_cases h2 : b ≤ k.1.2
      · -- the window ends inside the character
        rw [clipR_empty r _ _ (by omega), cellsK_nil, List.append_nil,
          subSeg_charCells _ hk _ _ _ _ (show a + (b - a) ≤ k.1.2 by omega), clip1]
        by_cases h3 : b = 0
        · subst h3; simp
        · rw [if_neg (by omega)]
          split
          · next h => rw [h.1, show b = k.1.2 by omega, cellsK_cons, cellsK_nil, List.append_nil,
              List.drop_zero, Nat.sub_zero, List.take_of_length_le (Nat.le_of_eq hlen)]
          · rw [cellsK_blanksK, Nat.min_eq_right h2]
      · -- the window runs on behind the character
        have := subSeg_append_right (charCells k.1.1 k.1.2 k.2) hr0 a b 0 (b - k.1.2)
        rw [hlen, Nat.add_zero] at this
        rw [show b - a = (k.1.2 - a) + (b - k.1.2) by omega, subSeg_add,
          show a + (k.1.2 - a) = k.1.2 by omega, this,
          subSeg_charCells _ hk _ _ _ _ (show a + (k.1.2 - a) ≤ k.1.2 by omega),
          cellsK_clipR hL.tail _ (show b - k.1.2 ≤ wk r by omega), subCells_eq_subSeg,
          show a - k.1.2 = 0 by omega, Nat.sub_zero, clip1, if_neg (by omega)]
        congr 1
        split
        · next h => rw [h.1, cellsK_cons, cellsK_nil, List.append_nil, List.drop_zero, Nat.sub_zero,
            List.take_of_length_le (Nat.le_of_eq hlen)]
        · rw [cellsK_blanksK, Nat.min_eq_left (by omega)]

end TM.C02Span
