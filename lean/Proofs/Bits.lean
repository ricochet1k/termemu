/-!
# Bits and bytes: masking with a single bit (the flag tests `v & bit != 0` of `keys.go` and
`terminal.go`); a `UInt8` against its value
-/
namespace TM

theorem and_two_pow (x i : Nat) : x &&& 2^i = if x.testBit i then 2^i else 0 := by
  apply Nat.eq_of_testBit_eq; intro j
  by_cases h : i = j
  · subst h; cases hx : x.testBit i <;> simp [Nat.testBit_and, hx]
  · cases hx : x.testBit i <;> simp [Nat.testBit_and, h]

theorem and_two_pow_div (x i : Nat) : x &&& 2^i = if x / 2^i % 2 = 1 then 2^i else 0 := by
  rw [and_two_pow, Nat.testBit_eq_decide_div_mod_eq]; simp

/-- core's `UInt8.toNat_ofNat_of_lt'` with the bound as a numeral, for `omega` -/
theorem toNat_ofNat_lt (k : Nat) (h : k < 256) : (UInt8.ofNat k).toNat = k := by
  rw [UInt8.toNat_ofNat']; omega

theorem ofNat_of_toNat (b : UInt8) (n : Nat) (h : n = b.toNat) : UInt8.ofNat n = b := by
  subst h; exact UInt8.ofNat_toNat

theorem digit_toNat (d : Nat) (h : d < 10) : (UInt8.ofNat (48 + d)).toNat = 48 + d :=
  toNat_ofNat_lt (48 + d) (by omega)

end TM
