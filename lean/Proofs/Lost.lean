import Proofs.Put
/-!
# Rows that leave through the top (`TM/Scrollback.lean`)

`Lost k a b g g'`: `k` rows left the range `[a, b]` through the top and the rest is in place. One
lemma per operation that scrolls says that the count of `TM/Scrollback.lean` is that `k`
(`lost_scroll`, `lost_lineDown`, `Scr.Wrapped.lost`); `lost_putSteps` puts the two wraps of
`Scr.put` together around the row written in between (`Lost.trans_set`).
-/
namespace TM

/-- `g'` is `g` after `k` rows left the range `[a, b]` through the top of the screen: rows outside
    the range are in place, and when the range starts on row 0 old row `y ≥ k` of it is row `y - k` -/
structure Lost {α : Type} (k a b : Nat) (g g' : List α) : Prop where
  above : ∀ y, y < a → g'[y]? = g[y]?
  below : ∀ y, b < y → g'[y]? = g[y]?
  up : a = 0 → ∀ y, k ≤ y → y ≤ b → g'[y - k]? = g[y]?

theorem Lost.refl {α : Type} (a b : Nat) (g : List α) : Lost 0 a b g g :=
  ⟨fun _ _ => rfl, fun _ _ => rfl, fun _ _ _ _ => rfl⟩

theorem Lost.row0 {α : Type} {a b : Nat} {g g' : List α} (h : Lost 0 a b g g') : g'[0]? = g[0]? := by
  by_cases ha : a = 0
  · exact h.up ha 0 (Nat.le_refl _) (Nat.zero_le _)
  · exact h.above 0 (by omega)

/-- a row written between two moves: the rows of `g''` other than the written one, in terms of `g` -/
theorem Lost.trans_set {α : Type} {k l a b c : Nat} {r : α} {g g' g'' : List α} (h1 : Lost k a b g g')
    (h2 : Lost l a b (g'.set c r) g'') :
    (∀ y, y < a ∨ b < y → y ≠ c → g''[y]? = g[y]?) ∧
    (a = 0 → ∀ y, k + l ≤ y → y ≤ b → y ≠ c + k → g''[y - (k + l)]? = g[y]?) := by
  have hset : ∀ y, y ≠ c → (g'.set c r)[y]? = g'[y]? := fun y hy => by
    rw [List.getElem?_set, if_neg (fun e => hy e.symm)]
  refine ⟨fun y hy hc => ?_, fun ha y hy hb hc => ?_⟩
  · rcases hy with hy | hy
    · rw [h2.above y hy, hset y hc, h1.above y hy]
    · rw [h2.below y hy, hset y hc, h1.below y hy]
  · rw [show y - (k + l) = y - k - l by omega, h2.up ha (y - k) (by omega) (by omega),
      hset _ (by omega), h1.up ha y (by omega) hb]

theorem lost_scroll (s : Scr) (a b : Nat) (d : Int) (hg : s.grid.length = s.h) (hd : d ≤ 0) :
    Lost (s.scrollOff a b d) a b s.grid (s.scroll a b d).grid := by
  refine ⟨fun y hy => scroll_outside s a b d hg y (by omega),
    fun y hy => scroll_outside s a b d hg y (by omega), fun ha y hy hb => ?_⟩
  subst ha
  unfold Scr.scrollOff at hy ⊢
  by_cases hc : 0 > b ∨ b ≥ s.h
  · rw [if_pos hc, scroll_noop s 0 b d hc]; rfl
  · rw [if_neg hc] at hy ⊢
    by_cases hn : d < 0
    · rw [if_pos ⟨rfl, hn⟩] at hy ⊢
      rw [scroll_getElem?_in s 0 b d hg hc _ (by omega), if_neg (by omega), if_pos (by omega)]
      congr 1; omega
    · rw [if_neg (fun h => hn h.2), show d = 0 by omega, scroll_zero]; rfl

theorem lost_lineDown (s : Scr) (hg : s.grid.length = s.h) :
    Lost s.lineDownOff s.top s.bot s.grid s.lineDown.grid := by
  rw [lineDown_grid]
  unfold Scr.lineDownOff
  split
  · exact lost_scroll s s.top s.bot (-1) hg (by omega)
  · exact Lost.refl _ _ _

theorem Scr.Wrapped.lost {s s' : Scr} {k : Nat} (h : s.Wrapped k s') (hg : s.grid.length = s.h) :
    Lost k s.top s.bot s.grid s'.grid := by
  cases h with
  | col x => exact Lost.refl _ _ _
  | feed _ x => exact lost_lineDown ({ s with cx := x } : Scr) hg

/-- `Scr.put` by its three steps, the early wrap, the written row, the late wrap: the rows pushed out
    are those of the two wraps (their sum is `Scr.putOff` of `TM/Scrollback.lean`, by definition),
    the row written apart -/
theorem lost_putSteps (pol : WidePolicy) (s : Scr) (text : Bytes) (w0 : Nat) (hg : s.grid.length = s.h) :
    (∀ y, y < s.top ∨ s.bot < y → y ≠ (s.putPre (Scr.effW s w0)).cy →
      (s.put pol text w0).grid[y]? = s.grid[y]?) ∧
    (s.top = 0 → ∀ y,
      Scr.earlyOff s (Scr.effW s w0) + Scr.lateOff (s.putPre (Scr.effW s w0))
        (Scr.putX pol (s.putPre (Scr.effW s w0)) (Scr.effW s w0)) ≤ y → y ≤ s.bot →
      y ≠ (s.putPre (Scr.effW s w0)).cy + Scr.earlyOff s (Scr.effW s w0) →
      (s.put pol text w0).grid[y - (Scr.earlyOff s (Scr.effW s w0) + Scr.lateOff (s.putPre (Scr.effW s w0))
        (Scr.putX pol (s.putPre (Scr.effW s w0)) (Scr.effW s w0)))]? = s.grid[y]?) := by
  rw [put_eq]
  generalize Scr.effW s w0 = w
  generalize Scr.putRow pol (s.putPre w) _ w = r
  generalize Scr.putX pol (s.putPre w) w = x
  have f := (s.putPre_wrapped w).shift
  have h1 := (s.putPre_wrapped w).lost hg
  have h2 := (Scr.putFinish_wrapped ((Scr.putPre s w).setRow (Scr.putPre s w).cy r) x).lost
    (by show (List.set _ _ _).length = (Scr.putPre s w).h
        rw [List.length_set, f.len hg, hg, f.h])
  rw [show ((Scr.putPre s w).setRow (Scr.putPre s w).cy r).top = s.top from f.top,
    show ((Scr.putPre s w).setRow (Scr.putPre s w).cy r).bot = s.bot from f.bot] at h2
  exact h1.trans_set h2

end TM
