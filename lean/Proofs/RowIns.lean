import Proofs.Row
/-!
# A row cut at a column: `takeB`, `dropB`, and a range replaced between two cuts: `rowIns`

`takeB R a st` and `dropB R b st` are the cells of a row left of column `a` and from column `b` on,
with blanks for the cells of a wide character that the column cuts. On a well-formed row they are
`Row.fixAt` followed by `take` / `drop` (`takeB_eq`, `dropB_eq`). `rowIns R x cells n st` puts
`cells` between the cuts at `x` and `x + n`: `Row.put`, `Row.erase`, `Row.dch`, `cutRow` and the row
that `Row.putKeep` cuts back are of this form (`*_rowIns`, `cutRow_takeB`), and so is what the
splice of the span buffer shows (`Props/C02Span`); nothing here depends on the run lists of
`TM.SpanLine`.

A cut moves through a row built with `++`, `drop` and one character (`takeB_append`, `takeB_drop`,
`takeB_charCells` and the same for `dropB`: how `Props/C03` writes `Row.putKeep` as one list); a cut
row cut again is cut once (`dropB_dropB`: one `Row.put` behind another, how `Props/C11Paint` paints
a row); one insertion right behind another is one insertion of both (`rowIns_rowIns`: a run of the
span buffer written as one span against its characters put one by one, `Props/C03SpanWrite`).
-/
namespace TM

namespace C02Span

/-- the cells left of column `a`; a wide character cut by `a` shows blanks in `st` -/
def takeB (R : Row) (a : Nat) (st : Style) : Row :=
  R.take (headOf R a) ++ List.replicate (a - headOf R a) (blank st)

/-- the cells from column `b` on; a wide character cut by `b` shows blanks in `st` -/
def dropB (R : Row) (b : Nat) (st : Style) : Row :=
  List.replicate (endOf R b - b) (blank st) ++ R.drop (endOf R b)

end C02Span

namespace C03SpanWrite
open C02Span

/-- a row with the cells `[x, x+n)` replaced by `cells`, the wide characters cut by either end
    blanked (what the splice `replaceRangeWide` shows, and what `Row.put` does for one character) -/
def rowIns (R : Row) (x : Nat) (cells : Row) (n : Nat) (st : Style) : Row :=
  takeB R x st ++ cells ++ dropB R (x + n) st

end C03SpanWrite

namespace C02Span
export C03SpanWrite (rowIns)

/-! ### the cuts cell by cell, on a character boundary, as `Row.fixAt`; lengths -/

theorem getElem?_takeB (R : Row) {a : Nat} (ha : a ≤ R.length) (st : Style) (i : Nat) :
    (takeB R a st)[i]? =
      if i < headOf R a then R[i]? else if i < a then some (blank st) else none := by
  have := headOf_le R a
  unfold takeB
  rw [List.getElem?_append, List.length_take, Nat.min_eq_left (by omega), List.getElem?_take,
    List.getElem?_replicate]
  by_cases h1 : i < headOf R a
  · rw [if_pos h1, if_pos h1, if_pos h1]
  · rw [if_neg h1, if_neg h1]
    by_cases h2 : i < a
    · rw [if_pos h2, if_pos (by omega)]
    · rw [if_neg h2, if_neg (by omega)]

theorem getElem?_dropB (R : Row) {b : Nat} (hb : b ≤ endOf R b) (st : Style) (k : Nat) :
    (dropB R b st)[k]? = if b + k < endOf R b then some (blank st) else R[b + k]? := by
  unfold dropB
  rw [List.getElem?_append, List.length_replicate, List.getElem?_replicate, List.getElem?_drop]
  by_cases h : k < endOf R b - b
  · rw [if_pos h, if_pos h, if_pos (by omega)]
  · rw [if_neg h, if_neg (by omega)]; congr 1; omega

theorem takeB_of_not_cont {R : Row} {a : Nat} (hc : contAt R a = false) (st : Style) :
    takeB R a st = R.take a := by
  simp [takeB, headOf_of_not_cont hc]

theorem dropB_of_not_cont {R : Row} {b : Nat} (hc : contAt R b = false) (st : Style) :
    dropB R b st = R.drop b := by
  simp [dropB, endOf, hc]

theorem takeB_eq {R : Row} (hwf : rowWF R = true) {a : Nat} (ha : a ≤ R.length) (st : Style) :
    takeB R a st = (Row.fixAt R a st).take a := by
  apply List.ext_getElem?; intro i
  rw [getElem?_takeB R ha, List.getElem?_take, Row.getElem?_fixAt]
  cases hc : contAt R a
  · rw [headOf_of_not_cont hc]
    by_cases h : i < a <;> simp [Row.inCut, hc, h]
  · obtain ⟨t, w, s, _, _, hwid, hlt, hcw, hlen, _⟩ := wf_cut hwf hc
    simp only [Row.inCut, hc, hwid, true_and]
    by_cases h1 : i < headOf R a
    · rw [if_pos h1, if_pos (by omega), if_neg (by omega)]
    · by_cases h2 : i < a
      · rw [if_neg h1, if_pos h2, if_pos h2, if_pos ⟨⟨by omega, by omega⟩, by omega⟩]
      · rw [if_neg h1, if_neg h2, if_neg h2]

theorem dropB_eq {R : Row} (hwf : rowWF R = true) {b : Nat} (st : Style) :
    dropB R b st = (Row.fixAt R b st).drop b := by
  apply List.ext_getElem?; intro i
  rw [getElem?_dropB R (le_endOf hwf b), List.getElem?_drop, Row.getElem?_fixAt]
  cases hc : contAt R b
  · simp [endOf, Row.inCut, hc, Nat.not_lt.2 (Nat.le_add_right b i)]
  · obtain ⟨t, w, s, _, _, hwid, hlt, hcw, hlen, _⟩ := wf_cut hwf hc
    simp only [endOf, Row.inCut, hc, hwid, true_and, if_true]
    -- `b + i` left of the end of the cut character, against `b + i` in it and in the row
    exact ite_congr (propext ⟨fun h => ⟨⟨by omega, h⟩, by omega⟩, fun h => h.1.2⟩) (fun _ => rfl)
      (fun _ => rfl)

theorem takeB_length {R : Row} (hwf : rowWF R = true) {a : Nat} (ha : a ≤ R.length) (st : Style) :
    (takeB R a st).length = a := by
  rw [takeB_eq hwf ha, List.length_take, Row.fixAt_length]; omega

theorem dropB_length {R : Row} (hwf : rowWF R = true) (a : Nat) (st : Style) :
    (dropB R a st).length = R.length - a := by
  rw [dropB_eq hwf, List.length_drop, Row.fixAt_length]

theorem rowIns_length {R : Row} (hwf : rowWF R = true) {x n : Nat} (hxn : x + n ≤ R.length)
    {C : Row} (hC : C.length = n) (st : Style) : (rowIns R x C n st).length = R.length := by
  unfold rowIns
  rw [List.length_append, List.length_append, takeB_length hwf (by omega), dropB_length hwf, hC]; omega

/-! ### the cuts along `++` and `drop`, and inside the character at the head of the row

A cut right of a character boundary does not look left of it. -/

theorem takeB_append (A : Row) {B : Row} (hB : contAt B 0 = false) (k : Nat) (st : Style) :
    takeB (A ++ B) (A.length + k) st = A ++ takeB B k st := by
  unfold takeB
  rw [headOf_append A hB, List.take_length_add_append, Nat.add_sub_add_left, List.append_assoc]

theorem takeB_drop {R : Row} {b : Nat} (hb : b ≤ R.length) (hc : contAt R b = false) (k : Nat)
    (st : Style) : takeB (R.drop b) k st = (takeB R (b + k) st).drop b := by
  have h := takeB_append (R.take b) (B := R.drop b) (by rw [contAt_drop]; exact hc) k st
  rw [List.take_append_drop, List.length_take, Nat.min_eq_left hb] at h
  rw [h, List.drop_left' (by rw [List.length_take]; omega)]

theorem takeB_charCells (t : Bytes) {w k : Nat} (hk : k < w) (s : Style) (B : Row) (st : Style) :
    takeB (charCells t w s ++ B) k st = List.replicate k (blank st) := by
  unfold takeB
  rw [headOf_charCells t hk]; rfl

theorem dropB_append (A : Row) {B : Row} (hB : contAt B 0 = false) (k : Nat) (st : Style) :
    dropB (A ++ B) (A.length + k) st = dropB B k st := by
  unfold dropB
  rw [endOf_append A hB, List.drop_append, List.drop_of_length_le (by omega), List.nil_append,
    Nat.add_sub_cancel_left, show A.length + endOf B k - (A.length + k) = endOf B k - k by omega]

theorem dropB_drop {R : Row} {b : Nat} (hb : b ≤ R.length) (hc : contAt R b = false) (k : Nat)
    (st : Style) : dropB (R.drop b) k st = dropB R (b + k) st := by
  have := dropB_append (R.take b) (B := R.drop b) (by rw [contAt_drop]; exact hc) k st
  rwa [List.take_append_drop, List.length_take, Nat.min_eq_left hb, eq_comm] at this

theorem dropB_charCells (t : Bytes) {w k : Nat} (h0 : 0 < k) (hk : k < w) (s : Style) (B : Row)
    (st : Style) : dropB (charCells t w s ++ B) k st = List.replicate (w - k) (blank st) ++ B := by
  unfold dropB
  rw [endOf_charCells t h0 hk, List.drop_left' (by rw [charCells_length]; omega)]

/-! ### a cut row cut again -/

/-- a cut row starts on a character boundary: with a blank, or with the cell at `b` when `b` is one -/
theorem contAt_dropB_zero {R : Row} (hwf : rowWF R = true) (b : Nat) (st : Style) :
    contAt (dropB R b st) 0 = false := by
  cases hc : contAt R b
  · rw [dropB_of_not_cont hc, contAt_drop]; exact hc
  · have := (endOf_bounds hwf hc).1
    exact contAt_blank (st := st) (by rw [getElem?_dropB R (le_endOf hwf b), if_pos (by omega)])

/-- A row cut at `p`, cut again `n` columns on, is the row cut at `p + n`; while both cuts fall in
    the same character its blanks keep the style of the first. -/
theorem dropB_dropB {R : Row} (hwf : rowWF R = true) {p : Nat} (hp : p ≤ R.length) (n : Nat)
    (s st : Style) :
    dropB (dropB R p s) n st = dropB R (p + n) (if p + n < endOf R p then s else st) := by
  have hpe := le_endOf hwf p
  have hel := endOf_le_length hwf hp
  by_cases h : p + n < endOf R p
  · -- the second cut falls on one of the blanks
    have hb : contAt (dropB R p s) n = false :=
      contAt_blank (st := s) (by rw [getElem?_dropB R hpe, if_pos h])
    rw [if_pos h, dropB_of_not_cont hb]
    unfold dropB
    rw [endOf_same hwf (Nat.le_add_right p n) h,
      List.drop_append_of_le_length (by rw [List.length_replicate]; omega), List.drop_replicate,
      show endOf R p - p - n = endOf R p - (p + n) by omega]
  · -- the second cut falls in `R.drop (endOf R p)`, behind the blanks
    have hk : (List.replicate (endOf R p - p) (blank s)).length + (p + n - endOf R p) = n := by
      rw [List.length_replicate]; omega
    have e1 : dropB R (p + n) st = dropB (R.drop (endOf R p)) (p + n - endOf R p) st := by
      rw [dropB_drop hel (contAt_endOf hwf p), show endOf R p + (p + n - endOf R p) = p + n by omega]
    rw [if_neg h, e1]
    conv => lhs; rw [← hk]
    exact dropB_append _ (by rw [contAt_drop]; exact contAt_endOf hwf p) _ st

/-! ### `rowIns`: nothing replaced, everything removed, outside the range; one insertion behind another -/

theorem rowIns_nil {R : Row} {x : Nat} (hc : contAt R x = false) (st : Style) :
    rowIns R x [] 0 st = R := by
  unfold rowIns
  rw [Nat.add_zero, takeB_of_not_cont hc, dropB_of_not_cont hc, List.append_nil, List.take_append_drop]

theorem rowIns_end {R : Row} (hwf : rowWF R = true) {w : Nat} (hw : w ≤ R.length) (st : Style) :
    rowIns R w [] (R.length - w) st = takeB R w st := by
  unfold rowIns
  rw [Nat.add_sub_cancel' hw, dropB_eq hwf, List.drop_of_length_le (by rw [Row.fixAt_length]; omega)]
  simp

theorem getElem?_rowIns_outside {R : Row} (hwf : rowWF R = true) {x n : Nat} (hxn : x + n ≤ R.length)
    {cells : Row} (hlen : cells.length = n) (st : Style) {i : Nat}
    (hi : i < headOf R x ∨ endOf R (x + n) ≤ i) : (rowIns R x cells n st)[i]? = R[i]? := by
  have hlt := takeB_length hwf (show x ≤ R.length by omega) st
  have hR := headOf_le R x
  unfold rowIns
  rcases hi with hi | hi
  · rw [List.append_assoc, List.getElem?_append_left (by omega), getElem?_takeB _ (by omega),
      if_pos hi]
  · have := le_endOf hwf (x + n)
    rw [List.getElem?_append_right (by rw [List.length_append]; omega), List.length_append, hlt, hlen,
      getElem?_dropB _ this, if_neg (by omega)]
    congr 1; omega

/-- A second insertion right behind the first is one insertion of both: the cut at `x + n` of the
    row with `C` inserted is the first cut with `C` (`takeB_append`), and its right part cut `m`
    columns on is the row cut at `x + n + m` (`dropB_append`, `dropB_dropB`). -/
theorem rowIns_rowIns {R : Row} (hwf : rowWF R = true) {x n : Nat} (hxn : x + n ≤ R.length)
    {C : Row} (hC : C.length = n) (D : Row) (m : Nat) (st : Style) :
    contAt (rowIns R x C n st) (x + n) = false ∧
    rowIns (rowIns R x C n st) (x + n) D m st = rowIns R x (C ++ D) (n + m) st := by
  have hl : (takeB R x st ++ C).length = x + n := by
    rw [List.length_append, takeB_length hwf (by omega), hC]
  have hD0 := contAt_dropB_zero hwf (x + n) st
  have h1 := takeB_append (takeB R x st ++ C) hD0 0 st
  have h2 := dropB_append (takeB R x st ++ C) hD0 m st
  rw [hl, dropB_dropB hwf hxn, ite_self] at h2
  rw [hl, takeB_of_not_cont hD0, List.take_zero, List.append_nil] at h1
  constructor
  · show contAt (takeB R x st ++ C ++ dropB R (x + n) st) (x + n) = false
    rw [contAt_append, if_neg (by omega), hl, Nat.sub_self]; exact hD0
  · show takeB (takeB R x st ++ C ++ _) (x + n + 0) st ++ D ++ dropB (takeB R x st ++ C ++ _) (x + n + m) st = _
    rw [h1, h2]; unfold rowIns
    simp only [List.append_assoc, Nat.add_assoc]

/-! ### the row editors as `rowIns` -/

/-- Left of `a` the second step of `blankStraddlers` (at `b ≥ a`) changes nothing, right of `b`
    the first changes nothing: a character cut by one column and reaching across the other is cut
    by both (`Row.inCut_of_lt`, `Row.inCut_of_ge`). -/
theorem blankStraddlers_cut {R : Row} (hwf : rowWF R = true) {a b : Nat} (hab : a ≤ b)
    (hb : b ≤ R.length) (st : Style) :
    (blankStraddlers R a b st).take a = takeB R a st ∧
    (blankStraddlers R a b st).drop b = dropB R b st := by
  rw [takeB_eq hwf (by omega), dropB_eq hwf]
  constructor <;> apply List.ext_getElem? <;> intro i
  · rw [List.getElem?_take, List.getElem?_take, getElem?_blankStraddlers hwf, Row.getElem?_fixAt]
    by_cases hi : i < a
    · simp only [hi, if_true, Row.inCut_or_left hwf hab hi,
        and_iff_left_of_imp (Row.inCut_lt_length hwf (c := a) (i := i))]
    · simp only [hi, if_false]
  · rw [List.getElem?_drop, List.getElem?_drop, getElem?_blankStraddlers hwf, Row.getElem?_fixAt]
    simp only [Row.inCut_or_right hwf hab (Nat.le_add_right b i),
      and_iff_left_of_imp (Row.inCut_lt_length hwf (c := b) (i := b + i))]

theorem put_rowIns {R : Row} (hwf : rowWF R = true) {x w : Nat} (hw : 1 ≤ w) (hxw : x + w ≤ R.length)
    (t : Bytes) (st : Style) : R.put x t w st = rowIns R x (charCells t w st) w st := by
  obtain ⟨s1, s2⟩ := blankStraddlers_cut hwf (Nat.le_add_right x w) hxw st
  have hlen := charCells_length_pos t hw st
  unfold Row.put rowIns
  rw [setRange_eq _ _ _ (by rw [blankStraddlers_length, hlen]; exact hxw), hlen, s1, s2]

theorem erase_rowIns {R : Row} (hwf : rowWF R = true) {a b : Nat} (hab : a < b) (hb : b ≤ R.length)
    (st : Style) : R.erase a b st = rowIns R a (List.replicate (b - a) (blank st)) (b - a) st := by
  obtain ⟨s1, s2⟩ := blankStraddlers_cut hwf (Nat.le_of_lt hab) hb st
  unfold Row.erase rowIns
  simp only [Nat.min_eq_left hb, show ¬ a ≥ b by omega, if_false]
  rw [blankRange_eq _ _ _ _ (by rw [blankStraddlers_length]; omega),
    Nat.add_sub_cancel' (Nat.le_of_lt hab), s1, s2]

theorem dch_rowIns {R : Row} (hwf : rowWF R = true) {x n : Nat} (hx : x < R.length) (hn : 0 < n)
    (st : Style) :
    R.dch x n st = rowIns R x [] (min n (R.length - x)) st ++
      List.replicate (min n (R.length - x)) (blank st) := by
  obtain ⟨s1, s2⟩ := blankStraddlers_cut hwf (Nat.le_add_right x (min n (R.length - x))) (by omega) st
  unfold Row.dch rowIns
  simp only [show ¬ (x ≥ R.length ∨ n = 0) by omega, if_false, s1, s2, List.append_nil]

theorem cutRow_takeB {R : Row} (hwf : rowWF R = true) {w : Nat} (hw : w ≤ R.length) (st : Style) :
    cutRow R w st = takeB R w st := by rw [takeB_eq hwf hw, cutRow_eq_fixAt]

/-- the tail that `Row.putKeep` appends after the kept character and the new one: when `b` still
    lies inside the kept character (the one `x` cuts), `headOf` and `endOf` at `b` are its -/
theorem dropB_keepTail {R : Row} (hwf : rowWF R = true) {x b : Nat} (hc : contAt R x = true)
    (hxb : x ≤ b) (st : Style) :
    (if b < headOf R x + widthAt R (headOf R x)
      then List.replicate (headOf R x + widthAt R (headOf R x) - b) (blank st) ++
        R.drop (headOf R x + widthAt R (headOf R x))
      else (if contAt R b then blankCharAt R b st else R).drop b) = dropB R b st := by
  obtain ⟨t, w, s, hcell, _, hwid, hlt, hcw, hlen, hconts, _⟩ := wf_cut hwf hc
  split
  · next hbe =>
    rw [hwid] at hbe
    have hu : headOf R b = headOf R x := wf_headOf_eq hwf hcell (by omega) hbe
    simp only [dropB, endOf, hconts b (by omega) hbe, hu, if_true]
  · exact (dropB_eq hwf st).symm

theorem putKeep_rowIns {R : Row} (hwf : rowWF R = true) {x : Nat} (hc : contAt R x = true) (w : Nat)
    (t : Bytes) (st : Style) :
    R.putKeep x t w st =
      cutRow (R.take (endOf R x) ++ charCells t w st ++ dropB R (x + w) st) R.length st := by
  unfold Row.putKeep
  simp only [dropB_keepTail hwf hc (Nat.le_add_right x w), endOf, hc, if_true]

/-- the row that `Row.putKeep` cuts back is at least as long as `R`: the kept character ends
    right of `x` -/
theorem putKeep_rowIns_length {R : Row} (hwf : rowWF R = true) {x : Nat} (hc : contAt R x = true)
    (w : Nat) (t : Bytes) (st : Style) :
    R.length ≤ (R.take (endOf R x) ++ charCells t w st ++ dropB R (x + w) st).length := by
  obtain ⟨hxe, hel, _⟩ := endOf_bounds hwf hc
  simp only [List.length_append, List.length_take, charCells_length, dropB_length hwf]; omega

end C02Span

theorem putKeep_length (r : Row) (x : Nat) (text : Bytes) (w : Nat) (st : Style)
    (hwf : rowWF r = true) (hc : contAt r x = true) :
    (Row.putKeep r x text w st).length = r.length := by
  rw [C02Span.putKeep_rowIns hwf hc]
  exact cutRow_length st (C02Span.putKeep_rowIns_length hwf hc w text st)

end TM
