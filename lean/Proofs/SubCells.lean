import TM.Mirror
import Proofs.RowClosed
/-!
# `cutCell` / `subCells` on a well-formed row, read by character boundaries

`cutCell` and `subCells` (the model of `StyledLine` with a sub-range) are functions of rows, defined
in `TM/Mirror.lean` above the terminal model: the import is for these two only. `cutCell r a b i`
tests `headOf`/`widthAt`. In a well-formed row that test is a statement about character boundaries
(columns that are not continuation cells): the cell shows as it is iff boundaries `p ≤ i < q` lie
inside the window. `subSeg` is a stretch of `subCells`; it is additive, and `subSeg_zones` reads a
stretch that consists of cut cells, whole characters, cut cells. A whole window is of that shape, so
it keeps every predicate the row operations keep (`RowClosed.subCells`).
-/
namespace TM

/-- the cells `[i, i + n)` of the row as seen through the window `[a, b)` -/
def subSeg (r : Row) (a b i n : Nat) : Row := (List.range n).map fun k => cutCell r a b (i + k)

theorem subCells_eq_subSeg (r : Row) (a b : Nat) : subCells r a b = subSeg r a b a (b - a) := rfl

theorem subCells_length (r : Row) (a b : Nat) : (subCells r a b).length = b - a := by
  simp [subCells]

theorem subCells_getElem? (r : Row) (a b k : Nat) (hk : k < b - a) :
    (subCells r a b)[k]? = some (cutCell r a b (a + k)) := by
  simp [subCells, List.getElem?_map, List.getElem?_range hk]

theorem subSeg_add (r : Row) (a b i m n : Nat) :
    subSeg r a b i (m + n) = subSeg r a b i m ++ subSeg r a b (i + m) n := by
  unfold subSeg
  rw [List.range_add, List.map_append, List.map_map]
  congr 1
  apply List.map_congr_left
  intro k _
  simp only [Function.comp]; rw [Nat.add_assoc]

theorem cutCell_inside (r : Row) (a b i : Nat) (hi : i < r.length) (h1 : a ≤ headOf r i)
    (h2 : headOf r i + widthAt r (headOf r i) ≤ b) : cutCell r a b i = r[i] := by
  unfold cutCell
  simp only []
  rw [if_neg (by omega), getD_lt hi]

theorem cutCell_cut (r : Row) (a b i : Nat) (hi : i < r.length)
    (h : headOf r i < a ∨ b < headOf r i + widthAt r (headOf r i)) :
    cutCell r a b i = blank (r[i]).sty := by
  unfold cutCell
  simp only []
  rw [if_pos (by omega), getD_lt hi]

/-- boundaries `p ≤ i < q` inside the window: the cell is shown as it is -/
theorem cutCell_whole {r : Row} (hwf : rowWF r = true) {a b i p q : Nat} (hi : i < r.length)
    (hap : a ≤ p) (hpi : p ≤ i) (hiq : i < q) (hqb : q ≤ b)
    (hp : contAt r p = false) (hq : contAt r q = false) : cutCell r a b i = r[i] := by
  obtain ⟨t, w, st, hh, _, h3, _, _, _⟩ := wf_head hwf hi
  have hle := headOf_le r i
  have h1 := le_headOf hp hpi
  have h2 : headOf r i + w ≤ q := by
    false_or_by_contra
    rw [(wf_ch hwf hh).2.2.1 q (by omega) (by omega)] at hq; cases hq
  exact cutCell_inside r a b i hi (by omega) (by rw [wf_widthAt hwf hh]; omega)

/-- no boundary in `[a, i]`: the character began left of the window -/
theorem cutCell_lead {r : Row} (hwf : rowWF r = true) {a i : Nat} (b : Nat) (hi : i < r.length)
    (h : ∀ m, a ≤ m → m ≤ i → contAt r m = true) : cutCell r a b i = blank (r[i]).sty := by
  obtain ⟨_, _, _, _, _, _, _, h5, _⟩ := wf_head hwf hi
  have hlt : headOf r i < a := by
    false_or_by_contra
    rw [h _ (by omega) (headOf_le r i)] at h5; cases h5
  exact cutCell_cut r a b i hi (Or.inl hlt)

/-- no boundary in `(i, b]`: the character ends right of the window -/
theorem cutCell_tail {r : Row} (hwf : rowWF r = true) (a : Nat) {b i : Nat} (hi : i < r.length)
    (h : ∀ m, i < m → m ≤ b → contAt r m = true) : cutCell r a b i = blank (r[i]).sty := by
  obtain ⟨t, w, st, hh, _, h3, _, _, h6⟩ := wf_head hwf hi
  have hgt : b < headOf r i + w := by
    false_or_by_contra
    rw [h _ h3 (by omega)] at h6; cases h6
  exact cutCell_cut r a b i hi (Or.inr (by rw [wf_widthAt hwf hh]; exact hgt))

theorem subSeg_eq_replicate {r : Row} {a b i n : Nat} {c : Cell}
    (h : ∀ k, k < n → cutCell r a b (i + k) = c) : subSeg r a b i n = List.replicate n c := by
  rw [List.eq_replicate_iff]
  refine ⟨by simp [subSeg], fun d hd => ?_⟩
  obtain ⟨k, hk, rfl⟩ := List.mem_map.1 hd
  exact h k (List.mem_range.1 hk)

theorem subSeg_eq_slice {r : Row} {a b i n : Nat} (hl : i + n ≤ r.length)
    (h : ∀ k (hk : k < n), cutCell r a b (i + k) = r[i + k]) : subSeg r a b i n = (r.drop i).take n := by
  apply List.ext_getElem?
  intro k
  by_cases hk : k < n
  · rw [subSeg, List.getElem?_map, List.getElem?_range hk, Option.map_some, h k hk, List.getElem?_take,
      if_pos hk, List.getElem?_drop, List.getElem?_eq_getElem (by omega)]
  · rw [List.getElem?_eq_none (by simp [subSeg]; omega), List.getElem?_eq_none (by simp; omega)]

/-- A stretch `[i, i + l + m + t)` of one style inside the window `[a, b)`: `l` cells of a
    character that began left of the window, `m` cells of whole characters (from the boundary
    `i + l` to the boundary `i + l + m`), `t` cells of a character that ends right of the window. -/
theorem subSeg_zones {r : Row} (hwf : rowWF r = true) {a b i l m t : Nat} {st : Style}
    (hai : a ≤ i) (hb : i + l + m + t ≤ b) (hbl : b ≤ r.length)
    (hsty : ∀ j (hj : j < r.length), i ≤ j → j < i + l + m + t → (r[j]).sty = st)
    (hl : 0 < l → ∀ j, a ≤ j → j < i + l → contAt r j = true)
    (hp : 0 < m → contAt r (i + l) = false) (hq : 0 < m → contAt r (i + l + m) = false)
    (ht : 0 < t → ∀ j, i + l + m < j → j ≤ b → contAt r j = true) :
    subSeg r a b i (l + m + t) =
      List.replicate l (blank st) ++ (r.drop (i + l)).take m ++ List.replicate t (blank st) := by
  rw [subSeg_add, subSeg_add]
  congr 1
  congr 1
  · exact subSeg_eq_replicate fun k hk => by
      rw [cutCell_lead hwf b (by omega) fun j h1 h2 => hl (by omega) j h1 (by omega),
        hsty _ (by omega) (by omega) (by omega)]
  · exact subSeg_eq_slice (by omega) fun k hk =>
      cutCell_whole hwf (by omega) (by omega) (Nat.le_add_right _ k) (by omega) (by omega)
        (hp (by omega)) (hq (by omega))
  · exact subSeg_eq_replicate fun k hk => by
      rw [cutCell_tail hwf a (by omega) fun j h1 h2 => ht (by omega) j (by omega) h2,
        hsty _ (by omega) (by omega) (by omega)]

/-! ### a window seen from behind a prefix; the character at the head of the row -/

theorem cutCell_append_right (A : Row) {B : Row} (hB : contAt B 0 = false) (a b k : Nat) :
    cutCell (A ++ B) a b (A.length + k) = cutCell B (a - A.length) (b - A.length) k := by
  have h1 := widthAt_pos B (headOf B k)
  unfold cutCell
  simp only [headOf_append A hB, widthAt_append_right, List.getD_eq_getElem?_getD,
    List.getElem?_append_right (Nat.le_add_right A.length k), Nat.add_sub_cancel_left]
  exact ite_congr (propext (by omega)) (fun _ => rfl) fun _ => rfl

theorem subSeg_append_right (A : Row) {B : Row} (hB : contAt B 0 = false) (a b i n : Nat) :
    subSeg (A ++ B) a b (A.length + i) n = subSeg B (a - A.length) (b - A.length) i n :=
  List.map_congr_left fun k _ => by rw [Nat.add_assoc, cutCell_append_right A hB]

/-- cells of the character at the head of the row: as they are when the window holds all of it,
    else blanks in its style -/
theorem subSeg_charCells (t : Bytes) {w : Nat} (hw : 1 ≤ w) (s : Style) (B : Row) (a b : Nat)
    {i n : Nat} (hin : i + n ≤ w) :
    subSeg (charCells t w s ++ B) a b i n =
      if a = 0 ∧ w ≤ b then ((charCells t w s).drop i).take n else List.replicate n (blank s) := by
  have hl := charCells_length_pos t hw s
  have hcell : ∀ k, k < n → ∃ g, (charCells t w s ++ B)[i + k]? = some ⟨g, s⟩ := fun k hk => by
    rw [List.getElem?_append_left (by omega), getElem?_charCells]
    split
    · exact ⟨_, rfl⟩
    · rw [if_pos (by omega)]; exact ⟨_, rfl⟩
  have hw0 := widthAt_charCells t hw s B
  split
  · next h =>
    rw [subSeg_eq_slice (by rw [List.length_append]; omega) fun k hk => by
        obtain ⟨g, hg⟩ := hcell k hk
        obtain ⟨_, hge⟩ := List.getElem?_eq_some_iff.1 hg
        rw [cutCell, headOf_charCells t (by omega), hw0, if_neg (by omega),
          List.getD_eq_getElem?_getD, hg, hge]; rfl,
      List.drop_append_of_le_length (by omega),
      List.take_append_of_le_length (by rw [List.length_drop]; omega)]
  · next h =>
    exact subSeg_eq_replicate fun k hk => by
      obtain ⟨g, hg⟩ := hcell k hk
      rw [cutCell, headOf_charCells t (by omega), hw0, if_pos (by omega),
        List.getD_eq_getElem?_getD, hg]; rfl

/-! ### a window of a row keeps every predicate that the row operations keep -/

namespace RowClosed
open TM.C02Span
variable {St : Style → Prop} {Tx : Bytes → Nat → Prop} {P : Row → Prop} (C : RowClosed St Tx P)
  (hsp : Tx [0x20] 1)
include C hsp

/-- The window `[a, b)` is cut cells up to the first boundary `p ≥ a`, the row as it is up to the
    last boundary `q ≤ b`, cut cells again; when `a` and `b` cut the same character there are
    only cut cells (`p = q = b`). -/
theorem subCells {r : Row} (h : P r) (hst : ∀ c ∈ r, St c.sty) (a : Nat) {b : Nat}
    (hb : b ≤ r.length) : P (subCells r a b) := by
  have hwf := C.wf h
  rcases Nat.le_total b a with hba | hab
  · simpa [TM.subCells, Nat.sub_eq_zero_of_le hba] using C.nil
  have hcut : ∀ i (hi : i < r.length), cutCell r a b i = blank (r[i]).sty →
      ∃ st, St st ∧ cutCell r a b i = blank st :=
    fun i hi e => ⟨_, hst _ (List.getElem_mem hi), e⟩
  -- `p`, `q`: the first boundary from `a` on and the last up to `b`, or `b` twice
  obtain ⟨p, q, hap, hpq, hqb, hpe, hqh, hmid⟩ : ∃ p q, a ≤ p ∧ p ≤ q ∧ q ≤ b ∧ p ≤ endOf r a ∧
      headOf r b ≤ q ∧ (p < q → p = endOf r a ∧ q = headOf r b) :=
    have h1 := le_endOf hwf a
    have h2 := headOf_le r b
    ⟨min (endOf r a) b, max (headOf r b) (min (endOf r a) b), by omega, by omega, by omega, by omega,
      by omega, by omega⟩
  rw [subCells_eq_subSeg, show b - a = (p - a) + (q - p) + (b - q) by omega, subSeg_add, subSeg_add,
    show a + (p - a) = p by omega, show a + (p - a + (q - p)) = q by omega]
  refine C.append (C.append (C.blankCells hsp fun c hc => ?_) ?_) (C.blankCells hsp fun c hc => ?_)
  · obtain ⟨k, hk, rfl⟩ := List.mem_map.1 hc
    have hk := List.mem_range.1 hk
    exact hcut _ (by omega) (cutCell_lead hwf b (by omega) fun m h1 h2 =>
      contAt_of_lt_endOf hwf h1 (by omega))
  · by_cases hlt : p < q
    · obtain ⟨e1, e2⟩ := hmid hlt
      have c1 : contAt r p = false := e1 ▸ contAt_endOf hwf a
      have c2 : contAt r q = false := e2 ▸ contAt_headOf hwf b
      rw [subSeg_eq_slice (by omega) fun k hk =>
        cutCell_whole hwf (by omega) hap (Nat.le_add_right p k) (by omega) hqb c1 c2]
      exact C.take (C.drop h c1) (by rw [contAt_drop, show p + (q - p) = q by omega]; exact c2)
    · simpa [subSeg, show q - p = 0 by omega] using C.nil
  · obtain ⟨k, hk, rfl⟩ := List.mem_map.1 hc
    have hk := List.mem_range.1 hk
    exact hcut _ (by omega) (cutCell_tail hwf a (by omega) fun m h1 h2 =>
      headOf_cont r b m (by omega) h2)

end RowClosed

end TM
