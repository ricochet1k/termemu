import TM.Term
/-!
# The terminal's active buffer and CSI parameters

`pAt` on `[]` and `p :: ps` (how the dispatcher reads its parameters); what holds of both buffers
holds of the active one (`scr_both`); what `Term.setScr` leaves alone (everything but the active
buffer) and what `Term.setKbd` leaves alone (everything but the keyboard state of the active buffer),
field by field; `decModes` on `p :: ps`.
-/
namespace TM

theorem pAt_nil (k : Nat) (d : Int) : pAt [] k d = d := rfl

theorem pAt_cons_zero (p : Int) (ps : List Int) (d : Int) : pAt (p :: ps) 0 d = p := rfl

theorem pAt_cons_succ (p : Int) (ps : List Int) (k : Nat) (d : Int) :
    pAt (p :: ps) (k + 1) d = pAt ps k d := by simp [pAt]

end TM

namespace TM.Term

theorem scr_both {Q : Scr → Prop} {t : Term} (hm : Q t.main) (ha : Q t.alt) : Q t.scr := by
  unfold Term.scr; split <;> assumption

@[simp] theorem scr_setScr (t : Term) (s : Scr) : (t.setScr s).scr = s := by
  unfold Term.setScr Term.scr
  cases t.onAlt <;> simp

theorem setScr_scr (t : Term) : t.setScr t.scr = t := by
  unfold Term.setScr Term.scr
  cases h : t.onAlt <;> simp
  · cases t; simp_all
  · cases t; simp_all

/-! ### what `setScr` leaves alone, field by field -/

theorem setScr_onAlt (t : Term) (s : Scr) : (t.setScr s).onAlt = t.onAlt := by
  unfold Term.setScr; cases t.onAlt <;> rfl

theorem setScr_pol (t : Term) (s : Scr) : (t.setScr s).pol = t.pol := by
  unfold Term.setScr; cases t.onAlt <;> rfl

theorem setScr_vflags (t : Term) (s : Scr) : (t.setScr s).vflags = t.vflags := by
  unfold Term.setScr; cases t.onAlt <;> rfl

theorem setScr_vints (t : Term) (s : Scr) : (t.setScr s).vints = t.vints := by
  unfold Term.setScr; cases t.onAlt <;> rfl

theorem setScr_vstrs (t : Term) (s : Scr) : (t.setScr s).vstrs = t.vstrs := by
  unfold Term.setScr; cases t.onAlt <;> rfl

theorem setScr_kmain (t : Term) (s : Scr) : (t.setScr s).kmain = t.kmain := by
  unfold Term.setScr; cases t.onAlt <;> rfl

theorem setScr_kalt (t : Term) (s : Scr) : (t.setScr s).kalt = t.kalt := by
  unfold Term.setScr; cases t.onAlt <;> rfl

theorem setScr_main_of_alt {t : Term} (h : t.onAlt = true) (s : Scr) : (t.setScr s).main = t.main := by
  unfold Term.setScr; rw [h]; rfl

theorem setScr_alt_of_main {t : Term} (h : t.onAlt = false) (s : Scr) : (t.setScr s).alt = t.alt := by
  unfold Term.setScr; rw [h]; rfl

theorem setScr_inactive (t : Term) (s : Scr) :
    if t.onAlt then (t.setScr s).main = t.main else (t.setScr s).alt = t.alt := by
  split
  · exact setScr_main_of_alt ‹_› s
  · exact setScr_alt_of_main (Bool.eq_false_iff.2 ‹_›) s

/-! ### what `setKbd` sets (the keyboard state of the active buffer) and leaves alone -/

theorem setKbd_scr (t : Term) (k : Kbd) : (t.setKbd k).scr = t.scr := by
  unfold Term.setKbd Term.scr; cases t.onAlt <;> rfl

theorem setKbd_onAlt (t : Term) (k : Kbd) : (t.setKbd k).onAlt = t.onAlt := by
  unfold Term.setKbd; cases t.onAlt <;> rfl

theorem setKbd_pol (t : Term) (k : Kbd) : (t.setKbd k).pol = t.pol := by
  unfold Term.setKbd; cases t.onAlt <;> rfl

theorem setKbd_main (t : Term) (k : Kbd) : (t.setKbd k).main = t.main := by
  unfold Term.setKbd; cases t.onAlt <;> rfl

theorem setKbd_alt (t : Term) (k : Kbd) : (t.setKbd k).alt = t.alt := by
  unfold Term.setKbd; cases t.onAlt <;> rfl

theorem setKbd_vflags (t : Term) (k : Kbd) : (t.setKbd k).vflags = t.vflags := by
  unfold Term.setKbd; cases t.onAlt <;> rfl

theorem setKbd_vints (t : Term) (k : Kbd) : (t.setKbd k).vints = t.vints := by
  unfold Term.setKbd; cases t.onAlt <;> rfl

theorem setKbd_vstrs (t : Term) (k : Kbd) : (t.setKbd k).vstrs = t.vstrs := by
  unfold Term.setKbd; cases t.onAlt <;> rfl

theorem setKbd_kmain_of_main {t : Term} (h : t.onAlt = false) (k : Kbd) : (t.setKbd k).kmain = k := by
  unfold Term.setKbd; rw [h]; rfl

theorem setKbd_kalt_of_main {t : Term} (h : t.onAlt = false) (k : Kbd) : (t.setKbd k).kalt = t.kalt := by
  unfold Term.setKbd; rw [h]; rfl

theorem setKbd_kmain_of_alt {t : Term} (h : t.onAlt = true) (k : Kbd) : (t.setKbd k).kmain = t.kmain := by
  unfold Term.setKbd; rw [h]; rfl

theorem setKbd_kalt_of_alt {t : Term} (h : t.onAlt = true) (k : Kbd) : (t.setKbd k).kalt = k := by
  unfold Term.setKbd; rw [h]; rfl

theorem decModes_cons (t : Term) (v : Bool) (p : Int) (ps : List Int) :
    t.decModes v (p :: ps) =
      (((t.decMode p v).1.decModes v ps).1,
       (t.decMode p v).2 ++ ((t.decMode p v).1.decModes v ps).2) := rfl

end TM.Term
