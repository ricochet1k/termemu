/-!
# Walking an `if` cascade

The model's dispatchers and encoders are long `if … then … else if …` cascades. A fact about one
is proved leaf by leaf: for a predicate of one cascade (`ite_cases`, or `ite_of` when no leaf needs
its conditions), against a second cascade with the same conditions (`ite_rel`), or against a fixed
value (`ite_eq`).
-/
namespace TM

/-- core's `iteInduction` for a `Prop` motive: each leaf under the conditions that lead to it -/
theorem ite_cases {α : Sort _} {Q : α → Prop} {c : Prop} [Decidable c] {a b : α}
    (ha : c → Q a) (hb : ¬c → Q b) : Q (if c then a else b) := iteInduction ha hb

theorem ite_of {α : Sort _} {P : α → Prop} {c : Prop} [Decidable c] {a b : α} (ha : P a) (hb : P b) :
    P (if c then a else b) := ite_cases (fun _ => ha) (fun _ => hb)

/-- two cascades with the same conditions, leaf against leaf: two dispatchers followed at once (a
    generated `STerm`/`GTerm` dispatcher against `Term.apply`), one dispatcher on two terminals, or
    one function on two inputs (the tokeniser on `bs` and on `bs ++ q`) -/
theorem ite_rel {α β : Sort _} {R : α → β → Prop} {c : Prop} [Decidable c] {a a' : α} {b b' : β}
    (ht : c → R a b) (he : ¬c → R a' b') : R (if c then a else a') (if c then b else b') := by
  split
  · exact ht ‹_›
  · exact he ‹_›

theorem ite_eq {α : Sort _} {c : Prop} [Decidable c] {a b r : α} (ht : c → a = r) (he : ¬c → b = r) :
    (if c then a else b) = r := ite_cases (Q := (· = r)) ht he

end TM
