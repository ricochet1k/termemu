import Proofs.Utf8
import Proofs.Scan
import Proofs.Ite
import Proofs.List
/-!
# The tokeniser `next`

A token, once complete, is not changed by the bytes that follow it, and spans between one byte and
the bytes that are there (`next_append`, `next_progress`). For text this is the stability of
`fullRune` / `decodeRune`. For escape sequences each scanner has the same property
(`*_append`), the three phases of `parseCSI` after its private prefix are one function `csiBody`
whose tokens are exactly the byte strings of a grammar (`CsiForm`, `csiBody_run`, `csiBody_tok`),
and the parsers built from these are walked on `bs` and on `bs ++ q` side by side (`Step.Ext`,
`*_ext`). Also here: the first bytes of a token, the text token in both directions (`next_utf8`,
`next_text_inv`), and `byte_nat`, the tactic for the arithmetic of the byte classes. `Proofs/List`
is imported for `foldl_const_false` (the flag that `csiSkipParams` folds) alone; the read loop is in
`Proofs/Run.lean`.
-/
namespace TM

/-! ### parser phases

Each phase scans while the bytes belong to its class and stops at the first byte that does not;
that byte is in `bs`, so the scan of `bs ++ q` stops at the same place. The phases that hand the
rest of the input on return it (`r`, and then `r ++ q`) with the count so far; the two that end
the sequence (`csiInter`, `escInter`) return the final byte and the count after it. -/

theorem escInter_append (q : Bytes) {bs a : Bytes} {n : Nat} {a' : Bytes} {f : UInt8} {n' : Nat}
    (h : escInter bs a n = some (a', f, n')) :
    escInter (bs ++ q) a n = some (a', f, n') ∧ n < n' ∧ n' ≤ n + bs.length := by
  rw [escInter_eq] at h ⊢; exact withFinal_append q h

theorem oscDigits_append (q : Bytes) {bs a : Bytes} {n : Nat} {ds r : Bytes} {n' : Nat}
    (h : oscDigits bs a n = some (ds, r, n')) :
    oscDigits (bs ++ q) a n = some (ds, r ++ q, n') ∧ n' + r.length = n + bs.length ∧ n ≤ n' := by
  rw [oscDigits_eq] at h ⊢
  obtain ⟨⟨a', r', m⟩, hs, hy⟩ := Option.map_eq_some_iff.1 h
  cases hy
  have a := scanWhile_append q hs
  exact ⟨by rw [a.1]; rfl, a.2⟩

theorem strPayload_append {be : Bool} (q : Bytes) : ∀ {bs : Bytes} {a : Bytes} {need n : Nat} {a' : Bytes} {n' : Nat},
    strPayload be bs a need n = some (a', n') →
    strPayload be (bs ++ q) a need n = some (a', n') ∧ n < n' ∧ n' ≤ n + bs.length := by
  intro bs
  induction bs with
  | nil => intro a need n a' n' h; simp [strPayload] at h
  | cons b rest ih =>
    intro a need n a' n'
    simp only [strPayload, List.cons_append, List.length_cons]
    -- the three terminators end the scan on `bs` and on `bs ++ q` alike
    let R (x y : Option (Bytes × Nat)) : Prop :=
      x = some (a', n') → y = some (a', n') ∧ n < n' ∧ n' ≤ n + (rest.length + 1)
    have leaf : ∀ x : Bytes, R (some (x, n + 1)) (some (x, n + 1)) :=
      fun x h => by cases h; exact ⟨rfl, by omega, by omega⟩
    refine ite_rel (R := R) (fun _ => leaf _) fun _ => ite_rel (R := R) (fun _ => leaf _) fun _ =>
      ite_rel (R := R) (fun _ => leaf _) fun _ h => ?_
    obtain ⟨e, h1, h2⟩ := ih h
    exact ⟨e, by omega, by omega⟩

/-! ### the CSI grammar; `byte_nat` -/

/-- the three phases of `parseCSI` after the private prefix has been split off -/
def csiBody (pre : UInt8) (body : Bytes) (n1 : Nat) : Step :=
  match csiParams body {} n1 with
  | none => .need
  | some (p, body2, n2) =>
    match csiSkipParams body2 true n2 with
    | none => .need
    | some (clean, body3, n3) =>
      match csiInter body3 clean n3 with
      | none => .need
      | some (clean', fin, n4) => .tok (.csi pre p.finish clean' fin) n4

/-- Every byte class is an interval of byte values, so the relations between the classes are linear
    arithmetic: `byte_nat [classes]` unfolds the listed classes and turns comparisons and equations
    between bytes into ones between their `toNat`s, for `omega`. -/
macro "byte_nat" "[" cs:Lean.Parser.Tactic.simpLemma,* "]" : tactic => `(tactic|
  simp only [Bool.and_eq_true, Bool.or_eq_true, Bool.and_eq_false_iff, Bool.or_eq_false_iff,
    bne_iff_ne, beq_iff_eq, ge_iff_le, decide_eq_true_eq, decide_eq_false_iff_not,
    UInt8.le_iff_toNat_le, ne_eq, ← UInt8.toNat_inj, UInt8.toNat_ofNat, $cs,*])

/-- the private prefixes `<` `=` `>` `?` are one interval -/
theorem isPfx_eq (b : UInt8) :
    (decide (b = 0x3f) || decide (b = 0x3e) || decide (b = 0x3c) || decide (b = 0x3d)) = (0x3c ≤ b && b ≤ 0x3f) := by
  rw [Bool.eq_iff_iff]; byte_nat []; omega

theorem parseCSI_cons (b : UInt8) (r : Bytes) (n0 : Nat) :
    parseCSI (b :: r) n0 =
      if (0x3c ≤ b && b ≤ 0x3f) = true then csiBody b r (n0 + 1) else csiBody 0 (b :: r) n0 := by
  rw [← isPfx_eq]
  by_cases hp : (b = 0x3f || b = 0x3e || b = 0x3c || b = 0x3d) = true
  · simp only [parseCSI, csiBody, hp, if_true]; rfl
  · simp only [parseCSI, csiBody, hp]; rfl

theorem not_paramByte_of_range {b : UInt8} : isCsiParamRange b = false → isParamByte b = false := by
  byte_nat [isCsiParamRange, isParamByte, isDigit]; omega

theorem not_range_of_inter {b : UInt8} : isIntermediate b = true → isCsiParamRange b = false := by
  byte_nat [isIntermediate, isCsiParamRange]; omega

theorem digit_not_prefix (d : UInt8) : isDigit d = true → (0x3c ≤ d && d ≤ 0x3f) = false := by
  byte_nat [isDigit]; omega

/-- what may follow `ESC [` and the private prefix: digits and `;` (`xs1`), then further bytes of the
    parameter range starting with one that is neither (`xs2`), then intermediates, then the final byte -/
structure CsiForm (xs1 xs2 is : Bytes) (f : UInt8) : Prop where
  h1 : ∀ b ∈ xs1, isParamByte b = true
  h2 : ∀ b ∈ xs2, isCsiParamRange b = true
  h2h : ∀ d ∈ xs2.head?, isParamByte d = false
  hi : ∀ b ∈ is, isIntermediate b = true
  hf : isIntermediate f = false
  hf' : is = [] → isCsiParamRange f = false

theorem CsiForm.tail_head {xs1 xs2 is : Bytes} {f : UInt8} (h : CsiForm xs1 xs2 is f) (rest : Bytes) :
    ∀ c ∈ (is ++ f :: rest).head?, isCsiParamRange c = false := by
  intro c hc
  cases is with
  | nil => cases hc; exact h.hf' rfl
  | cons i is' => cases hc; exact not_range_of_inter (h.hi _ (by simp))

/-- forward: a sequence of the grammar is one token, whatever follows -/
theorem csiBody_run (pre : UInt8) {xs1 xs2 is : Bytes} {f : UInt8} (h : CsiForm xs1 xs2 is f) (rest : Bytes) (n1 : Nat) :
    csiBody pre (xs1 ++ (xs2 ++ (is ++ f :: rest))) n1 =
      .tok (.csi pre (xs1.foldl PState.feed {}).finish (xs2.isEmpty && is.isEmpty) f)
        (n1 + xs1.length + xs2.length + is.length + 1) := by
  have t2 := h.tail_head rest
  have t1 : ∀ c ∈ (xs2 ++ (is ++ f :: rest)).head?, isParamByte c = false := by
    intro c hc
    cases xs2 with
    | nil => exact not_paramByte_of_range (t2 c hc)
    | cons d ds => exact h.h2h c hc
  unfold csiBody
  rw [csiParams_eq, scanWhile_stop _ _ xs1 _ h.h1 (by simp) t1]
  simp only []
  rw [csiSkipParams_eq, scanWhile_stop _ _ xs2 _ h.h2 (by simp) t2]
  simp only []
  rw [csiInter_eq, scanWhile_run _ _ is f rest h.hi h.hf]
  simp [withFinal, foldl_const_false]

/-- backward: every CSI token comes from a sequence of the grammar -/
theorem csiBody_tok {pre : UInt8} {body : Bytes} {n1 : Nat} {t : Tok} {n : Nat} (h : csiBody pre body n1 = .tok t n) :
    ∃ xs1 xs2 is f rest, body = xs1 ++ (xs2 ++ (is ++ f :: rest)) ∧ CsiForm xs1 xs2 is f ∧
      t = .csi pre (xs1.foldl PState.feed {}).finish (xs2.isEmpty && is.isEmpty) f ∧
      n = n1 + xs1.length + xs2.length + is.length + 1 := by
  unfold csiBody at h
  split at h; · cases h
  rename_i p b2 n2 e1
  split at h; · cases h
  rename_i c b3 n3 e2
  split at h; · cases h
  rename_i c' f n4 e3
  rw [csiParams_eq] at e1; rw [csiSkipParams_eq] at e2; rw [csiInter_eq] at e3
  obtain ⟨xs1, c1, r1, rfl, h1, hc1, rfl, rfl, rfl⟩ := scanWhile_some e1
  obtain ⟨xs2, c2, r2, e, h2, hc2, rfl, rfl, rfl⟩ := scanWhile_some e2
  obtain ⟨⟨s3, r3, m3⟩, e3', hy⟩ := Option.map_eq_some_iff.1 e3
  obtain ⟨is, f', rest, e', hi, hf, rfl, rfl, rfl⟩ := scanWhile_some e3'
  cases hy; cases h
  refine ⟨xs1, xs2, is, f', rest, by rw [e, e'], ⟨h1, h2, ?_, hi, hf, ?_⟩, ?_, rfl⟩
  · intro d hd
    cases xs2 with
    | nil => cases hd
    | cons d' ds => cases hd; cases e; exact hc1
  · rintro rfl; cases e'; exact hc2
  · simp [foldl_const_false]

/-! ### more input does not change a token

`Step.Ext n0 len a b`: `b` answers as `a` does once `a` has answered, with a token that ends after
`n0` and within `len` bytes more. It is what a parser says on `bs` (`a`) and on `bs ++ q` (`b`) when
it starts `n0` bytes into the sequence with `len = bs.length`. The two runs go through the same
cascade, so they are compared leaf by leaf (`ite_rel`): a leaf that still waits (`need`), a leaf
that answers (`tok`), a parser called after one more byte was consumed (`cons`). -/

def Step.Ext (n0 len : Nat) (a b : Step) : Prop := ∀ t n, a = .tok t n → b = .tok t n ∧ n0 < n ∧ n ≤ n0 + len

theorem Step.Ext.need {n0 len : Nat} {b : Step} : Step.Ext n0 len .need b := fun _ _ h => nomatch h

theorem Step.Ext.tok {n0 len n : Nat} {t : Tok} (h1 : n0 < n) (h2 : n ≤ n0 + len) :
    Step.Ext n0 len (.tok t n) (.tok t n) :=
  fun _ _ h => by cases h; exact ⟨rfl, h1, h2⟩

theorem Step.Ext.cons {n0 len : Nat} {a b : Step} (h : Step.Ext (n0 + 1) len a b) : Step.Ext n0 (len + 1) a b :=
  fun t n e => ⟨(h t n e).1, by have := (h t n e).2; omega, by have := (h t n e).2; omega⟩

theorem csiBody_ext (q : Bytes) (pre : UInt8) (body : Bytes) (n1 : Nat) :
    Step.Ext n1 body.length (csiBody pre body n1) (csiBody pre (body ++ q) n1) := by
  intro t n h
  obtain ⟨xs1, xs2, is, f, rest, rfl, hf, rfl, rfl⟩ := csiBody_tok h
  refine ⟨by simpa [List.append_assoc] using csiBody_run pre hf (rest ++ q) n1, by omega, ?_⟩
  simp only [List.length_append, List.length_cons]; omega

theorem parseCSI_ext (q bs : Bytes) (n0 : Nat) : Step.Ext n0 bs.length (parseCSI bs n0) (parseCSI (bs ++ q) n0) := by
  cases bs with
  | nil => exact .need
  | cons b rest =>
    rw [List.cons_append, parseCSI_cons, parseCSI_cons]
    exact ite_rel (fun _ => (csiBody_ext q b rest (n0 + 1)).cons) (fun _ => csiBody_ext q 0 (b :: rest) n0)

theorem parseDCS_ext (q bs : Bytes) (n0 : Nat) : Step.Ext n0 bs.length (parseDCS bs n0) (parseDCS (bs ++ q) n0) := by
  unfold parseDCS
  cases h1 : strPayload false bs [] 0 n0 with
  | none => exact .need
  | some r =>
    have a1 := strPayload_append q h1
    rw [a1.1]; exact .tok a1.2.1 a1.2.2

theorem parseOSC_ext (q bs : Bytes) (n0 : Nat) : Step.Ext n0 bs.length (parseOSC bs n0) (parseOSC (bs ++ q) n0) := by
  unfold parseOSC
  cases h1 : oscDigits bs [] n0 with
  | none => exact .need
  | some r1 =>
    obtain ⟨ds, rest, n1⟩ := r1
    obtain ⟨e, hlen, hle⟩ := oscDigits_append q h1
    rw [e]
    cases rest with
    | nil => exact .need
    | cons b rest' =>
      simp only [List.cons_append, List.length_cons] at hlen ⊢
      -- after the number: `;` and a payload, a terminator at once, or a malformed string up to its terminator
      refine ite_rel (fun _ => ?_) fun _ => ite_rel (fun _ => .tok (by omega) (by omega)) fun _ => ?_
      all_goals
        split
        · exact .need
        · next h2 =>
          have a2 := strPayload_append q h2
          rw [a2.1]; exact .tok (by omega) (by omega)

theorem parseEsc_ext (q bs : Bytes) : Step.Ext 1 bs.length (parseEsc bs) (parseEsc (bs ++ q)) := by
  cases bs with
  | nil => exact .need
  | cons b rest =>
    simp only [parseEsc, List.cons_append]
    refine ite_rel (fun _ => (parseCSI_ext q rest 2).cons) fun _ => ite_rel (fun _ => (parseOSC_ext q rest 2).cons)
      fun _ => ite_rel (fun _ => (parseDCS_ext q rest 2).cons) fun _ => ?_
    cases h1 : escInter (b :: rest) [] 1 with
    | none => exact .need
    | some r1 =>
      have a1 := escInter_append q h1
      rw [← List.cons_append, a1.1]; exact .tok a1.2.1 a1.2.2

theorem next_append (p q : Bytes) (t : Tok) (n : Nat) (h : next p = .tok t n) :
    next (p ++ q) = .tok t n ∧ 0 < n ∧ n ≤ p.length := by
  suffices Step.Ext 0 p.length (next p) (next (p ++ q)) by simpa using this t n h
  cases p with
  | nil => exact .need
  | cons b rest =>
    simp only [List.cons_append, next]
    refine ite_rel (fun _ => ?_) fun _ => ite_rel (fun _ => (parseEsc_ext q rest).cons) fun _ => .tok (by omega) (by simp)
    -- text: `fullRune` and `decodeRune` are stable
    split
    · next hf =>
      have hs := decodeRune_size (b :: rest) (by simp)
      rw [← List.cons_append, if_pos (rune_append _ q hf).1, (rune_append _ q hf).2,
        List.take_append_of_le_length hs.2]
      exact .tok hs.1 (by simpa using hs.2)
    · exact .need

theorem next_progress (bs : Bytes) (t : Tok) (n : Nat) (h : next bs = .tok t n) : 0 < n ∧ n ≤ bs.length :=
  (next_append bs [] t n h).2

/-! ### what `next` and `parseEsc` compute on a given first byte -/

theorem next_esc (r : Bytes) : next (0x1b :: r) = parseEsc r := by
  simp [next, isPrintableByte]

theorem parseEsc_csi (r : Bytes) : parseEsc (0x5b :: r) = parseCSI r 2 := by
  simp [parseEsc]

theorem parseEsc_osc (r : Bytes) : parseEsc (0x5d :: r) = parseOSC r 2 := by
  simp [parseEsc]

theorem parseEsc_dcs (r : Bytes) : parseEsc (0x50 :: r) = parseDCS r 2 := by
  simp [parseEsc]

theorem parseEsc_other (b : UInt8) (r : Bytes) (h1 : b ≠ 0x5b) (h2 : b ≠ 0x5d) (h3 : b ≠ 0x50) :
    parseEsc (b :: r) = match escInter (b :: r) [] 1 with
      | none => .need
      | some (inter, fin, n) => .tok (.esc inter fin) n := by
  unfold parseEsc
  simp only [h1, h2, h3, if_false]
  rfl

/-! ### the text token -/

theorem isPrintableByte_iff (b : UInt8) : isPrintableByte b = true ↔ 32 ≤ b.toNat ∧ b.toNat ≠ 127 := by
  simp only [isPrintableByte, Bool.and_eq_true, decide_eq_true_eq, bne_iff_ne, ne_eq, ge_iff_le,
    UInt8.le_iff_toNat_le, ← UInt8.toNat_inj, UInt8.toNat_ofNat]

theorem decodeRune_printable (b : UInt8) (v : Bytes) (hb : isPrintableByte b = true) :
    ∀ x ∈ (b :: v).take (decodeRune (b :: v)).2, isPrintableByte x = true := by
  rcases decodeRune_utf8 b v with h | ⟨n, tl, r, rfl, hu, h⟩
  · rw [h]; simpa using hb
  · rw [h]; simp only [List.take_succ_cons, List.take_left]
    intro x hx
    rcases List.mem_cons.1 hx with rfl | hx
    · exact hb
    · have := hu.bytes.2.2 x hx
      rw [isPrintableByte_iff]; omega

theorem Utf8.lead_printable {n : Nat} {b0 : UInt8} {tl : Bytes} (h : Utf8 n (b0 :: tl)) :
    isPrintableByte b0 = true ↔ 32 ≤ n ∧ n ≠ 127 := by
  have hb := h.bytes.2.1
  rw [isPrintableByte_iff]; split at hb <;> omega

theorem next_utf8 {n : Nat} {enc : Bytes} (h : Utf8 n enc) (h32 : 32 ≤ n) (h127 : n ≠ 127)
    (rest : Bytes) : next (enc ++ rest) = .tok (.text enc n) enc.length := by
  obtain ⟨hd, hf⟩ := h.decode rest
  rcases enc with _ | ⟨b0, tl⟩
  · cases h
  · rw [List.cons_append] at hd hf ⊢
    simp only [next, h.lead_printable.2 ⟨h32, h127⟩, hf, if_true, hd, if_neg h.not_replacement_one]
    rw [← List.cons_append, List.take_left' rfl]

theorem next_ascii (b : UInt8) (hb : 32 ≤ b.toNat ∧ b.toNat ≤ 126) (r : Bytes) :
    next (b :: r) = .tok (.text [b] b.toNat) 1 := by
  have := next_utf8 (.one (a := b.toNat) (by omega)) hb.1 (by omega) r
  rwa [UInt8.ofNat_toNat] at this

/-- no escape sequence is read as a text token: every leaf of `parseEsc` builds a `.csi`, `.osc`,
    `.dcs` or `.esc` token -/
theorem parseEsc_not_text {bs : Bytes} {t : Tok} {n : Nat} (h : parseEsc bs = .tok t n) (st : Bytes)
    (cp : Nat) : t ≠ .text st cp := by
  rintro rfl
  unfold parseEsc at h
  split at h
  · cases h
  · split at h
    · next rest _ =>
      cases rest with
      | nil => cases h
      | cons c r =>
        rw [parseCSI_cons] at h
        split at h <;> (obtain ⟨_, _, _, _, _, _, _, e, _⟩ := csiBody_tok h; cases e)
    · unfold parseOSC parseDCS at h
      repeat' split at h
      all_goals cases h

/-- conversely, a text token comes from the printable branch of `next` only, and carries what
    `decodeRune` reads at the head of the input -/
theorem next_text_inv {bs st : Bytes} {cp n : Nat} (h : next bs = .tok (.text st cp) n) :
    ∃ b rest, bs = b :: rest ∧ isPrintableByte b = true ∧ decodeRune bs = (cp, n) ∧
      st = if cp = 0xFFFD ∧ n = 1 then replacementChar else bs.take n := by
  unfold next at h
  split at h
  · cases h
  · next b rest =>
    split at h
    · next hp =>
      split at h
      · cases h; exact ⟨b, rest, rfl, hp, rfl, rfl⟩
      · cases h
    · split at h
      · exact absurd rfl (parseEsc_not_text h st cp)
      · cases h

end TM
