import Proofs.RowIns
/-!
# Predicates on rows that every row editor keeps

Every row editor of the model takes a row apart between two characters and puts the pieces together
again with blanks or with the cells of one new character in between (`C02Span.rowIns`,
`Proofs/RowIns`). So a predicate on well-formed rows that survives cutting and joining at character
boundaries and holds of one character's cells (`RowClosed St Tx P`: text in `Tx`, style in `St`) is
kept by `rowIns` and hence by all of them (`RowClosed.put/erase/dch/fitRow/putKeep`). Well-formedness
itself is such a predicate (`closed_wf`), and a closed predicate with a condition on every cell is
one (`RowClosed.cells`).
-/
namespace TM

/-- The small interface behind `C02.Lemmas.RowInv` (`RowClosed.rowInv`, `Props/C02`). -/
structure RowClosed (St : Style → Prop) (Tx : Bytes → Nat → Prop) (P : Row → Prop) : Prop where
  wf : ∀ {r : Row}, P r → rowWF r = true
  append : ∀ {r1 r2 : Row}, P r1 → P r2 → P (r1 ++ r2)
  take : ∀ {r : Row} {n : Nat}, P r → contAt r n = false → P (r.take n)
  drop : ∀ {r : Row} {n : Nat}, P r → contAt r n = false → P (r.drop n)
  nil : P []
  chars : ∀ {t : Bytes} {w : Nat} {st : Style}, 1 ≤ w → Tx t w → St st → P (charCells t w st)

theorem closed_wf : RowClosed (fun _ => True) (fun _ _ => True) (fun r => rowWF r = true) :=
  ⟨id, rowWF_append, rowWF_take, rowWF_drop, rfl, fun hw _ _ => rowWF_charCells _ _ _ hw⟩

/-- a closed predicate with a condition on every cell besides is closed, when the cells of the
    characters that may be written satisfy the condition -/
theorem RowClosed.cells {St St' : Style → Prop} {Tx Tx' : Bytes → Nat → Prop} {P : Row → Prop}
    (C : RowClosed St Tx P) (Q : Cell → Prop)
    (hq : ∀ {t w st}, Tx' t w → St' st → Tx t w ∧ St st ∧ Q ⟨.ch t w, st⟩ ∧ Q ⟨.cont, st⟩) :
    RowClosed St' Tx' (fun r => P r ∧ ∀ c ∈ r, Q c) where
  wf := fun h => C.wf h.1
  append := fun h1 h2 =>
    ⟨C.append h1.1 h2.1, fun c hc => (List.mem_append.1 hc).elim (h1.2 c) (h2.2 c)⟩
  take := fun h hb => ⟨C.take h.1 hb, fun c hc => h.2 c (List.mem_of_mem_take hc)⟩
  drop := fun h hb => ⟨C.drop h.1 hb, fun c hc => h.2 c (List.mem_of_mem_drop hc)⟩
  nil := ⟨C.nil, fun _ hc => nomatch hc⟩
  chars := fun {t w st} hw ht hs => by
    obtain ⟨a, b, q1, q2⟩ := hq ht hs
    refine ⟨C.chars hw a b, fun c hc => ?_⟩
    rcases mem_charCells hc with rfl | rfl
    · exact q1
    · exact q2

theorem RowClosed.of_iff {St : Style → Prop} {Tx : Bytes → Nat → Prop} {P P' : Row → Prop}
    (C : RowClosed St Tx P) (h : ∀ r, P r ↔ P' r) : RowClosed St Tx P' :=
  (funext fun r => propext (h r) : P = P') ▸ C

namespace RowClosed
variable {St : Style → Prop} {Tx : Bytes → Nat → Prop} {P : Row → Prop} (C : RowClosed St Tx P)
  (hsp : Tx [0x20] 1)
include C hsp

/-- a blank is `charCells [0x20] 1 st`: what `hsp` is for -/
theorem blankCells {l : Row} (h : ∀ c ∈ l, ∃ st, St st ∧ c = blank st) : P l := by
  induction l with
  | nil => exact C.nil
  | cons c l ih =>
    obtain ⟨st, hst, rfl⟩ := h c (List.mem_cons_self ..)
    exact C.append (r1 := charCells [0x20] 1 st) (C.chars (Nat.le_refl 1) hsp hst)
      (ih fun d hd => h d (List.mem_cons_of_mem _ hd))

theorem blanks (n : Nat) {st : Style} (hst : St st) : P (List.replicate n (blank st)) :=
  C.blankCells hsp fun _ hc => ⟨st, hst, (List.mem_replicate.1 hc).2⟩

theorem blankRange {r : Row} {a n : Nat} {st : Style} (hst : St st)
    (h : P r) (ha : contAt r a = false) (hb : contAt r (a + n) = false)
    (hl : a + n ≤ r.length) : P (blankRange r a n st) := by
  rw [blankRange_eq r a n st hl]
  exact C.append (C.append (C.take h ha) (C.blanks hsp n hst)) (C.drop h hb)

/-! ### `blankCharAt`, `Row.fixAt`, `blankStraddlers` -/

theorem blankCharAt {r : Row} (h : P r) (x : Nat) {st : Style} (hst : St st) : P (blankCharAt r x st) := by
  unfold TM.blankCharAt
  simp only []
  split
  · exact h
  · next hx =>
    -- some cell is blanked only when `x` is inside the row: beyond it the width read is 1
    have hl : x < r.length := by
      false_or_by_contra
      have hc := contAt_ge (r := r) (x := x) (by omega)
      have hw : widthAt r x = 1 := by unfold widthAt; rw [List.getElem?_eq_none (by omega)]
      rw [headOf_of_not_cont hc, hw, hc] at hx
      exact hx ⟨Nat.le_refl 1, rfl⟩
    obtain ⟨t, cw, st', hhd, _, _, h3, h4, h5⟩ := wf_head (C.wf h) hl
    rw [wf_widthAt (C.wf h) hhd]
    exact C.blankRange hsp hst h h4 h5 h3

theorem fixAt {r : Row} (h : P r) (c : Nat) {st : Style} (hst : St st) : P (Row.fixAt r c st) := by
  unfold Row.fixAt
  split
  · exact C.blankCharAt hsp h c hst
  · exact h

theorem blankStraddlers {r : Row} (h : P r) (a b : Nat) {st : Style} (hst : St st) :
    P (blankStraddlers r a b st) :=
  C.fixAt hsp (C.fixAt hsp h a hst) b hst

/-! ### the two cuts, `rowIns`; `Row.put`, `Row.erase`, `Row.dch` -/

theorem takeB {r : Row} (h : P r) (a : Nat) {st : Style} (hst : St st) : P (C02Span.takeB r a st) :=
  C.append (C.take h (contAt_headOf (C.wf h) a)) (C.blanks hsp _ hst)

theorem dropB {r : Row} (h : P r) (b : Nat) {st : Style} (hst : St st) : P (C02Span.dropB r b st) :=
  C.append (C.blanks hsp _ hst) (C.drop h (C02Span.contAt_endOf (C.wf h) b))

theorem rowIns {r : Row} (h : P r) (x n : Nat) {cells : Row} (hc : P cells) {st : Style}
    (hst : St st) : P (C02Span.rowIns r x cells n st) :=
  C.append (C.append (C.takeB hsp h x hst) hc) (C.dropB hsp h _ hst)

theorem put {r : Row} (h : P r) {x w : Nat} {t : Bytes}
    {st : Style} (hw : 1 ≤ w) (hxw : x + w ≤ r.length) (hBw : Tx t w) (hst : St st) :
    P (r.put x t w st) := by
  rw [C02Span.put_rowIns (C.wf h) hw hxw]
  exact C.rowIns hsp h x w (C.chars hw hBw hst) hst

theorem erase {r : Row} (h : P r) (a b : Nat) {st : Style} (hst : St st) : P (r.erase a b st) := by
  by_cases hab : min b r.length ≤ a
  · rw [erase_empty r a b st hab]; exact h
  · rw [← erase_min, C02Span.erase_rowIns (C.wf h) (by omega) (Nat.min_le_right _ _)]
    exact C.rowIns hsp h a _ (C.blanks hsp _ hst) hst

theorem dch {r : Row} (h : P r) (x n : Nat) {st : Style} (hst : St st) : P (r.dch x n st) := by
  by_cases hx : x ≥ r.length ∨ n = 0
  · unfold Row.dch; simp only []; rw [if_pos hx]; exact h
  · rw [C02Span.dch_rowIns (C.wf h) (by omega) (by omega)]
    exact C.append (C.rowIns hsp h x _ C.nil hst) (C.blanks hsp _ hst)

/-! ### `fitRow`, `cutRow`, `Row.putKeep` -/

theorem fitRow {r : Row} (h : P r) (w : Nat) {st : Style} (hst : St st) : P (fitRow r w st) := by
  by_cases hw : w ≤ r.length
  · rw [← cutRow_eq_fitRow st hw, C02Span.cutRow_takeB (C.wf h) hw]
    exact C.takeB hsp h w hst
  · unfold TM.fitRow
    rw [if_neg (by omega)]
    exact C.append h (C.blanks hsp _ hst)

/-- the row that `Row.putKeep` cuts back to the row length (`C02Span.putKeep_rowIns`) -/
theorem keepRow {r : Row} (h : P r) {x w : Nat} {t : Bytes} {st : Style}
    (hw : 1 ≤ w) (hBw : Tx t w) (hst : St st) :
    P (r.take (C02Span.endOf r x) ++ charCells t w st ++ C02Span.dropB r (x + w) st) :=
  C.append (C.append (C.take h (C02Span.contAt_endOf (C.wf h) x)) (C.chars hw hBw hst))
    (C.dropB hsp h _ hst)

theorem putKeep {r : Row} (h : P r) {x w : Nat} {t : Bytes} {st : Style} (hc : contAt r x = true)
    (hw : 1 ≤ w) (hBw : Tx t w) (hst : St st) : P (r.putKeep x t w st) := by
  rw [C02Span.putKeep_rowIns (C.wf h) hc,
    cutRow_eq_fitRow st (C02Span.putKeep_rowIns_length (C.wf h) hc w t st)]
  exact C.fitRow hsp (C.keepRow hsp h hw hBw hst) _ hst

end RowClosed

theorem rowWF_fixAt {r : Row} (hwf : rowWF r = true) (c : Nat) (st : Style) :
    rowWF (Row.fixAt r c st) = true := closed_wf.fixAt trivial hwf c trivial

theorem rowWF_blankStraddlers {r : Row} (hwf : rowWF r = true) (a b : Nat) (st : Style) :
    rowWF (blankStraddlers r a b st) = true := closed_wf.blankStraddlers trivial hwf a b trivial

end TM
