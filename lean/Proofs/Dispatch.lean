import Proofs.Term
import Proofs.Ite
/-!
# The token dispatch, as case principles

`Term.apply`, `Term.csi`, `Term.csiPlain` and `Term.decMode` are long `if` cascades whose leaves
are a dozen kinds of update. A fact about every token is proved by giving it for each kind of
leaf; the lemmas here walk through the cascades once, for an arbitrary motive `Q`, so that no
other proof has to. A hypothesis quantifies over whatever the leaves of its kind differ in
(parameters, clamped coordinates), and carries the final byte where the leaves of a kind belong
to different sequences. There are up to thirteen kinds: call the principles with named arguments
(`(none := …) (reply := …)`), so that a call says which leaf each term is for.
-/
namespace TM.Term

variable {Q : Term × List Ev → Prop} (t : Term)

-- The walks below split one `if` at a time (`ite_cases`, `Proofs/Ite.lean`) and, at a leaf, take the
-- first hypothesis that fits, tried in the order written. A trap: `none` fits every leaf `(t, [])`
-- and comes first, so a kind of leaf of that shape cannot have a hypothesis of its own. For the
-- matching to be cheap and deterministic the leaves must not unfold while a leaf is matched against
-- a cascade, or against `ite_cases`:
attribute [local irreducible] Term.setVFlag Term.setVInt Term.setVStr Term.switchScreen Term.setScr
  Term.withScr Term.setKbd Scr.setCursor Scr.eraseRegionI Scr.scroll Scr.dch Scr.setMargins
  Scr.saveCursor Scr.restoreCursor Scr.lineDown Scr.lineUp Scr.put

/-- a DEC private mode sets a view flag or a view integer, sets autowrap on the active screen,
    switches buffers (1049 only), or is ignored -/
theorem decMode_cases (p : Int) (v : Bool)
    (flag : ∀ i, Q (t.setVFlag i v)) (int : ∀ i n, Q (t.setVInt i n))
    (wrap : p = 7 → Q (t.setScr { t.scr with wrap := v }, []))
    (switch : p = 1049 → Q (t.switchScreen v)) (none : Q (t, [])) : Q (t.decMode p v) := by
  unfold Term.decMode
  repeat' first
    | (apply ite_cases <;> intro _)
    | exact flag _ | exact int _ _ | exact wrap ‹_› | exact switch ‹_› | exact none

theorem csiPlain_cases (ps : List Int) (fin : UInt8)
    (none : Q (t, []))
    -- DA1, DSR 5, DSR 6
    (reply : ∀ b, fin = 0x63 ∧ p0 ps 0 = 0 ∨ fin = 0x6e ∧ (p0 ps 0 = 5 ∨ p0 ps 0 = 6) → Q (t, [.reply b]))
    (move : ∀ x y, Q (t.withScr (t.scr.setCursor x y)))
    (restore : Q (t.withScr t.scr.restoreCursor))
    (save : Q (t.setScr t.scr.saveCursor, []))
    (sgr : ∀ qs, Q (t.setScr { t.scr with sty := applySGR t.scr.sty qs },
      [.style (applySGR t.scr.sty qs)]))
    (margins : ∀ a b, Q (t.setScr (t.scr.setMargins a b), []))
    -- EL 0/1/2 and ECH: columns of the cursor row
    (eraseRow : fin = 0x4b ∨ fin = 0x58 → ∀ (x1 x2 : Int) (a b : Nat),
      Q (t.setScr (t.scr.eraseRegionI x1 t.scr.cy x2 (t.scr.cy + 1)),
         [.region a t.scr.cy b (t.scr.cy + 1) 1]))
    (ed0 : fin = 0x4a → Q (t.setScr ((t.scr.eraseRegionI t.scr.cx t.scr.cy t.scr.w (t.scr.cy + 1)).eraseRegionI
        0 (t.scr.cy + 1) t.scr.w t.scr.h),
      [.region t.scr.cx t.scr.cy t.scr.w (t.scr.cy + 1) 1, .region 0 (t.scr.cy + 1) t.scr.w t.scr.h 1]))
    (ed1 : fin = 0x4a → Q (t.setScr ((t.scr.eraseRegionI 0 0 t.scr.w t.scr.cy).eraseRegionI
        0 t.scr.cy (t.scr.cx + 1) (t.scr.cy + 1)),
      [.region 0 0 t.scr.w t.scr.cy 1, .region 0 t.scr.cy (t.scr.cx + 1) (t.scr.cy + 1) 1]))
    (ed2 : fin = 0x4a → Q (t.setScr ((t.scr.eraseRegionI 0 0 t.scr.w t.scr.h).setCursor 0 0),
      [.region 0 0 t.scr.w t.scr.h 1, .cursor 0 0]))
    -- IL / DL from the cursor row (inside the region only), SU / SD from the top margin
    (scroll : ∀ y1 d, (fin = 0x4c ∨ fin = 0x4d) ∧ y1 = t.scr.cy ∧ t.scr.inRegion = true ∨
        (fin = 0x53 ∨ fin = 0x54) ∧ y1 = t.scr.top →
      Q (t.setScr (t.scr.scroll y1 t.scr.bot d), [.region 0 y1 t.scr.w (t.scr.bot + 1) 2]))
    (dch : fin = 0x50 → ∀ n, Q (t.setScr (t.scr.dch n),
      [.region t.scr.cx t.scr.cy t.scr.w (t.scr.cy + 1) 1])) :
    Q (t.csiPlain ps fin) := by
  unfold Term.csiPlain
  simp only []
  repeat' first
    | (apply ite_cases <;> intro _)
    | exact none | exact reply _ (.inl ⟨‹_›, ‹_›⟩) | exact reply _ (.inr ⟨‹_›, .inl ‹_›⟩)
    | exact reply _ (.inr ⟨‹_›, .inr ‹_›⟩) | exact move _ _ | exact restore | exact save | exact sgr _
    | exact margins _ _ | exact ed0 ‹_› | exact ed1 ‹_› | exact ed2 ‹_› | exact dch ‹_› _
    | exact eraseRow (.inl ‹_›) _ _ _ _ | exact eraseRow (.inr ‹_›) _ _ _ _
    | exact scroll _ _ (.inl ⟨.inl ‹_›, rfl, ‹_›⟩) | exact scroll _ _ (.inl ⟨.inr ‹_›, rfl, ‹_›⟩)
    | exact scroll _ _ (.inr ⟨.inl ‹_›, rfl⟩) | exact scroll _ _ (.inr ⟨.inr ‹_›, rfl⟩)

attribute [local irreducible] Term.csiPlain Term.decModes in
/-- the leaves of `Term.csi`: no prefix (`plain`), else keyboard-flag stack, DEC modes, replies,
    `modifyOtherKeys` -/
theorem csi_cases (pfx : UInt8) (ps : List Int) (fin : UInt8)
    (plain : pfx = 0 → Q (t.csiPlain ps fin)) (modes : pfx = 0x3f → fin = 0x68 ∨ fin = 0x6c → ∀ v, Q (t.decModes v ps))
    (none : Q (t, []))
    (reply : ∀ b, pfx = 0x3f ∧ fin = 0x75 ∨ pfx = 0x3e ∧ fin = 0x63 → Q (t, [.reply b]))   -- `CSI ? u`, DA2
    (int : ∀ n, Q (t.setVInt 2 n))
    (kbd : fin = 0x75 → ∀ k, Q (t.setKbd k, [])) : Q (t.csi pfx ps fin) := by
  unfold Term.csi
  repeat' first
    | (apply ite_cases <;> intro _)
    | exact plain ‹_› | exact modes ‹_› (.inl ‹_›) _ | exact modes ‹_› (.inr ‹_›) _ | exact none
    | exact reply _ (.inl ⟨‹_›, ‹_›⟩) | exact reply _ (.inr ⟨‹_›, ‹_›⟩) | exact kbd ‹_› _
    -- `CSI > … m` matches on `modifyOtherKeysMode`
    | (split <;> first | (apply ite_cases <;> intro _) | exact none) | exact int _

attribute [local irreducible] Term.csi in
theorem apply_cases (cw : Nat → Nat) (tok : Tok)
    (text : ∀ stored cp, tok = .text stored cp →
      Q (t.setScr (t.scr.put t.pol stored (cw cp)),
        [.region 0 0 t.scr.w t.scr.h 0,
         .cursor (t.scr.put t.pol stored (cw cp)).cx (t.scr.put t.pol stored (cw cp)).cy]))
    (none : Q (t, [])) (bell : Q (t, [.bell]))
    (cx : ∀ x, x ≤ t.scr.cx → Q (t.withScr { t.scr with cx := x }))      -- BS, DEL, CR
    (move : ∀ x y, Q (t.withScr (t.scr.setCursor x y)))        -- HT
    (lf : tok = .ctl 10 → Q (t.withScr ({ t.scr with cx := 0 } : Scr).lineDown))
    (down : tok = .ctl 12 ∨ tok = .esc [] 0x44 → Q (t.withScr t.scr.lineDown))
    (up : tok = .esc [] 0x4d → Q (t.withScr t.scr.lineUp))
    (flag : ∀ i v, Q (t.setVFlag i v)) (str : ∀ i v, Q (t.setVStr i v))
    (csi : ∀ pfx ps fin, tok = .csi pfx ps true fin → Q (t.csi pfx ps fin)) :
    Q (t.apply cw tok) := by
  cases tok with
  | text stored cp => exact text _ _ rfl
  | ctl b =>
    unfold Term.apply
    repeat' first
      | (apply ite_cases <;> intro _)
      | exact none | exact bell | exact cx _ (Nat.sub_le ..) | exact cx _ (Nat.zero_le _)
      | exact move _ _
      | exact lf (by subst_vars; rfl) | exact down (.inl (by subst_vars; rfl))
  | esc inter fin =>
    unfold Term.apply
    repeat' first
      | (apply ite_cases <;> intro _)
      | exact none | exact flag _ _
      | exact down (.inr (by simp_all)) | exact up (by simp_all)
  | csi pfx ps clean fin =>
    unfold Term.apply
    cases clean
    · exact none
    · exact csi _ _ _ rfl
  | osc num payload wf =>
    unfold Term.apply
    repeat' first
      | (apply ite_cases <;> intro _)
      | exact none | exact str _ _
  | dcs => exact none

end TM.Term
