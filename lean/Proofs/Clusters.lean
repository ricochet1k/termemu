import TM.SpanLine
import Proofs.Utf8
/-!
# The characters of a stored text

`stepRune` reads one character off a byte string, `clusters` all of them, `textWF` says that a text
consists of complete characters (`TM/SpanLine.lean`). Here a text is taken the other way round, as
the concatenation `flat cs` of a list `cs` of characters `(bytes, width)` each of which tokenises on
its own (`Toks cw cs`): then `clusters cw (flat cs) = cs` (`clusters_flat`), the text is well formed
for the width `ws cs` (`textWF_flat`, and conversely `textWF_iff`), and whatever scans a text
character by character (`splitSpan`, `splitRunToFit`, the reader of `TM/Reader.lean`) is followed by
induction on `cs`, with `stepRune_append` for the step. Besides: the `ws`/`flat` arithmetic, that
the fuel of `clustersAux` does not matter, `clusters` along `++` (`clusters_append(_textOK)`) and on
ASCII text (`clusters_ascii`); the encoding of a scalar value is one character
(`stepRune_encodeRune`), a text that is one character is recognised by `clusters_single_iff`. No
run, no row, no cell occurs here; the names are in `TM.C02Span`, where the run lists of
`Props/C02Span.lean` use them.
-/
namespace TM.C02Span

theorem stepRune_eq (cw : Nat → Nat) (b : Bytes) :
    stepRune cw b = if fullRune b then
      (if (decodeRune b).2 = 0 then none else some ((decodeRune b).2, max (cw (decodeRune b).1) 1))
      else none := by
  rcases h : decodeRune b with ⟨r, s⟩
  cases hf : fullRune b <;> simp [stepRune, h, hf]

theorem stepRune_nil (cw : Nat → Nat) : stepRune cw [] = none := by
  simp [stepRune_eq, fullRune]

theorem stepRune_some {cw : Nat → Nat} {b : Bytes} {c w : Nat} (h : stepRune cw b = some (c, w)) :
    1 ≤ c ∧ c ≤ b.length ∧ 1 ≤ w ∧ fullRune b = true := by
  rw [stepRune_eq] at h
  cases hf : fullRune b
  · simp [hf] at h
  · have hb : b ≠ [] := by intro hb; subst hb; simp [fullRune] at hf
    have := decodeRune_size b hb
    simp only [hf, if_true] at h
    split at h
    · simp at h
    · simp only [Option.some.injEq, Prod.mk.injEq] at h
      refine ⟨by omega, by omega, by omega, rfl⟩

theorem stepRune_append {cw : Nat → Nat} {a : Bytes} {c w : Nat} (s : Bytes)
    (h : stepRune cw a = some (c, w)) : stepRune cw (a ++ s) = some (c, w) := by
  have hf := (stepRune_some h).2.2.2
  rw [stepRune_eq] at h ⊢
  rw [(rune_append a s hf).1, (rune_append a s hf).2]
  rw [hf] at h
  exact h

/-! ### lists of characters: `ws`, `flat`, `Toks` -/

/-- a character with its width -/
abbrev Cl := Bytes × Nat

def ws (cs : List Cl) : Nat := (cs.map (·.2)).sum

def flat (cs : List Cl) : Bytes := (cs.map (·.1)).flatten

@[simp] theorem ws_nil : ws [] = 0 := rfl
@[simp] theorem ws_cons (p : Cl) (cs : List Cl) : ws (p :: cs) = p.2 + ws cs := by simp [ws]
@[simp] theorem ws_append (a b : List Cl) : ws (a ++ b) = ws a + ws b := by simp [ws]
@[simp] theorem flat_nil : flat [] = [] := rfl
@[simp] theorem flat_cons (p : Cl) (cs : List Cl) : flat (p :: cs) = p.1 ++ flat cs := by simp [flat]
@[simp] theorem flat_append (a b : List Cl) : flat (a ++ b) = flat a ++ flat b := by simp [flat]

/-- every character of the list tokenises on its own, to itself -/
def Toks (cw : Nat → Nat) (cs : List Cl) : Prop :=
  ∀ p ∈ cs, stepRune cw p.1 = some (p.1.length, p.2)

theorem Toks.pos {cw : Nat → Nat} {cs : List Cl} (h : Toks cw cs) :
    ∀ p ∈ cs, 1 ≤ p.1.length ∧ 1 ≤ p.2 := by
  intro p hp
  have := stepRune_some (h p hp)
  omega

theorem Toks.append {cw : Nat → Nat} {a b : List Cl} (ha : Toks cw a) (hb : Toks cw b) :
    Toks cw (a ++ b) := List.forall_mem_append.2 ⟨ha, hb⟩

theorem Toks.left {cw : Nat → Nat} {a b : List Cl} (h : Toks cw (a ++ b)) : Toks cw a :=
  fun p hp => h p (List.mem_append_left _ hp)

theorem Toks.right {cw : Nat → Nat} {a b : List Cl} (h : Toks cw (a ++ b)) : Toks cw b :=
  fun p hp => h p (List.mem_append_right _ hp)

theorem Toks.tail {cw : Nat → Nat} {p : Cl} {b : List Cl} (h : Toks cw (p :: b)) : Toks cw b :=
  fun q hq => h q (List.mem_cons_of_mem _ hq)

theorem Toks.head {cw : Nat → Nat} {p : Cl} {b : List Cl} (h : Toks cw (p :: b)) :
    stepRune cw p.1 = some (p.1.length, p.2) := h p (List.mem_cons_self ..)

theorem Toks.single {cw : Nat → Nat} {p : Cl} (h : stepRune cw p.1 = some (p.1.length, p.2)) :
    Toks cw [p] := by
  intro q hq; rw [List.mem_singleton.1 hq]; exact h

theorem ws_pos {cs : List Cl} (h : ∀ p ∈ cs, 1 ≤ p.2) (hne : cs ≠ []) : 0 < ws cs := by
  cases cs with
  | nil => exact absurd rfl hne
  | cons p r => have := h p (List.mem_cons_self ..); simp; omega

theorem ws_zero_nil {cs : List Cl} (h : ∀ p ∈ cs, 1 ≤ p.2) (h0 : ws cs = 0) : cs = [] :=
  Decidable.byContradiction fun hne => Nat.lt_irrefl 0 (h0 ▸ ws_pos h hne)

theorem ws_ge_length {cs : List Cl} (h : ∀ p ∈ cs, 1 ≤ p.2) : cs.length ≤ ws cs := by
  induction cs with
  | nil => simp
  | cons p r ih =>
    have := h p (List.mem_cons_self ..)
    have := ih (fun q hq => h q (List.mem_cons_of_mem _ hq))
    simp; omega

theorem all_one {cs : List Cl} (h : ∀ p ∈ cs, 1 ≤ p.2) (he : ws cs = cs.length) : ∀ p ∈ cs, p.2 = 1 := by
  induction cs with
  | nil => intro p hp; cases hp
  | cons q r ih =>
    have h1 := h q (List.mem_cons_self ..)
    have h2 := ws_ge_length (fun p hp => h p (List.mem_cons_of_mem _ hp))
    simp only [ws_cons, List.length_cons] at he
    intro p hp
    rcases List.mem_cons.1 hp with rfl | hp
    · omega
    · exact ih (fun p hp => h p (List.mem_cons_of_mem _ hp)) (by omega) p hp

theorem flat_length_pos {cs : List Cl} (h : ∀ p ∈ cs, 1 ≤ p.1.length) (hne : cs ≠ []) :
    0 < (flat cs).length := by
  cases cs with
  | nil => exact absurd rfl hne
  | cons p r => have := h p (List.mem_cons_self ..); simp; omega

theorem flat_isEmpty {cw : Nat → Nat} {cs : List Cl} (h : Toks cw cs) (hne : cs ≠ []) :
    (flat cs).isEmpty = false := by
  have := flat_length_pos (fun p hp => (h.pos p hp).1) hne
  cases hf : flat cs with
  | nil => rw [hf] at this; simp at this
  | cons _ _ => rfl

theorem flat_length (cs : List Cl) : (flat cs).length = (cs.map (·.1.length)).sum := by
  induction cs with
  | nil => rfl
  | cons p r ih => simp [ih]

theorem ws_replicate1 (n : Nat) (b : Bytes) : ws (List.replicate n (b, 1)) = n := by simp [ws]

theorem flat_replicate1 (n : Nat) (b : Bytes) :
    flat (List.replicate n (b, 1)) = (List.replicate n b).flatten := by
  induction n with
  | zero => rfl
  | succ n ih => simp [List.replicate_succ, ih]

theorem flat_map1 (t : Bytes) : flat (t.map fun b => ([b], 1)) = t := by
  induction t with
  | nil => rfl
  | cons b r ih => simp [ih]

theorem ws_map1 (t : Bytes) : ws (t.map fun b => ([b], 1)) = t.length := by
  induction t with
  | nil => rfl
  | cons b r ih => simp [ih]; omega

/-! ### `clusters` of a text -/

theorem clustersAux_flat (cw : Nat → Nat) : ∀ (cs : List Cl), Toks cw cs →
    ∀ fuel, (flat cs).length ≤ fuel → clustersAux cw fuel (flat cs) = cs := by
  intro cs
  induction cs with
  | nil =>
    intro _ fuel _
    cases fuel with
    | zero => rfl
    | succ f => simp [clustersAux, stepRune_nil]
  | cons p r ih =>
    intro h fuel hf
    have hp := h.head
    have hpos := (stepRune_some hp).1
    simp only [flat_cons, List.length_append] at hf
    cases fuel with
    | zero => omega
    | succ f =>
      simp only [flat_cons, clustersAux, stepRune_append (flat r) hp, List.take_left', List.drop_left']
      rw [ih h.tail f (by omega)]

theorem clusters_flat {cw : Nat → Nat} {cs : List Cl} (h : Toks cw cs) :
    clusters cw (flat cs) = cs := clustersAux_flat cw cs h _ (Nat.le_refl _)

/-- a case of `clustersAux_fuel_irrel` -/
theorem clustersAux_fuel {cw : Nat → Nat} {cs : List Cl} (h : Toks cw cs) (n m : Nat)
    (hn : (flat cs).length ≤ n) (hm : (flat cs).length ≤ m) :
    clustersAux cw n (flat cs) = clustersAux cw m (flat cs) := by
  rw [clustersAux_flat cw cs h n hn, clustersAux_flat cw cs h m hm]

theorem clustersAux_prefix (cw : Nat → Nat) : ∀ (n : Nat) (buf : Bytes),
    ∃ rem, buf = flat (clustersAux cw n buf) ++ rem := by
  intro n
  induction n with
  | zero => intro buf; exact ⟨buf, by simp [clustersAux]⟩
  | succ n ih =>
    intro buf
    simp only [clustersAux]
    split
    · exact ⟨buf, by simp⟩
    · rename_i c w _
      obtain ⟨rem, hr⟩ := ih (buf.drop c)
      refine ⟨rem, ?_⟩
      simp only [flat_cons, List.append_assoc]
      rw [← hr, List.take_append_drop]

theorem clustersAux_fuel_irrel (cw : Nat → Nat) : ∀ (n m : Nat) (buf : Bytes),
    buf.length ≤ n → buf.length ≤ m → clustersAux cw n buf = clustersAux cw m buf := by
  intro n
  induction n with
  | zero =>
    intro m buf hn _
    have : buf = [] := List.eq_nil_of_length_eq_zero (by omega)
    subst this
    cases m with
    | zero => rfl
    | succ m => simp [clustersAux, stepRune_nil]
  | succ n ih =>
    intro m buf hn hm
    cases m with
    | zero =>
      have : buf = [] := List.eq_nil_of_length_eq_zero (by omega)
      subst this
      simp [clustersAux, stepRune_nil]
    | succ m =>
      simp only [clustersAux]
      cases hst : stepRune cw buf with
      | none => rfl
      | some p =>
        obtain ⟨c, w⟩ := p
        have := stepRune_some hst
        simp only []
        rw [ih m (buf.drop c) (by rw [List.length_drop]; omega) (by rw [List.length_drop]; omega)]

theorem clustersAux_width_pos (cw : Nat → Nat) : ∀ (n : Nat) (buf : Bytes),
    ∀ p ∈ clustersAux cw n buf, 1 ≤ p.2 := by
  intro n
  induction n with
  | zero => intro buf p hp; simp [clustersAux] at hp
  | succ n ih =>
    intro buf p hp
    simp only [clustersAux] at hp
    cases hst : stepRune cw buf with
    | none => rw [hst] at hp; simp at hp
    | some q =>
      obtain ⟨c, w⟩ := q
      rw [hst] at hp
      simp only [List.mem_cons] at hp
      rcases hp with rfl | hp
      · exact (stepRune_some hst).2.2.1
      · exact ih _ p hp

theorem clusters_append (cw : Nat → Nat) : ∀ (n : Nat) (a b : Bytes), a.length ≤ n →
    ((clustersAux cw n a).map (·.1.length)).sum = a.length →
    clusters cw (a ++ b) = clustersAux cw n a ++ clusters cw b := by
  intro n
  induction n with
  | zero =>
    intro a b hn _
    have : a = [] := List.eq_nil_of_length_eq_zero (by omega)
    subst this; simp [clustersAux]
  | succ n ih =>
    intro a b hn hsum
    by_cases ha : a = []
    · subst ha; simp [clustersAux, stepRune_nil]
    · simp only [clustersAux] at hsum ⊢
      cases hst : stepRune cw a with
      | none =>
        rw [hst] at hsum
        simp at hsum
        exact absurd (List.eq_nil_of_length_eq_zero hsum.symm) ha
      | some p =>
        obtain ⟨c, w⟩ := p
        have hb := stepRune_some hst
        rw [hst] at hsum
        simp only [List.map_cons, List.sum_cons, List.length_take] at hsum
        rw [Nat.min_eq_left hb.2.1] at hsum
        have hrec := ih (a.drop c) b (by rw [List.length_drop]; omega) (by rw [List.length_drop]; omega)
        -- the fuel written as a successor to take one step; `clustersAux_fuel_irrel` then brings
        -- the fuel of the rest to the one `hrec` speaks of
        have hlen : (a ++ b).length = ((a ++ b).length - 1) + 1 := by
          rw [List.length_append]; omega
        unfold clusters at hrec ⊢
        rw [hlen]
        simp only [clustersAux, stepRune_append b hst, List.cons_append]
        rw [List.take_append_of_le_length hb.2.1, List.drop_append_of_le_length hb.2.1]
        congr 1
        rw [← hrec]
        exact clustersAux_fuel_irrel cw _ _ _ (by simp; omega) (Nat.le_refl _)

theorem clusters_append_textOK {cw : Nat → Nat} {a : Bytes} {w : Nat} (h : textOK cw a w = true)
    (b : Bytes) : clusters cw (a ++ b) = clusters cw a ++ clusters cw b := by
  unfold textOK at h
  simp only [Bool.and_eq_true, decide_eq_true_eq] at h
  exact clusters_append cw a.length a b (Nat.le_refl _) h.1

/-! ### ASCII text; `textWF` -/

theorem stepRune_ascii_cons (cw : Nat → Nat) (b : UInt8) (r : Bytes) (h : b < 0x80) :
    stepRune cw (b :: r) = some (1, max (cw b.toNat) 1) := by
  have hl : leadLen b = 1 := by simp [leadLen, h]
  rw [stepRune_eq]
  simp [fullRune, decodeRune, hl]

theorem clusters_ascii (cw : Nat → Nat) (t : Bytes) (h : t.all (· < 0x80) = true) :
    clusters cw t = t.map fun b => ([b], max (cw b.toNat) 1) := by
  unfold clusters
  induction t with
  | nil => rfl
  | cons b r ih =>
    simp only [List.all_cons, Bool.and_eq_true, decide_eq_true_eq] at h
    simp only [List.length_cons, clustersAux, stepRune_ascii_cons cw b r h.1, List.map_cons,
      List.take_succ_cons, List.take_zero, List.drop_succ_cons, List.drop_zero]
    rw [ih h.2]

theorem textWF_iff {cw : Nat → Nat} {t : Bytes} {w : Nat} :
    textWF cw t w = true ↔ Toks cw (clusters cw t) ∧ t = flat (clusters cw t) ∧ ws (clusters cw t) = w := by
  unfold textWF textOK
  simp only [Bool.and_eq_true, decide_eq_true_eq, List.all_eq_true, beq_iff_eq]
  constructor
  · rintro ⟨⟨h1, h2⟩, h3⟩
    refine ⟨h3, ?_, h2⟩
    obtain ⟨rem, hr⟩ := clustersAux_prefix cw t.length t
    have h4 : (flat (clustersAux cw t.length t)).length = t.length := by
      rw [flat_length]; exact h1
    have hl := congrArg List.length hr
    rw [List.length_append, h4] at hl
    have : rem = [] := List.eq_nil_of_length_eq_zero (by omega)
    subst this
    simpa [clusters] using hr
  · rintro ⟨h1, h2, h3⟩
    refine ⟨⟨?_, h3⟩, h1⟩
    rw [← flat_length, ← h2]

theorem textWF_flat {cw : Nat → Nat} {cs : List Cl} (h : Toks cw cs) : textWF cw (flat cs) (ws cs) = true := by
  rw [textWF_iff, clusters_flat h]; exact ⟨h, rfl, rfl⟩

/-! ### a text that is one character (the text of a token) -/

theorem token_nonempty {cw : Nat → Nat} {text : Bytes} {w : Nat}
    (hcl : clusters cw text = [(text, w)]) : text.isEmpty = false := by
  cases text with
  | nil => simp [clusters, clustersAux] at hcl
  | cons _ _ => rfl

theorem clusters_single_iff {cw : Nat → Nat} {text : Bytes} {w : Nat} :
    clusters cw text = [(text, w)] ↔ stepRune cw text = some (text.length, w) := by
  constructor
  · intro hcl
    unfold clusters at hcl
    cases text with
    | nil => simp [clustersAux] at hcl
    | cons b r =>
      simp only [List.length_cons, clustersAux] at hcl
      cases hsr : stepRune cw (b :: r) with
      | none => simp [hsr] at hcl
      | some p =>
        obtain ⟨c, w'⟩ := p
        simp only [hsr, List.cons.injEq, Prod.mk.injEq] at hcl
        have hb := stepRune_some hsr
        have hlen := congrArg List.length hcl.1.1
        simp only [List.length_take, List.length_cons] at hlen hb
        rw [show c = r.length + 1 by omega, hcl.1.2]; rfl
  · intro h
    have := clusters_flat (Toks.single (p := (text, w)) h)
    simpa using this

theorem clusters_replacementChar {cw : Nat → Nat} (h : cw 0xFFFD ≤ 1) :
    clusters cw replacementChar = [(replacementChar, 1)] := by
  have h1 : fullRune replacementChar = true := by decide
  have h2 : decodeRune replacementChar = (0xFFFD, 3) := by decide
  refine clusters_single_iff.2 ?_
  rw [stepRune_eq, h1, h2]; simp [replacementChar]; omega

theorem stepRune_encodeRune (cw : Nat → Nat) {cp : Nat} (hv : C11.validScalar cp) :
    stepRune cw (encodeRune cp) = some ((encodeRune cp).length, max (cw cp) 1) := by
  have hd := decodeRune_encodeRune_self cp hv
  have hfull := ((utf8_encodeRune cp hv).decode []).2
  rw [List.append_nil] at hfull
  have := encodeRune_length_pos cp
  rw [stepRune_eq, hfull, hd, if_pos rfl, if_neg (by omega)]

end TM.C02Span
