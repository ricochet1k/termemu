/-!
# Facts about lists that the model's proofs share and core does not have
-/
namespace TM

theorem getElem?_append3 {α : Type} (l1 m l2 : List α) (i : Nat) :
    (l1 ++ m ++ l2)[i]? =
      if i < l1.length then l1[i]? else if i < l1.length + m.length then m[i - l1.length]?
      else l2[i - l1.length - m.length]? := by
  rw [List.append_assoc, List.getElem?_append]
  split
  · rfl
  · rw [List.getElem?_append]
    split
    · rw [if_pos (by omega)]
    · rw [if_neg (by omega)]

theorem getD_lt {α : Type} {l : List α} {i : Nat} (hi : i < l.length) (d : α) : l.getD i d = l[i] :=
  (List.getElem_eq_getD d).symm

theorem getD_mem {α : Type} {l : List α} {i : Nat} (hi : i < l.length) (d : α) : l.getD i d ∈ l :=
  getD_lt hi d ▸ List.getElem_mem hi

theorem foldl_const_false {α : Type} (xs : List α) (c : Bool) :
    xs.foldl (fun _ _ => false) c = (c && xs.isEmpty) := by
  cases xs with
  | nil => simp
  | cons b xs => simp only [List.foldl_cons]; induction xs <;> simp_all

/-- cut a list where a class of elements ends -/
theorem split_class {α : Type} (p : α → Bool) (xs : List α) :
    ∃ a b, xs = a ++ b ∧ (∀ x ∈ a, p x = true) ∧ (∀ d ∈ b.head?, p d = false) ∧ xs.all p = b.isEmpty := by
  induction xs with
  | nil => exact ⟨[], [], rfl, by simp, by simp, rfl⟩
  | cons x xs ih =>
    by_cases hx : p x = true
    · obtain ⟨a, b, rfl, h1, h2, h3⟩ := ih
      exact ⟨x :: a, b, rfl, by simpa [hx] using h1, h2, by simpa [hx] using h3⟩
    · exact ⟨[], x :: xs, rfl, by simp, by simpa using hx, by simp [hx]⟩

/-! ### `set` and `mapIdx` -/

theorem getElem?_set_some {α : Type} (l : List α) (i j : Nat) (v old : α) (h : l[j]? = some old) :
    (l.set i v)[j]? = some (if i = j then v else old) := by
  have hj : j < l.length := by
    false_or_by_contra
    rw [List.getElem?_eq_none (by omega)] at h; cases h
  rw [List.getElem?_set]
  by_cases e : i = j
  · subst e; simp [hj]
  · simp [e, h]

theorem set_getElem?_self {α : Type} (l : List α) (i : Nat) (a : α) (h : l[i]? = some a) : l.set i a = l := by
  apply List.ext_getElem?
  intro j
  rw [List.getElem?_set]
  split
  · next hij => subst hij; split <;> simp_all
  · rfl

theorem mem_mapIdx_cases {α β : Type} {l : List α} {f : Nat → α → β} {P : β → Prop}
    (h : ∀ i a, a ∈ l → P (f i a)) : ∀ b ∈ l.mapIdx f, P b := by
  intro b hb
  obtain ⟨i, hi, rfl⟩ := List.mem_mapIdx.1 hb
  exact h i _ (List.getElem_mem hi)

theorem forall_mapIdx {α : Type} {l : List α} {f : Nat → α → α} {P : α → Prop} (h : ∀ a ∈ l, P a)
    (hf : ∀ i a, P a → P (f i a)) : ∀ a ∈ l.mapIdx f, P a :=
  mem_mapIdx_cases fun i a ha => hf i a (h a ha)

theorem mapIdx_eq_self {α : Type} (l : List α) (f : Nat → α → α) (h : ∀ i a, l[i]? = some a → f i a = a) :
    l.mapIdx f = l := by
  apply List.ext_getElem?
  intro i
  rw [List.getElem?_mapIdx]
  cases hi : l[i]? with
  | none => rfl
  | some a => simp [h i a hi]

theorem mapIdx_set_eq_mapIdx {α β : Type} (l : List α) (k : Nat) (a : α) (f g : Nat → α → β)
    (hk : ∀ c, l[k]? = some c → f k a = g k c) (ho : ∀ i c, i ≠ k → l[i]? = some c → f i c = g i c) :
    (l.set k a).mapIdx f = l.mapIdx g := by
  apply List.ext_getElem?
  intro i
  rw [List.getElem?_mapIdx, List.getElem?_mapIdx, List.getElem?_set]
  by_cases hi : k = i
  · subst hi
    cases h : l[k]? with
    | none => rw [if_pos rfl, if_neg (by rw [List.getElem?_eq_none_iff] at h; omega)]; rfl
    | some c => rw [if_pos rfl, if_pos (List.getElem?_eq_some_iff.1 h).1, Option.map_some, Option.map_some, hk c h]
  · rw [if_neg hi]
    cases h : l[i]? with
    | none => rfl
    | some c => rw [Option.map_some, Option.map_some, ho i c (Ne.symm hi) h]

theorem set_eq_mapIdx {α : Type} (l : List α) (k : Nat) (a : α) (g : Nat → α → α)
    (hk : ∀ c, l[k]? = some c → a = g k c) (ho : ∀ i c, i ≠ k → l[i]? = some c → c = g i c) :
    l.set k a = l.mapIdx g := by
  rw [← mapIdx_set_eq_mapIdx l k a (fun _ c => c) g hk ho]
  exact (mapIdx_eq_self _ _ (fun _ _ _ => rfl)).symm

/-- a `mapIdx` seen through a `map`: how `eraseRegion` of a concrete screen and `blankRange` of a
    concrete row go through their abstraction maps -/
theorem map_mapIdx_comm {α β : Type} {l : List α} {f : Nat → α → α} {f' : Nat → β → β} {g : α → β}
    (h : ∀ i (hi : i < l.length), g (f i l[i]) = f' i (g l[i])) :
    (l.mapIdx f).map g = (l.map g).mapIdx f' := by
  apply List.ext_getElem?
  intro i
  rw [List.getElem?_map, List.getElem?_mapIdx, List.getElem?_mapIdx, List.getElem?_map]
  by_cases hi : i < l.length
  · rw [List.getElem?_eq_getElem hi, Option.map_some, Option.map_some, Option.map_some, Option.map_some, h i hi]
  · rw [List.getElem?_eq_none (Nat.le_of_not_lt hi)]; rfl

/-! ### leading runs and slices of a list -/

/-- number of leading elements that satisfy `p` (`gStyleRun st` and `gLeadCont` of
    `TM/GridScreen.lean` are instances: `gStyleRun_eq`, `gLeadCont_eq` in `Props/C20GridStyled.lean`) -/
def leadRun {α : Type} (p : α → Bool) : List α → Nat
  | [] => 0
  | c :: rest => if p c then leadRun p rest + 1 else 0

theorem leadRun_spec {α : Type} (p : α → Bool) : ∀ s : List α, leadRun p s ≤ s.length ∧
    (∀ k c, k < leadRun p s → s[k]? = some c → p c = true) ∧ (∀ c, s[leadRun p s]? = some c → p c = false)
  | [] => ⟨Nat.le_refl _, fun k c hk => absurd hk (Nat.not_lt_zero k), fun c hc => by cases hc⟩
  | d :: rest => by
    obtain ⟨i0, i1, i2⟩ := leadRun_spec p rest
    simp only [leadRun]
    split
    · next hd =>
      refine ⟨Nat.succ_le_succ i0, fun k c hk hc => ?_, fun c hc => i2 c (by simpa using hc)⟩
      cases k with
      | zero => simp only [List.getElem?_cons_zero, Option.some.injEq] at hc; rw [← hc]; exact hd
      | succ k => exact i1 k c (by omega) (by simpa using hc)
    · next hd =>
      refine ⟨Nat.zero_le _, fun k c hk => absurd hk (Nat.not_lt_zero k), fun c hc => ?_⟩
      simp only [List.getElem?_cons_zero, Option.some.injEq] at hc; rw [← hc]; simpa using hd

theorem slice_get {α : Type} {r : List α} {a n k : Nat} (hk : k < n) : ((r.drop a).take n)[k]? = r[a + k]? := by
  rw [List.getElem?_take, if_pos hk, List.getElem?_drop]

theorem slice_length {α : Type} {r : List α} {a n : Nat} (h : a + n ≤ r.length) : ((r.drop a).take n).length = n := by
  simp only [List.length_take, List.length_drop]; omega

theorem slice_isEmpty {α : Type} {r : List α} {a n : Nat} (hn : 0 < n) (h : a + n ≤ r.length) :
    ((r.drop a).take n).isEmpty = false := by
  have := slice_length h
  cases hs : (r.drop a).take n with
  | nil => rw [hs] at this; simp only [List.length_nil] at this; omega
  | cons _ _ => rfl

theorem mem_slice {α : Type} {r : List α} {a n : Nat} {c : α} (h : c ∈ (r.drop a).take n) :
    ∃ k, k < n ∧ ∃ (hj : a + k < r.length), r[a + k] = c := by
  obtain ⟨k, hk⟩ := List.mem_iff_getElem?.1 h
  rw [List.getElem?_take] at hk
  split at hk
  · rename_i hkn
    rw [List.getElem?_drop] at hk
    have hlt : a + k < r.length := by
      apply Nat.lt_of_not_le; intro hle; rw [List.getElem?_eq_none hle] at hk; cases hk
    rw [List.getElem?_eq_getElem hlt, Option.some.injEq] at hk
    exact ⟨k, hkn, hlt, hk⟩
  · cases hk

theorem slice_split {α : Type} {r : List α} {a : Nat} (hal : a < r.length) (w q : Nat) :
    (r.drop a).take (w + 1 + q) =
      r[a] :: ((r.drop (a + 1)).take w ++ (r.drop (a + (w + 1))).take q) := by
  rw [List.take_add, List.drop_drop, List.drop_eq_getElem_cons hal, List.take_succ_cons, List.cons_append]

theorem leadRun_slice {α : Type} (p : α → Bool) (r : List α) {i n : Nat} (hl : i + n ≤ r.length) :
    ∃ k, leadRun p ((r.drop i).take n) = k ∧ k ≤ n ∧
      (∀ j (hj : j < r.length), i ≤ j → j < i + k → p r[j] = true) ∧
      (∀ (h : i + k < r.length), k < n → p r[i + k] = false) := by
  obtain ⟨s0, s1, s2⟩ := leadRun_spec p ((r.drop i).take n)
  have hget : ∀ k (hk : k < n), ((r.drop i).take n)[k]? = some (r[i + k]'(by omega)) := by
    intro k hk
    rw [slice_get hk, List.getElem?_eq_getElem]
  rw [List.length_take, List.length_drop] at s0
  refine ⟨_, rfl, by omega, fun j hj h1 h2 => ?_, fun h hlt => s2 _ (hget _ hlt)⟩
  obtain ⟨d, rfl⟩ : ∃ d, j = i + d := ⟨j - i, by omega⟩
  exact s1 d _ (by omega) (hget d (by omega))

end TM
