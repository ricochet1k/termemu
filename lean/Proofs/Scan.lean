import TM.Parser
/-!
# The five while-scanners of the tokeniser as instances of one `scanWhile`

`csiParams`, `csiSkipParams`, `csiInter`, `escInter`, `oscDigits` all fold a state over the longest
prefix of bytes in a class and stop at the first byte outside it (`none` when the input ends first).
`scanWhile_run` and `scanWhile_some` say exactly that, in the two directions; the five are
`scanWhile` by induction (`csiParams_eq`, …), so no proof about the tokeniser recurses through a
scanner again.
-/
namespace TM

def scanWhile {σ : Type} (p : UInt8 → Bool) (f : σ → UInt8 → σ) : Bytes → σ → Nat → Option (σ × Bytes × Nat)
  | [], _, _ => none
  | b :: r, s, n => if p b then scanWhile p f r (f s b) (n + 1) else some (s, b :: r, n)

theorem scanWhile_run {σ : Type} (p : UInt8 → Bool) (f : σ → UInt8 → σ) (xs : Bytes) (c : UInt8) (r : Bytes)
    (hx : ∀ b ∈ xs, p b = true) (hc : p c = false) (s : σ) (n : Nat) :
    scanWhile p f (xs ++ c :: r) s n = some (xs.foldl f s, c :: r, n + xs.length) := by
  induction xs generalizing s n with
  | nil => simp [scanWhile, hc]
  | cons b xs ih =>
    simp only [List.cons_append, scanWhile, hx b (by simp), if_true, List.foldl_cons, List.length_cons]
    rw [ih (fun x h => hx x (by simp [h]))]
    congr 3; omega

/-- `scanWhile_run` with the rest as a list: non-empty, its head outside the class -/
theorem scanWhile_stop {σ : Type} (p : UInt8 → Bool) (f : σ → UInt8 → σ) (xs tl : Bytes)
    (hx : ∀ b ∈ xs, p b = true) (hne : tl ≠ []) (hc : ∀ c ∈ tl.head?, p c = false) (s : σ) (n : Nat) :
    scanWhile p f (xs ++ tl) s n = some (xs.foldl f s, tl, n + xs.length) := by
  cases tl with
  | nil => exact absurd rfl hne
  | cons c r => exact scanWhile_run p f xs c r hx (hc c rfl) s n

theorem scanWhile_some {σ : Type} {p : UInt8 → Bool} {f : σ → UInt8 → σ} {bs : Bytes} {s s' : σ} {n n' : Nat}
    {r : Bytes} (h : scanWhile p f bs s n = some (s', r, n')) :
    ∃ xs c r0, bs = xs ++ c :: r0 ∧ (∀ b ∈ xs, p b = true) ∧ p c = false ∧
      s' = xs.foldl f s ∧ r = c :: r0 ∧ n' = n + xs.length := by
  induction bs generalizing s n with
  | nil => simp [scanWhile] at h
  | cons b bs ih =>
    simp only [scanWhile] at h
    split at h
    · rename_i hb
      obtain ⟨xs, c, r0, rfl, hx, hc, rfl, rfl, rfl⟩ := ih h
      exact ⟨b :: xs, c, r0, rfl, by simpa [hb] using hx, hc, rfl, rfl, by simp; omega⟩
    · rename_i hb
      cases h
      exact ⟨[], b, bs, rfl, by simp, by simpa using hb, rfl, rfl, rfl⟩

theorem scanWhile_append {σ : Type} {p : UInt8 → Bool} {f : σ → UInt8 → σ} {bs : Bytes} {s s' : σ} {n n' : Nat}
    {r : Bytes} (q : Bytes) (h : scanWhile p f bs s n = some (s', r, n')) :
    scanWhile p f (bs ++ q) s n = some (s', r ++ q, n') ∧ n' + r.length = n + bs.length ∧ n ≤ n' := by
  obtain ⟨xs, c, r0, rfl, hx, hc, rfl, rfl, rfl⟩ := scanWhile_some h
  refine ⟨by rw [List.append_assoc, List.cons_append, scanWhile_run p f xs c _ hx hc], ?_, by omega⟩
  simp only [List.length_append, List.length_cons]; omega

/-! ### the five scanners -/

theorem csiParams_eq (bs : Bytes) (p : PState) (n : Nat) : csiParams bs p n = scanWhile isParamByte PState.feed bs p n := by
  induction bs generalizing p n with
  | nil => rfl
  | cons b r ih => simp only [csiParams, scanWhile, ih]

theorem csiSkipParams_eq (bs : Bytes) (c : Bool) (n : Nat) :
    csiSkipParams bs c n = scanWhile isCsiParamRange (fun _ _ => false) bs c n := by
  induction bs generalizing c n with
  | nil => rfl
  | cons b r ih => simp only [csiSkipParams, scanWhile, ih]

theorem oscDigits_eq (bs a : Bytes) (n : Nat) :
    oscDigits bs a n = (scanWhile isDigit (fun a b => b :: a) bs a n).map fun x => (x.1.reverse, x.2) := by
  induction bs generalizing a n with
  | nil => rfl
  | cons b r ih => simp only [oscDigits, scanWhile, ih]; split <;> rfl

theorem oscDigits_run (ds : Bytes) (acc : Bytes) (n : Nat) (t : UInt8) (r : Bytes)
    (hd : ∀ d ∈ ds, isDigit d = true) (ht : isDigit t = false) :
    oscDigits (ds ++ t :: r) acc n = some (acc.reverse ++ ds, t :: r, n + ds.length) := by
  rw [oscDigits_eq, scanWhile_run isDigit _ ds t r hd ht]; simp

/-- the two scanners that end a sequence return the byte they stop at and count it -/
def withFinal {σ τ : Type} (g : σ → τ) (x : σ × Bytes × Nat) : τ × UInt8 × Nat := (g x.1, x.2.1.headD 0, x.2.2 + 1)

theorem csiInter_eq (bs : Bytes) (c : Bool) (n : Nat) :
    csiInter bs c n = (scanWhile isIntermediate (fun _ _ => false) bs c n).map (withFinal id) := by
  induction bs generalizing c n with
  | nil => rfl
  | cons b r ih => simp only [csiInter, scanWhile, ih]; split <;> rfl

theorem escInter_eq (bs a : Bytes) (n : Nat) :
    escInter bs a n = (scanWhile isIntermediate (fun a b => b :: a) bs a n).map (withFinal List.reverse) := by
  induction bs generalizing a n with
  | nil => rfl
  | cons b r ih => simp only [escInter, scanWhile, ih]; split <;> rfl

theorem escInter_run (xs : Bytes) (acc : Bytes) (n : Nat) (f : UInt8) (r : Bytes)
    (hx : ∀ b ∈ xs, isIntermediate b = true) (hf : isIntermediate f = false) :
    escInter (xs ++ f :: r) acc n = some (acc.reverse ++ xs, f, n + xs.length + 1) := by
  rw [escInter_eq, scanWhile_run isIntermediate _ xs f r hx hf]; simp [withFinal]

/-- a scanner that ends the sequence: stable, and its count is past the start and within the input -/
theorem withFinal_append {σ τ : Type} {p : UInt8 → Bool} {f : σ → UInt8 → σ} {g : σ → τ} {bs : Bytes} {s : σ} {n : Nat}
    {x : τ × UInt8 × Nat} (q : Bytes) (h : (scanWhile p f bs s n).map (withFinal g) = some x) :
    (scanWhile p f (bs ++ q) s n).map (withFinal g) = some x ∧ n < x.2.2 ∧ x.2.2 ≤ n + bs.length := by
  cases hs : scanWhile p f bs s n with
  | none => simp [hs] at h
  | some y =>
    obtain ⟨s', r, n'⟩ := y
    obtain ⟨xs, c, r0, rfl, -, -, rfl, rfl, rfl⟩ := scanWhile_some hs
    have a := scanWhile_append q hs
    rw [hs] at h; cases h
    simp only [a.1, Option.map_some, withFinal, List.cons_append, List.headD_cons, List.length_append,
      List.length_cons, true_and]
    omega

end TM
