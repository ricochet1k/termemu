import Proofs.Dispatch
/-!
# What a token reads and what it writes

`Term.apply` reads three things of the terminal — the width policy (printable text only), the
active screen and the active keyboard state — and writes one: the active screen, a view flag /
integer / string, the active keyboard state, or (for `CSI ? … h/l`) whatever the listed DEC modes
write. `Act` is that write as data and `Term.perform` carries it out. `Term.apply_same`: two
terminals that agree on what is read perform the same `Act`. `Term.Aside m`: `m` replaces a part of
the terminal that the writes neither read nor touch; then `m` commutes with every token
(`Term.Aside.apply`). C17's isolation of the inactive buffer and C20's independence of the policy
are instances. The last section has what a token leaves alone of the buffer that is not active
(`C17.OnlyActive`, `C17.WrapOnly`, `C17.isSwitch`, the definitions `Props/C17.lean` states its
property with), read off the kinds of write.

Use the case principles of `Proofs/Dispatch.lean` to show that every token satisfies some `Q`, leaf
by leaf; use `apply_same` / `Aside.apply` to relate two runs of the dispatch.
-/
namespace TM

/-- the one thing a token writes -/
inductive Act
  | scr (s : Scr) (e : List Ev)        -- the active screen (`e`: the events)
  | vflag (i : Nat) (v : Bool)
  | vint (i : Nat) (v : Int)
  | vstr (i : Nat) (b : Bytes)
  | kbd (k : Kbd)                      -- the active keyboard state
  | modes (v : Bool) (ps : List Int)   -- `CSI ? ps h` / `CSI ? ps l`

def Term.perform (t : Term) : Act → Term × List Ev
  | .scr s e => (t.setScr s, e)
  | .vflag i v => t.setVFlag i v
  | .vint i v => t.setVInt i v
  | .vstr i b => t.setVStr i b
  | .kbd k => (t.setKbd k, [])
  | .modes v ps => t.decModes v ps

/-- `r` and `r'` are one and the same write, carried out on `t` and on `u`; `P` is what is known
    of the write when it is a list of DEC modes -/
def SameWrite (P : Bool → List Int → Prop) (t u : Term) (r r' : Term × List Ev) : Prop :=
  ∃ a : Act, r = t.perform a ∧ r' = u.perform a ∧ ∀ v ps, a = .modes v ps → P v ps

namespace Term
variable {P : Bool → List Int → Prop} {t u : Term}

theorem sameWrite_none (hs : u.scr = t.scr) (e : List Ev) : SameWrite P t u (t, e) (u, e) :=
  ⟨.scr t.scr e, (congrArg (·, e) t.setScr_scr).symm, by rw [← hs]; exact (congrArg (·, e) u.setScr_scr).symm,
    fun _ _ h => nomatch h⟩

-- The walks follow the two cascades at once (`ite_rel`); at a leaf the write is read off the
-- left-hand side. As in `Proofs/Dispatch.lean` the leaves must not unfold meanwhile:
attribute [local irreducible] Term.setScr Term.setKbd Term.setVFlag Term.setVInt Term.setVStr Term.decModes
  Scr.setCursor Scr.eraseRegionI Scr.scroll Scr.dch Scr.setMargins Scr.saveCursor Scr.restoreCursor
  Scr.lineDown Scr.lineUp Scr.put

theorem csiPlain_same (hs : u.scr = t.scr) (ps : List Int) (fin : UInt8) :
    SameWrite P t u (t.csiPlain ps fin) (u.csiPlain ps fin) := by
  unfold Term.csiPlain Term.withScr
  simp only [hs]
  repeat' first
    | (apply ite_rel <;> intro _)
    -- DA1, DSR, the ignored parameters and finals: nothing is written
    | exact sameWrite_none hs _
    -- every other leaf replaces the active screen
    | exact ⟨.scr _ _, rfl, rfl, fun _ _ h => nomatch h⟩

attribute [local irreducible] Term.csiPlain in
theorem csi_same (hs : u.scr = t.scr) (hk : u.kbd = t.kbd) (pfx : UInt8) (ps : List Int) (fin : UInt8) :
    SameWrite (fun v qs => pfx = 0x3f ∧ qs = ps ∧ fin = if v then 0x68 else 0x6c) t u
      (t.csi pfx ps fin) (u.csi pfx ps fin) := by
  unfold Term.csi
  simp only [hk]
  repeat' first
    | (apply ite_rel <;> intro _)
    -- no prefix
    | exact csiPlain_same hs ps fin
    -- `CSI ? u`, DA2 (replies) and the ignored finals
    | exact sameWrite_none hs _
    -- `CSI > u`, `CSI < u`, `CSI = u`
    | exact ⟨.kbd _, rfl, rfl, fun _ _ h => nomatch h⟩
    -- `CSI ? … h`, `CSI ? … l`: the prefix and the final byte are the conditions that led here
    | exact ⟨.modes true ps, rfl, rfl, fun _ _ h => by cases h; exact ⟨‹_›, rfl, ‹_›⟩⟩
    | exact ⟨.modes false ps, rfl, rfl, fun _ _ h => by cases h; exact ⟨‹_›, rfl, ‹_›⟩⟩
    -- `CSI > … m` matches on `modifyOtherKeysMode`
    | (split <;> first | (apply ite_rel <;> intro _) | exact sameWrite_none hs _)
    | exact ⟨.vint _ _, rfl, rfl, fun _ _ h => nomatch h⟩

attribute [local irreducible] Term.csi in
/-- **A token reads the active screen, the active keyboard state and (printable text only) the
    width policy, and writes one `Act`**: two terminals that agree on what is read perform the
    same write, and a write of DEC modes comes from `CSI ? ps h/l` only. With `u := t`: every token
    performs one `Act`. -/
theorem apply_same (cw : Nat → Nat) (tok : Tok) (hs : u.scr = t.scr) (hk : u.kbd = t.kbd)
    (hp : ∀ st cp, tok = .text st cp → u.pol = t.pol) :
    SameWrite (fun v ps => tok = .csi 0x3f ps true (if v then 0x68 else 0x6c)) t u
      (t.apply cw tok) (u.apply cw tok) := by
  cases tok with
  | text st cp =>
    unfold Term.apply; simp only [hs, hp st cp rfl]
    exact ⟨.scr _ _, rfl, rfl, fun _ _ h => nomatch h⟩
  | csi pfx ps clean fin =>
    unfold Term.apply
    cases clean
    · exact sameWrite_none hs _
    · obtain ⟨a, h1, h2, h3⟩ := csi_same hs hk pfx ps fin
      exact ⟨a, h1, h2, fun v qs h => by obtain ⟨rfl, rfl, rfl⟩ := h3 v qs h; rfl⟩
  | dcs => exact sameWrite_none hs _
  | _ =>
    unfold Term.apply Term.withScr
    simp only [hs]
    repeat' first
      | (apply ite_rel <;> intro _)
      -- BEL, and whatever is ignored
      | exact sameWrite_none hs _
      -- BS, DEL, HT, LF, FF, CR, IND, RI
      | exact ⟨.scr _ _, rfl, rfl, fun _ _ h => nomatch h⟩
      -- `ESC =`, `ESC >`
      | exact ⟨.vflag _ _, rfl, rfl, fun _ _ h => nomatch h⟩
      -- OSC 0, 2, 6, 7
      | exact ⟨.vstr _ _, rfl, rfl, fun _ _ h => nomatch h⟩

end Term

def onFst (m : Term → Term) (r : Term × List Ev) : Term × List Ev := (m r.1, r.2)

/-- `m` replaces a part of the terminal that the elementary writes neither read nor touch -/
structure Term.Aside (m : Term → Term) : Prop where
  scr : ∀ t, (m t).scr = t.scr
  kbd : ∀ t, (m t).kbd = t.kbd
  setScr : ∀ t s, (m t).setScr s = m (t.setScr s)
  setKbd : ∀ t k, (m t).setKbd k = m (t.setKbd k)
  setVFlag : ∀ t i v, (m t).setVFlag i v = onFst m (t.setVFlag i v)
  setVInt : ∀ t i v, (m t).setVInt i v = onFst m (t.setVInt i v)
  setVStr : ∀ t i v, (m t).setVStr i v = onFst m (t.setVStr i v)

namespace Term.Aside
variable {m : Term → Term} (hm : Term.Aside m)
include hm

/-- `sw`: the buffer switch commutes with `m` as well, or is not asked for -/
theorem decMode (t : Term) (p : Int) (v : Bool)
    (sw : p = 1049 → (m t).switchScreen v = onFst m (t.switchScreen v)) :
    (m t).decMode p v = onFst m (t.decMode p v) := by
  by_cases h : p = 1049
  · subst h; exact sw rfl
  · -- the cascade on `m t` is the cascade on `t` with `onFst m` pushed to the leaves
    simp only [Term.decMode, h, if_false, hm.setVFlag, hm.setVInt, hm.scr, hm.setScr, apply_ite (onFst m)]
    rfl

theorem decModes (t : Term) (v : Bool) (ps : List Int)
    (sw : 1049 ∈ ps → ∀ t, (m t).switchScreen v = onFst m (t.switchScreen v)) :
    (m t).decModes v ps = onFst m (t.decModes v ps) := by
  induction ps generalizing t with
  | nil => rfl
  | cons p ps ih =>
    rw [Term.decModes_cons, Term.decModes_cons,
      hm.decMode t p v (fun h => sw (h ▸ List.mem_cons_self) t)]
    simp only [onFst, ih _ (fun h => sw (List.mem_cons_of_mem _ h))]

theorem perform (t : Term) (a : Act)
    (sw : ∀ v ps, a = .modes v ps → 1049 ∈ ps → ∀ t, (m t).switchScreen v = onFst m (t.switchScreen v)) :
    (m t).perform a = onFst m (t.perform a) := by
  cases a with
  | scr s e => exact congrArg (·, e) (hm.setScr t s)
  | vflag i v => exact hm.setVFlag ..
  | vint i v => exact hm.setVInt ..
  | vstr i b => exact hm.setVStr ..
  | kbd k => exact congrArg (·, []) (hm.setKbd t k)
  | modes v ps => exact hm.decModes t v ps (sw v ps rfl)

/-- a token commutes with `m`, provided that `m` keeps the policy if the token is printable text
    and commutes with the buffer switch if the token asks for one -/
theorem apply (cw : Nat → Nat) (t : Term) (tok : Tok)
    (hp : ∀ st cp, tok = .text st cp → (m t).pol = t.pol)
    (sw : ∀ v ps, tok = .csi 0x3f ps true (if v then 0x68 else 0x6c) → 1049 ∈ ps →
      ∀ t, (m t).switchScreen v = onFst m (t.switchScreen v)) :
    (m t).apply cw tok = onFst m (t.apply cw tok) := by
  obtain ⟨a, e, e', ha⟩ := Term.apply_same (t := t) (u := m t) cw tok (hm.scr t) (hm.kbd t) hp
  rw [e, e']
  exact hm.perform t a (fun v ps h => sw v ps (ha v ps h))

end Term.Aside

/-! ### what a token leaves alone: the buffer that is not active

`C17.OnlyActive t t'` is the frame of every token that does not switch buffers (`oa_apply`, read off
the six kinds of write), `C17.WrapOnly t t'` that of a `CSI ? … h/l` whatever it lists
(`wo_decModes`); `C17.isSwitch` singles out the tokens that can change which buffer is active.
`Props/C17.lean` states the property with them; `Props/C10.lean` reads them as frames of the active
screen. Lemma prefixes: `oa_` concludes `OnlyActive`, `wo_` concludes `WrapOnly`. -/

namespace C17

/-- `CSI ? … h` / `CSI ? … l` (clean) whose parameters contain 1049 — the only tokens that can
    change which buffer is active -/
def isSwitch : Tok → Bool
  | .csi pfx ps clean fin => pfx == 0x3f && clean && (fin == 0x68 || fin == 0x6c) && ps.contains 1049
  | _ => false

/-- `t'` differs from `t` at most in the ACTIVE buffer, the ACTIVE keyboard state and the view
    state (flags / ints / strings; the flag and int vectors keep their lengths); the same buffer is
    active -/
structure OnlyActive (t t' : Term) : Prop where
  onAlt : t'.onAlt = t.onAlt
  pol : t'.pol = t.pol
  vlen : t'.vflags.length = t.vflags.length ∧ t'.vints.length = t.vints.length
  whenMain : t.onAlt = false → t'.alt = t.alt ∧ t'.kalt = t.kalt
  whenAlt : t.onAlt = true → t'.main = t.main ∧ t'.kmain = t.kmain

/-- `t'` differs from `t` at most in `onAlt`, the view flags / ints, and the `wrap` field of the
    two buffers: content, cursor, saved cursor, margins, rendition and both keyboard states are
    the same -/
structure WrapOnly (t t' : Term) : Prop where
  pol : t'.pol = t.pol
  vlen : t'.vflags.length = t.vflags.length ∧ t'.vints.length = t.vints.length
  main : t'.main = { t.main with wrap := t'.main.wrap }
  alt : t'.alt = { t.alt with wrap := t'.alt.wrap }
  kmain : t'.kmain = t.kmain
  kalt : t'.kalt = t.kalt
  vstrs : t'.vstrs = t.vstrs

theorem OnlyActive.refl (t : Term) : OnlyActive t t :=
  ⟨rfl, rfl, ⟨rfl, rfl⟩, fun _ => ⟨rfl, rfl⟩, fun _ => ⟨rfl, rfl⟩⟩

theorem OnlyActive.trans {a b c : Term} (h1 : OnlyActive a b) (h2 : OnlyActive b c) : OnlyActive a c where
  onAlt := h2.onAlt.trans h1.onAlt
  pol := h2.pol.trans h1.pol
  vlen := ⟨h2.vlen.1.trans h1.vlen.1, h2.vlen.2.trans h1.vlen.2⟩
  whenMain h := by
    have a1 := h1.whenMain h
    have a2 := h2.whenMain (h1.onAlt.trans h)
    exact ⟨a2.1.trans a1.1, a2.2.trans a1.2⟩
  whenAlt h := by
    have a1 := h1.whenAlt h
    have a2 := h2.whenAlt (h1.onAlt.trans h)
    exact ⟨a2.1.trans a1.1, a2.2.trans a1.2⟩

theorem WrapOnly.refl (t : Term) : WrapOnly t t := ⟨rfl, ⟨rfl, rfl⟩, rfl, rfl, rfl, rfl, rfl⟩

theorem WrapOnly.trans {a b c : Term} (h1 : WrapOnly a b) (h2 : WrapOnly b c) : WrapOnly a c where
  pol := h2.pol.trans h1.pol
  vlen := ⟨h2.vlen.1.trans h1.vlen.1, h2.vlen.2.trans h1.vlen.2⟩
  main := by rw [h2.main, h1.main]
  alt := by rw [h2.alt, h1.alt]
  kmain := h2.kmain.trans h1.kmain
  kalt := h2.kalt.trans h1.kalt
  vstrs := h2.vstrs.trans h1.vstrs

namespace Lemmas

theorem oa_setScr (t : Term) (s : Scr) : OnlyActive t (t.setScr s) where
  onAlt := t.setScr_onAlt s
  pol := t.setScr_pol s
  vlen := ⟨congrArg _ (t.setScr_vflags s), congrArg _ (t.setScr_vints s)⟩
  whenMain h := ⟨Term.setScr_alt_of_main h s, t.setScr_kalt s⟩
  whenAlt h := ⟨Term.setScr_main_of_alt h s, t.setScr_kmain s⟩

theorem oa_setKbd (t : Term) (k : Kbd) : OnlyActive t (t.setKbd k) where
  onAlt := t.setKbd_onAlt k
  pol := t.setKbd_pol k
  vlen := ⟨congrArg _ (t.setKbd_vflags k), congrArg _ (t.setKbd_vints k)⟩
  whenMain h := ⟨t.setKbd_alt k, Term.setKbd_kalt_of_main h k⟩
  whenAlt h := ⟨t.setKbd_main k, Term.setKbd_kmain_of_alt h k⟩

theorem oa_withScr (t : Term) (s : Scr) : OnlyActive t (t.withScr s).1 := oa_setScr t s

theorem oa_setVFlag (t : Term) (i : Nat) (v : Bool) : OnlyActive t (t.setVFlag i v).1 := by
  constructor <;> simp [Term.setVFlag]

theorem oa_setVInt (t : Term) (i : Nat) (v : Int) : OnlyActive t (t.setVInt i v).1 := by
  constructor <;> simp [Term.setVInt]

theorem oa_setVStr (t : Term) (i : Nat) (v : Bytes) : OnlyActive t (t.setVStr i v).1 := by
  constructor <;> simp [Term.setVStr]

theorem oa_decMode (t : Term) (p : Int) (v : Bool) (h : p ≠ 1049) : OnlyActive t (t.decMode p v).1 :=
  t.decMode_cases (Q := fun r => OnlyActive t r.1) p v (flag := fun _ => oa_setVFlag ..)
    (int := fun _ _ => oa_setVInt ..) (wrap := fun _ => oa_setScr ..) (switch := fun h' => absurd h' h)
    (none := .refl t)

theorem decMode_1049 (t : Term) (v : Bool) : t.decMode 1049 v = t.switchScreen v := rfl

/-- `?1049h` on the alternate buffer / `?1049l` on the main buffer: no change, no event -/
theorem _root_.TM.C17.mode_1049_already (t : Term) (v : Bool) (h : t.onAlt = v) : t.decMode 1049 v = (t, []) := by
  simp [decMode_1049, Term.switchScreen, h]

theorem oa_decModes (t : Term) (v : Bool) (ps : List Int) (h : 1049 ∈ ps → t.onAlt = v) :
    OnlyActive t (t.decModes v ps).1 := by
  induction ps generalizing t with
  | nil => exact .refl _
  | cons p ps ih =>
    rw [Term.decModes_cons]
    by_cases hp : p = 1049
    · subst hp
      rw [mode_1049_already t v (h List.mem_cons_self)]
      exact ih t fun m => h (List.mem_cons_of_mem _ m)
    · have h1 := oa_decMode t p v hp
      exact h1.trans (ih _ fun m => h1.onAlt.trans (h (List.mem_cons_of_mem _ m)))

theorem wo_decMode (t : Term) (p : Int) (v : Bool) : WrapOnly t (t.decMode p v).1 := by
  refine t.decMode_cases (Q := fun r => WrapOnly t r.1) p v
    (flag := fun _ => by constructor <;> simp [Term.setVFlag])
    (int := fun _ _ => by constructor <;> simp [Term.setVInt]) (wrap := fun _ => ?_)
    (switch := fun _ => ?_) (none := .refl t)
  · unfold Term.setScr Term.scr; cases t.onAlt <;> constructor <;> simp
  · unfold Term.switchScreen; split
    · exact .refl _
    · constructor <;> simp

theorem wo_decModes (t : Term) (v : Bool) (ps : List Int) : WrapOnly t (t.decModes v ps).1 := by
  induction ps generalizing t with
  | nil => exact .refl _
  | cons p ps ih =>
    rw [Term.decModes_cons]
    exact (wo_decMode t p v).trans (ih _)

theorem not_isSwitch {v : Bool} {ps : List Int}
    (h : isSwitch (.csi 0x3f ps true (if v then 0x68 else 0x6c)) = false) : 1049 ∉ ps := by
  cases v <;> simpa [isSwitch] using h

theorem oa_perform (t : Term) (a : Act) (h : ∀ v ps, a = .modes v ps → 1049 ∉ ps) :
    OnlyActive t (t.perform a).1 := by
  cases a with
  | scr s e => exact oa_setScr _ _
  | vflag i v => exact oa_setVFlag _ _ _
  | vint i v => exact oa_setVInt _ _ _
  | vstr i b => exact oa_setVStr _ _ _
  | kbd k => exact oa_setKbd _ _
  | modes v ps => exact oa_decModes _ _ _ fun m => absurd m (h v ps rfl)

theorem oa_apply (cw : Nat → Nat) (t : Term) (tok : Tok) (h : isSwitch tok = false) :
    OnlyActive t (Term.apply cw t tok).1 := by
  obtain ⟨a, e, -, hm⟩ := Term.apply_same (t := t) (u := t) cw tok rfl rfl (fun _ _ _ => rfl)
  rw [e]
  exact oa_perform t a (fun v ps ha => not_isSwitch (hm v ps ha ▸ h))

theorem isSwitch_elim {tok : Tok} (h : isSwitch tok = true) :
    ∃ ps fin, tok = .csi 0x3f ps true fin ∧ (fin = 0x68 ∨ fin = 0x6c) ∧ (1049 : Int) ∈ ps := by
  cases tok with
  | csi pfx ps clean fin =>
    simp only [isSwitch, Bool.and_eq_true, beq_iff_eq, Bool.or_eq_true, List.contains_iff_mem] at h
    obtain ⟨⟨⟨rfl, rfl⟩, hf⟩, hp⟩ := h
    exact ⟨ps, fin, rfl, hf, hp⟩
  | _ => cases h

theorem isSwitch_apply (cw : Nat → Nat) (t : Term) {tok : Tok} (h : isSwitch tok = true) :
    ∃ v ps, Term.apply cw t tok = t.decModes v ps := by
  obtain ⟨ps, fin, rfl, rfl | rfl, _⟩ := isSwitch_elim h
  · exact ⟨true, ps, rfl⟩
  · exact ⟨false, ps, rfl⟩

end Lemmas

end C17

end TM
