import TM.Run
import Proofs.Parser
import Proofs.Fold
/-!
# The read loop: from lists of tokens to byte streams

The read loop is the run (`Run.state`, `Run.out` of `Proofs/Fold`) of `Term.apply cw` over the tokens
of the stream (`runFuel_eq`): how the stream is cut (fuel, leftover, concatenation) is a matter of
the tokeniser alone (`toksFuel'_*`), what the tokeniser guarantees of one token holds of all
(`toksFuel'_all`, `run_inv`).
-/
namespace TM

/-! ### the tokens of a byte stream -/

/-- the tokens `runFuel` applies, and what it leaves. The property files have token lists of their
    own (`C10.toksFuel`, `C14.tokens`: the first component alone, which is why this one is primed);
    each is the first component by `toks_unique`. -/
def toksFuel' : Nat → Bytes → List Tok × Bytes
  | 0, bs => ([], bs)
  | fuel+1, bs =>
    match next bs with
    | .need => ([], bs)
    | .tok tk n => (tk :: (toksFuel' fuel (bs.drop n)).1, (toksFuel' fuel (bs.drop n)).2)

theorem toksFuel'_need {f : Nat} {bs : Bytes} (h : next bs = .need) : toksFuel' (f + 1) bs = ([], bs) := by
  simp only [toksFuel', h]

theorem toksFuel'_tok {f : Nat} {bs : Bytes} {tk : Tok} {n : Nat} (h : next bs = .tok tk n) :
    toksFuel' (f + 1) bs = (tk :: (toksFuel' f (bs.drop n)).1, (toksFuel' f (bs.drop n)).2) := by
  simp only [toksFuel', h]

/-- a function with the two equations of the token list is the first component (both hypotheses by
    `rfl` for the copies in the property files) -/
theorem toks_unique {tk : Nat → Bytes → List Tok} (h0 : ∀ bs, tk 0 bs = [])
    (h1 : ∀ f bs, tk (f + 1) bs =
      match next bs with
      | .need => []
      | .tok t n => t :: tk f (bs.drop n)) (f : Nat) (bs : Bytes) : tk f bs = (toksFuel' f bs).1 := by
  induction f generalizing bs with
  | zero => exact h0 bs
  | succ f ih => rw [h1]; unfold toksFuel'; cases next bs <;> simp [ih]

theorem runFuel_eq (cw : Nat → Nat) (fuel : Nat) (t : Term) (bs : Bytes) (evs : List Ev) :
    runFuel cw fuel t bs evs =
      (Run.state (Term.apply cw) t (toksFuel' fuel bs).1,
        evs ++ Run.out (Term.apply cw) t (toksFuel' fuel bs).1, (toksFuel' fuel bs).2) := by
  induction fuel generalizing t bs evs with
  | zero => simp [runFuel, toksFuel', Run.out]
  | succ fuel ih =>
    unfold runFuel toksFuel'
    cases next bs with
    | need => simp [Run.out]
    | tok tk n => simp [ih, Run.out]

theorem toksFuel'_all {P : Tok → Prop} (hP : ∀ bs tk n, next bs = .tok tk n → P tk) :
    ∀ (fuel : Nat) (bs : Bytes), ∀ tk ∈ (toksFuel' fuel bs).1, P tk := by
  intro fuel
  induction fuel with
  | zero => intro bs tk h; cases h
  | succ fuel ih =>
    intro bs tk h
    unfold toksFuel' at h
    cases hn : next bs with
    | need => rw [hn] at h; cases h
    | tok tk' n =>
      rw [hn] at h
      rcases List.mem_cons.1 h with rfl | h
      · exact hP bs _ n hn
      · exact ih _ tk h

theorem runFuel_inv (cw : Nat → Nat) {I : Term → Prop} {P : Tok → Prop}
    (hP : ∀ bs tk n, next bs = .tok tk n → P tk)
    (step : ∀ t tk, I t → P tk → I (t.apply cw tk).1) {t : Term} (h : I t) (f : Nat) (bs : Bytes)
    (evs : List Ev) : I (runFuel cw f t bs evs).1 := by
  rw [runFuel_eq]
  exact Run.inv step h (toksFuel'_all hP f bs)

theorem run_inv (cw : Nat → Nat) {I : Term → Prop} {P : Tok → Prop}
    (hP : ∀ bs tk n, next bs = .tok tk n → P tk)
    (step : ∀ t tk, I t → P tk → I (t.apply cw tk).1) {t : Term} (h : I t) (bs : Bytes) :
    I (run cw t bs).1 :=
  runFuel_inv cw hP step h _ bs []

/-! ### cutting the stream: fuel, leftover, concatenation — facts about the tokeniser alone -/

theorem toksFuel'_fuel : ∀ (f1 f2 : Nat) (bs : Bytes), bs.length < f1 → bs.length < f2 →
    toksFuel' f1 bs = toksFuel' f2 bs := by
  intro f1
  induction f1 with
  | zero => intro f2 bs h; omega
  | succ f1 ih =>
    intro f2 bs h1 h2
    cases f2 with
    | zero => omega
    | succ f2 =>
      unfold toksFuel'
      cases h : next bs with
      | need => rfl
      | tok tk n =>
        have hp := next_progress bs tk n h
        simp only [ih f2 (bs.drop n) (by rw [List.length_drop]; omega) (by rw [List.length_drop]; omega)]

theorem toksFuel'_rest : ∀ (f : Nat) (bs : Bytes), bs.length < f →
    next (toksFuel' f bs).2 = .need ∧ ∃ k, k ≤ bs.length ∧ (toksFuel' f bs).2 = bs.drop k := by
  intro f
  induction f with
  | zero => intro bs h; omega
  | succ f ih =>
    intro bs h1
    unfold toksFuel'
    cases h : next bs with
    | need => exact ⟨h, 0, Nat.zero_le _, rfl⟩
    | tok tk n =>
      have hp := next_progress bs tk n h
      obtain ⟨a, k, hk, e⟩ := ih (bs.drop n) (by rw [List.length_drop]; omega)
      exact ⟨a, n + k, by rw [List.length_drop] at hk; omega, by rw [e, List.drop_drop]⟩

theorem toksFuel'_append (q : Bytes) : ∀ (f f' : Nat) (p : Bytes), p.length < f → (p ++ q).length < f' →
    toksFuel' f' (p ++ q) =
      ((toksFuel' f p).1 ++ (toksFuel' (((toksFuel' f p).2 ++ q).length + 1) ((toksFuel' f p).2 ++ q)).1,
        (toksFuel' (((toksFuel' f p).2 ++ q).length + 1) ((toksFuel' f p).2 ++ q)).2) := by
  intro f
  induction f with
  | zero => intro f' p h; omega
  | succ f ih =>
    intro f' p h1 h2
    cases h : next p with
    | need =>
      rw [toksFuel'_need h]
      exact toksFuel'_fuel _ _ _ h2 (Nat.lt_succ_self _)
    | tok tk n =>
      have hp := next_append p q tk n h
      cases f' with
      | zero => omega
      | succ f' =>
        rw [toksFuel'_tok h, toksFuel'_tok hp.1, List.drop_append_of_le_length hp.2.2,
          ih f' (p.drop n) (by simp only [List.length_drop]; omega)
            (by simp only [List.length_append, List.length_drop] at h2 ⊢; omega)]
        rfl

/-! ### the read loop -/

theorem runFuel_evs (cw : Nat → Nat) (f : Nat) (t : Term) (bs : Bytes) (evs : List Ev) :
    runFuel cw f t bs evs =
      ((runFuel cw f t bs []).1, evs ++ (runFuel cw f t bs []).2.1, (runFuel cw f t bs []).2.2) := by
  rw [runFuel_eq, runFuel_eq cw f t bs []]; rfl

theorem runFuel_fuel (cw : Nat → Nat) (f1 f2 : Nat) (t : Term) (bs : Bytes) (evs : List Ev)
    (h1 : bs.length < f1) (h2 : bs.length < f2) : runFuel cw f1 t bs evs = runFuel cw f2 t bs evs := by
  rw [runFuel_eq, runFuel_eq, toksFuel'_fuel f1 f2 bs h1 h2]

theorem runFuel_rest (cw : Nat → Nat) (f : Nat) (t : Term) (bs : Bytes) (evs : List Ev)
    (h : bs.length < f) :
    next (runFuel cw f t bs evs).2.2 = .need ∧ ∃ k, k ≤ bs.length ∧ (runFuel cw f t bs evs).2.2 = bs.drop k := by
  rw [runFuel_eq]; exact toksFuel'_rest f bs h

theorem run_need (cw : Nat → Nat) (t : Term) (bs : Bytes) (h : next bs = .need) : run cw t bs = (t, [], bs) := by
  simp only [run, runFuel, h]

theorem runFuel_succ_tok (cw : Nat → Nat) (f : Nat) (t : Term) {bs : Bytes} (evs : List Ev) {tk : Tok} {n : Nat}
    (h : next bs = .tok tk n) :
    runFuel cw (f + 1) t bs evs = runFuel cw f (t.apply cw tk).1 (bs.drop n) (evs ++ (t.apply cw tk).2) := by
  simp only [runFuel, h]

theorem run_step (cw : Nat → Nat) (t : Term) (bs : Bytes) (tk : Tok) (n : Nat) (h : next bs = .tok tk n) :
    run cw t bs =
      ((run cw (t.apply cw tk).1 (bs.drop n)).1,
       (t.apply cw tk).2 ++ (run cw (t.apply cw tk).1 (bs.drop n)).2.1,
       (run cw (t.apply cw tk).1 (bs.drop n)).2.2) := by
  have hp := next_progress bs tk n h
  unfold run
  rw [runFuel_succ_tok cw _ t [] h,
    runFuel_fuel cw bs.length ((bs.drop n).length + 1) _ _ _ (by rw [List.length_drop]; omega) (by omega),
    runFuel_evs, List.nil_append]

theorem run_nil (cw : Nat → Nat) (t : Term) : (run cw t []).1 = t := by
  rw [run_need cw t [] rfl]

theorem run_tok {cw : Nat → Nat} {a bs : Bytes} {tk : Tok} (h : next (a ++ bs) = .tok tk a.length)
    (t : Term) : (run cw t (a ++ bs)).1 = (run cw (t.apply cw tk).1 bs).1 := by
  rw [run_step cw t _ tk _ h, List.drop_left]

theorem run_pending_stuck (cw : Nat → Nat) (t : Term) (bs : Bytes) : next (run cw t bs).2.2 = .need :=
  (runFuel_rest cw _ t bs [] (Nat.lt_succ_self _)).1

theorem runFuel_append (cw : Nat → Nat) (q : Bytes) (f f' : Nat) (t : Term) (p : Bytes) (evs : List Ev)
    (h1 : p.length < f) (h2 : (p ++ q).length < f') :
    runFuel cw f' t (p ++ q) evs =
      runFuel cw (((runFuel cw f t p evs).2.2 ++ q).length + 1) (runFuel cw f t p evs).1
        ((runFuel cw f t p evs).2.2 ++ q) (runFuel cw f t p evs).2.1 := by
  simp only [runFuel_eq, toksFuel'_append q f f' p h1 h2, Run.state_append, Run.out_append,
    List.append_assoc]

end TM
