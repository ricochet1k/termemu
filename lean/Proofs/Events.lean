import Proofs.Dispatch
/-!
# What a control token can emit

Every token other than text emits events of a few kinds only: never a `scrollLines`, and never a
region change with reason 0 (text drawn). One walk through the dispatch shows it; that no text is
reported drawn and that no scrollback announcement comes from `Term.apply` both follow.
-/
namespace TM

/-- an event that a token other than text may emit -/
def Ev.isControl : Ev → Bool
  | .region _ _ _ _ 0 => false
  | .scrollLines _ => false
  | _ => true

namespace Term

theorem decMode_control (t : Term) (p : Int) (v : Bool) : (t.decMode p v).2.all Ev.isControl = true :=
  t.decMode_cases (Q := fun r => r.2.all Ev.isControl = true) p v (flag := fun _ => rfl)
    (int := fun _ _ => rfl) (wrap := fun _ => rfl)
    (switch := fun _ => by unfold Term.switchScreen; split <;> rfl) (none := rfl)

theorem decModes_control (t : Term) (v : Bool) (ps : List Int) :
    (t.decModes v ps).2.all Ev.isControl = true := by
  induction ps generalizing t with
  | nil => rfl
  | cons p ps ih => rw [decModes_cons, List.all_append, decMode_control, ih]; rfl

/-- outside the DEC private modes every leaf of the dispatch writes its events out -/
theorem csi_control (t : Term) (pfx : UInt8) (ps : List Int) (fin : UInt8) :
    (t.csi pfx ps fin).2.all Ev.isControl = true :=
  t.csi_cases (Q := fun r => r.2.all Ev.isControl = true) pfx ps fin
    (plain := fun _ => t.csiPlain_cases (Q := fun r => r.2.all Ev.isControl = true) ps fin
      (none := rfl) (reply := fun _ _ => rfl) (move := fun _ _ => rfl) (restore := rfl) (save := rfl)
      (sgr := fun _ => rfl) (margins := fun _ _ => rfl) (eraseRow := fun _ _ _ _ _ => rfl)
      (ed0 := fun _ => rfl) (ed1 := fun _ => rfl) (ed2 := fun _ => rfl)
      (scroll := fun _ _ _ => rfl) (dch := fun _ _ => rfl))
    (modes := fun _ _ v => decModes_control t v ps) (none := rfl) (reply := fun _ _ => rfl)
    (int := fun _ => rfl) (kbd := fun _ _ => rfl)

theorem apply_control (cw : Nat → Nat) (t : Term) (tok : Tok) (h : ∀ st cp, tok ≠ .text st cp) :
    (t.apply cw tok).2.all Ev.isControl = true :=
  t.apply_cases (Q := fun r => r.2.all Ev.isControl = true) cw tok
    (text := fun st cp e => absurd e (h st cp)) (none := rfl) (bell := rfl) (cx := fun _ _ => rfl)
    (move := fun _ _ => rfl) (lf := fun _ => rfl) (down := fun _ => rfl) (up := fun _ => rfl)
    (flag := fun _ _ => rfl) (str := fun _ _ => rfl) (csi := fun pfx ps fin _ => csi_control t pfx ps fin)

end Term
end TM
