import Proofs.Put
/-!
# Why every operation keeps `Geo`, and what a refinement of `Scr` needs

`Geo s` (`Proofs/Scr`) is what `Scr.inv` says apart from the rows. Every operation of `Scr` keeps it
for reasons that do not look at the rows (`Geo.setCursor` … `Geo.lineDown`, `Geo.wrapped`,
`Geo.putPre`, `resize_geo`); those reasons are here, once, for `Scr` itself (`Props/C02`; `inv_cx`)
and for every concrete screen (rows of runs, rows of array cells) that shows a `Scr` through an
abstraction map copying the geometry and mapping the rows: its invariant is as many rows as the
height, every row well formed for its own representation, and `Geo` of the `Scr` it shows. How such
a map goes through `scroll` is said at the end (`map_scrollRows`); through a `mapIdx` over rows or
cells: `map_mapIdx_comm` (`Proofs/List`).
-/
namespace TM

/-! ### every operation keeps `Geo` -/

namespace Geo

theorem grid {s : Scr} (h : Geo s) (g : List Row) : Geo { s with grid := g } := { h with }

theorem wrap {s : Scr} (h : Geo s) (v : Bool) : Geo { s with wrap := v } := { h with }

theorem sty {s : Scr} (h : Geo s) (st : Style) : Geo { s with sty := st } := { h with }

theorem cursor {s : Scr} (h : Geo s) {x y : Nat} (hx : x < s.w) (hy : y < s.h) :
    Geo { s with cx := x, cy := y } := { h with cx_lt := hx, cy_lt := hy }

theorem cx {s : Scr} (h : Geo s) {x : Nat} (hx : x < s.w) : Geo { s with cx := x } :=
  h.cursor hx h.cy_lt

theorem setCursor {s : Scr} (h : Geo s) (x y : Int) : Geo (s.setCursor x y) := by
  have := clampNat_le x (s.w - 1)
  have := clampNat_le y (s.h - 1)
  have := h.w_pos; have := h.h_pos
  exact h.cursor (by omega) (by omega)

theorem saveCursor {s : Scr} (h : Geo s) : Geo s.saveCursor :=
  { h with sx_lt := h.cx_lt, sy_lt := h.cy_lt }

theorem restoreCursor {s : Scr} (h : Geo s) : Geo s.restoreCursor :=
  { h with cx_lt := h.sx_lt, cy_lt := h.sy_lt }

theorem setMargins {s : Scr} (h : Geo s) (t b : Int) : Geo (s.setMargins t b) := by
  rw [setMargins_eq]
  split
  · exact h
  · have := clampNat_le b (s.h - 1)
    have := h.h_pos
    exact { h with top_le := clampNat_mono (by omega) _, bot_lt := by show clampNat b (s.h - 1) < s.h; omega }

theorem scroll {s : Scr} (h : Geo s) (a b : Nat) (d : Int) : Geo (s.scroll a b d) := by
  rw [scroll_eq_grid]; exact h.grid _

theorem lineDown {s : Scr} (h : Geo s) : Geo s.lineDown := by
  unfold Scr.lineDown
  split
  · exact h.scroll ..
  · split
    · next hc => exact h.cursor h.cx_lt hc
    · exact h

theorem lineUp {s : Scr} (h : Geo s) : Geo s.lineUp := by
  unfold Scr.lineUp
  split
  · exact h.scroll ..
  · split
    · exact h.cursor h.cx_lt (Nat.lt_of_le_of_lt (Nat.sub_le _ _) h.cy_lt)
    · exact h

theorem wrapped {s s' : Scr} {k : Nat} (h : Geo s) (hw : s.Wrapped k s') (hx : s'.cx < s.w) : Geo s' := by
  cases hw with
  | col x => exact h.cx hx
  | feed _ x =>
    rw [lineDown_cx] at hx
    exact (h.cx (x := x) hx).lineDown

theorem putPre {s : Scr} (h : Geo s) {w : Nat} (hws : w ≤ s.w) :
    Geo (Scr.putPre s w) ∧ (Scr.putPre s w).cx + w ≤ (Scr.putPre s w).w := by
  obtain ⟨hx, hfit⟩ := putPre_cx s hws
  exact ⟨h.wrapped (s.putPre_wrapped w) (Nat.lt_of_le_of_lt hx h.cx_lt),
    (s.putPre_wrapped w).shift.w ▸ hfit⟩

end Geo

theorem inv_cx {s : Scr} (h : s.inv = true) {x : Nat} (hx : x < s.w) :
    ({ s with cx := x } : Scr).inv = true :=
  have ⟨hl, hr, hg⟩ := (inv_iff_geo s).1 h
  (inv_iff_geo _).2 ⟨hl, hr, hg.cx hx⟩

theorem resize_geo {s : Scr} {w h' : Nat} (hw : 1 ≤ w) (hh : 1 ≤ h') : Geo (s.resize w h') := by
  have hc := clampNat_le ((h' : Int) - ((s.h : Int) - (s.bot : Int))) (h' - 1)
  unfold Scr.resize
  -- the cursor and the saved cursor, column and row, are kept or reset to 0
  refine { w_pos := hw, h_pos := hh, top_le := Nat.min_le_right _ _, bot_lt := by simp only; omega,
           cx_lt := ?_, cy_lt := ?_, sx_lt := ?_, sy_lt := ?_ } <;>
    (simp only; split <;> omega)

/-! ### abstraction maps through `scroll` -/

theorem map_scrollRows {α β : Type} (f : α → β) (blank : α) (L : List α) (a b : Nat) (d : Int) :
    (scrollRows blank L a b d).map f = scrollRows (f blank) (L.map f) a b d := by
  unfold scrollRows
  simp only []
  split <;> simp [List.map_take, List.map_drop]

end TM
