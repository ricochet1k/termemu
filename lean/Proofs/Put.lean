import Proofs.Scr
import Proofs.RowIns
import TM.Scrollback
/-!
# `Scr.put` in three steps

`Scr.put` first brings the cursor back from the right edge (`Scr.putPre`: early wrap, or pull back),
then rewrites the cursor row (`Scr.putRow`), then places the cursor at the column `Scr.putX`
(`Scr.putFinish`: late wrap, or pin on the last column). `put_eq` is the definition read that way.
The two cursor adjustments are of one kind (`Scr.Wrapped`), so what `Scr.put` keeps is shown once
for both; the middle step is plain `Row.put` (`putRow_plain`) except in the span policy's own case
(`putRow_keep`) and keeps the length of the row (`putRow_length`, by `putKeep_length`: the one thing
used of `Proofs/RowIns`).

`Scr.Wrapped s k s'` also counts the rows `k` that a wrap pushes out through the top, in the terms
of `TM/Scrollback.lean` (`Scr.lineDownOff`; `Scr.earlyOff`, `Scr.lateOff` are the two summands of
its `Scr.putOff`, `Scr.putOff_eq`; its `Scr.putStart` is `Scr.putPre`, `Scr.putStart_eq`): that file
sits above `TM.Term`, which is why this module imports more of the model than screens.
-/
namespace TM

/-! ### the steps -/

namespace C03

/-- the cell width `Scr.put` really uses: the nominal width (at least 1), or 1 for a character
    wider than the whole screen -/
def effW (s : Scr) (w0 : Nat) : Nat := if max w0 1 > s.w then 1 else max w0 1

/-- the bytes `Scr.put` really stores: U+FFFD for a character wider than the whole screen -/
def effText (s : Scr) (text : Bytes) (w0 : Nat) : Bytes :=
  if max w0 1 > s.w then replacementChar else text

end C03

namespace Scr
export C03 (effW effText)
end Scr

def Scr.putPre (s : Scr) (w : Nat) : Scr :=
  if s.cx + w > s.w then
    (if s.wrap then ({ s with cx := 0 } : Scr).lineDown else { s with cx := s.w - w })
  else s

def Scr.putRow (pol : WidePolicy) (s : Scr) (text : Bytes) (w : Nat) : Row :=
  if (contAt (s.row s.cy) s.cx && pol == .keep) = true
  then (s.row s.cy).putKeep s.cx text w s.sty else (s.row s.cy).put s.cx text w s.sty

/-- the column the cursor aims at after the write: right behind the character, which under the
    `keep` policy on a continuation cell stands behind the kept character -/
def Scr.putX (pol : WidePolicy) (s : Scr) (w : Nat) : Nat :=
  s.cx + w + (if (contAt (s.row s.cy) s.cx && pol == .keep) = true
    then headOf (s.row s.cy) s.cx + widthAt (s.row s.cy) (headOf (s.row s.cy) s.cx) - s.cx else 0)

def Scr.putFinish (s1 : Scr) (x : Nat) : Scr :=
  if x < s1.w then { s1 with cx := x }
  else if s1.wrap then ({ s1 with cx := x - s1.w } : Scr).lineDown
  else { s1 with cx := s1.w - 1 }

theorem put_eq (pol : WidePolicy) (s : Scr) (text0 : Bytes) (w0 : Nat) :
    Scr.put pol s text0 w0 =
      Scr.putFinish ((Scr.putPre s (Scr.effW s w0)).setRow (Scr.putPre s (Scr.effW s w0)).cy
          (Scr.putRow pol (Scr.putPre s (Scr.effW s w0)) (Scr.effText s text0 w0) (Scr.effW s w0)))
        (Scr.putX pol (Scr.putPre s (Scr.effW s w0)) (Scr.effW s w0)) := rfl

theorem effW_pos (s : Scr) (w0 : Nat) : 1 ≤ Scr.effW s w0 := by unfold Scr.effW; split <;> omega

theorem effW_le (s : Scr) (w0 : Nat) (h : 1 ≤ s.w) : Scr.effW s w0 ≤ s.w := by
  unfold Scr.effW; split <;> omega

theorem effW_normal {s : Scr} {w0 : Nat} (h : max w0 1 ≤ s.w) : Scr.effW s w0 = max w0 1 :=
  if_neg (Nat.not_lt.2 h)

theorem effText_normal {s : Scr} {w0 : Nat} (h : max w0 1 ≤ s.w) (text : Bytes) :
    Scr.effText s text w0 = text :=
  if_neg (Nat.not_lt.2 h)

theorem eff_congr {s s' : Scr} (h : s'.w = s.w) (t : Bytes) (w0 : Nat) :
    Scr.effW s' w0 = Scr.effW s w0 ∧ Scr.effText s' t w0 = Scr.effText s t w0 := by
  unfold Scr.effW Scr.effText; rw [h]; exact ⟨rfl, rfl⟩

/-! ### the three cases of each adjustment; the middle step under each policy -/

theorem putPre_fit {s : Scr} {w : Nat} (h : s.cx + w ≤ s.w) : s.putPre w = s :=
  if_neg (Nat.not_lt.2 h)

theorem putPre_wrap {s : Scr} {w : Nat} (h : s.cx + w > s.w) (hw : s.wrap = true) :
    s.putPre w = ({ s with cx := 0 } : Scr).lineDown := by
  unfold Scr.putPre; rw [if_pos h, if_pos hw]

theorem putPre_nowrap {s : Scr} {w : Nat} (h : s.cx + w > s.w) (hw : s.wrap = false) :
    s.putPre w = { s with cx := s.w - w } := by
  unfold Scr.putPre; rw [if_pos h, if_neg (by rw [hw]; exact Bool.false_ne_true)]

theorem putFinish_lt {s : Scr} {x : Nat} (h : x < s.w) : s.putFinish x = { s with cx := x } :=
  if_pos h

theorem putFinish_wrap {s : Scr} {x : Nat} (h : ¬ x < s.w) (hw : s.wrap = true) :
    s.putFinish x = ({ s with cx := x - s.w } : Scr).lineDown := by
  unfold Scr.putFinish; rw [if_neg h, if_pos hw]

theorem putFinish_nowrap {s : Scr} {x : Nat} (h : ¬ x < s.w) (hw : s.wrap = false) :
    s.putFinish x = { s with cx := s.w - 1 } := by
  unfold Scr.putFinish; rw [if_neg h, if_neg (by rw [hw]; exact Bool.false_ne_true)]

/-- after the early adjustment the character fits -/
theorem putPre_cx (s : Scr) {w : Nat} (hw : w ≤ s.w) :
    (s.putPre w).cx ≤ s.cx ∧ (s.putPre w).cx + w ≤ s.w := by
  unfold Scr.putPre
  split
  · split
    · rw [lineDown_cx]; exact ⟨Nat.zero_le _, by simpa using hw⟩
    · simp only; omega
  · omega

theorem putFinish_cx (s : Scr) {x : Nat} (hw : 1 ≤ s.w) (hx : x - s.w < s.w) : (s.putFinish x).cx < s.w := by
  unfold Scr.putFinish
  split
  · assumption
  · split
    · rw [lineDown_cx]; exact hx
    · simp only; omega

/-- the test of `Scr.put` for the span policy's own case -/
theorem keep_false_iff {pol : WidePolicy} {r : Row} {x : Nat} :
    (contAt r x && pol == .keep) = false ↔ pol = .blank ∨ contAt r x = false := by
  cases pol <;> simp

/-- unless the span policy finds the cursor on a continuation cell, the row is rewritten by plain
    `Row.put` … -/
theorem putRow_plain {pol : WidePolicy} {s : Scr}
    (h : pol = .blank ∨ contAt (s.row s.cy) s.cx = false) (text : Bytes) (w : Nat) :
    Scr.putRow pol s text w = (s.row s.cy).put s.cx text w s.sty :=
  if_neg (by rw [keep_false_iff.2 h]; exact Bool.false_ne_true)

/-- … and the cursor aims right behind the character -/
theorem putX_plain {pol : WidePolicy} {s : Scr}
    (h : pol = .blank ∨ contAt (s.row s.cy) s.cx = false) (w : Nat) : Scr.putX pol s w = s.cx + w := by
  unfold Scr.putX
  rw [if_neg (by rw [keep_false_iff.2 h]; exact Bool.false_ne_true)]
  rfl

/-- the span policy on a continuation cell: `Row.putKeep` … -/
theorem putRow_keep {s : Scr} (h : contAt (s.row s.cy) s.cx = true) (text : Bytes) (w : Nat) :
    Scr.putRow .keep s text w = (s.row s.cy).putKeep s.cx text w s.sty :=
  if_pos (by rw [h]; rfl)

/-- … and the cursor aims behind the kept character and the new one -/
theorem putX_of_cont {s : Scr} (h : contAt (s.row s.cy) s.cx = true) (w : Nat) :
    Scr.putX .keep s w =
      s.cx + w + (headOf (s.row s.cy) s.cx + widthAt (s.row s.cy) (headOf (s.row s.cy) s.cx) - s.cx) := by
  unfold Scr.putX
  rw [if_pos (by rw [h]; rfl)]

/-- the row written is as long as the row written on (under the span policy the row must be well
    formed: that is what makes the insertion after a wide character keep the length) -/
theorem putRow_length (pol : WidePolicy) (s : Scr) (text : Bytes) (w : Nat)
    (hwf : pol = .keep → rowWF (s.row s.cy) = true) :
    (Scr.putRow pol s text w).length = (s.row s.cy).length := by
  unfold Scr.putRow
  split
  · next hk =>
    simp only [Bool.and_eq_true, beq_iff_eq] at hk
    exact putKeep_length _ _ _ _ _ (hwf hk.2) hk.1
  · exact put_length ..

/-! ### both adjustments are of one kind: `Scr.Wrapped` -/

/-- rows pushed out through the top by the early wrap: the summand `early` of `Scr.putOff` -/
def Scr.earlyOff (s : Scr) (w : Nat) : Nat :=
  if s.cx + w > s.w ∧ s.wrap = true then ({ s with cx := 0 } : Scr).lineDownOff else 0

/-- rows pushed out through the top by the late wrap: the summand `late` of `Scr.putOff` -/
def Scr.lateOff (s : Scr) (x : Nat) : Nat :=
  if x < s.w then 0 else if s.wrap then s.lineDownOff else 0

/-- `TM/Scrollback.lean` counts on the steps of `put_eq`: `Scr.putStart` is the first step … -/
theorem Scr.putStart_eq (s : Scr) (w0 : Nat) : s.putStart w0 = s.putPre (Scr.effW s w0) := rfl

/-- … and `Scr.putOff` adds the two counts -/
theorem Scr.putOff_eq (pol : WidePolicy) (s : Scr) (w0 : Nat) :
    s.putOff pol w0 = s.earlyOff (Scr.effW s w0) +
      (s.putStart w0).lateOff (Scr.putX pol (s.putStart w0) (Scr.effW s w0)) := rfl

/-- the cursor column is set, and then — only with autowrap on — a line may be fed; `k` is the
    number of rows the feed pushes out through the top (`TM/Scrollback.lean`) -/
inductive Scr.Wrapped (s : Scr) : Nat → Scr → Prop
  | col (x : Nat) : Wrapped s 0 { s with cx := x }
  | feed (hw : s.wrap = true) (x : Nat) : Wrapped s s.lineDownOff ({ s with cx := x } : Scr).lineDown

theorem Scr.putPre_wrapped (s : Scr) (w : Nat) : s.Wrapped (s.earlyOff w) (s.putPre w) := by
  unfold Scr.putPre Scr.earlyOff
  by_cases h1 : s.cx + w > s.w
  · by_cases h2 : s.wrap = true
    · rw [if_pos h1, if_pos h2, if_pos ⟨h1, h2⟩]; exact .feed h2 0
    · rw [if_pos h1, if_neg h2, if_neg (fun h => h2 h.2)]; exact .col _
  · rw [if_neg h1, if_neg (fun h => h1 h.1)]; exact .col s.cx

theorem Scr.putFinish_wrapped (s : Scr) (x : Nat) : s.Wrapped (s.lateOff x) (s.putFinish x) := by
  unfold Scr.putFinish Scr.lateOff
  by_cases h1 : x < s.w
  · rw [if_pos h1, if_pos h1]; exact .col x
  · by_cases h2 : s.wrap = true
    · rw [if_neg h1, if_neg h1, if_pos h2, if_pos h2]; exact .feed h2 _
    · rw [if_neg h1, if_neg h1, if_neg h2, if_neg h2]; exact .col _

namespace Scr.Wrapped
variable {s s' : Scr} {k : Nat}

theorem shift (h : s.Wrapped k s') : s.Shift s' := by
  cases h with
  | col x => exact .cursor s x s.cy
  | feed _ x => exact (Scr.Shift.cursor s x s.cy).trans (shift_lineDown _)

theorem cy (h : s.Wrapped k s') : s'.cy = s.cy ∨ s'.cy = s.cy + 1 := by
  cases h with
  | col x => exact Or.inl rfl
  | feed _ x =>
    rw [lineDown_cy]
    split
    · exact Or.inr rfl
    · exact Or.inl rfl

/-- with autowrap off nothing is fed -/
theorem nowrap (h : s.Wrapped k s') (hw : s.wrap = false) : s'.grid = s.grid ∧ s'.cy = s.cy := by
  cases h with
  | col x => exact ⟨rfl, rfl⟩
  | feed hw' x => rw [hw] at hw'; cases hw'

end Scr.Wrapped

/-! ### `Scr.put` from its steps -/

theorem put_of_fit (pol : WidePolicy) (s : Scr) (text0 : Bytes) (w0 : Nat)
    (hfit : s.cx + Scr.effW s w0 ≤ s.w) (h : pol = .blank ∨ contAt (s.row s.cy) s.cx = false) :
    Scr.put pol s text0 w0 =
      Scr.putFinish (s.setRow s.cy ((s.row s.cy).put s.cx (Scr.effText s text0 w0) (Scr.effW s w0) s.sty))
        (s.cx + Scr.effW s w0) := by
  rw [put_eq, putPre_fit hfit, putRow_plain h, putX_plain h]

/-- a write at the right edge is the same write from the adjusted cursor, where the character fits -/
theorem put_putPre (pol : WidePolicy) (s : Scr) (text0 : Bytes) (w0 : Nat) (hw : 1 ≤ s.w) :
    Scr.put pol s text0 w0 = Scr.put pol (s.putPre (Scr.effW s w0)) text0 w0 ∧
    (s.putPre (Scr.effW s w0)).cx + Scr.effW (s.putPre (Scr.effW s w0)) w0 ≤ (s.putPre (Scr.effW s w0)).w := by
  have fw := (s.putPre_wrapped (Scr.effW s w0)).shift.w
  have hfit : (s.putPre (Scr.effW s w0)).cx + Scr.effW s w0 ≤ (s.putPre (Scr.effW s w0)).w :=
    fw ▸ (putPre_cx s (effW_le s w0 hw)).2
  rw [put_eq, put_eq pol (s.putPre _), (eff_congr fw text0 w0).1, (eff_congr fw text0 w0).2, putPre_fit hfit]
  exact ⟨rfl, hfit⟩

/-- the policy is read only when the column written at, after the early adjustment, is a
    continuation cell -/
theorem put_pol (p q : WidePolicy) (s : Scr) (text0 : Bytes) (w0 : Nat)
    (h : contAt ((s.putPre (Scr.effW s w0)).row (s.putPre (Scr.effW s w0)).cy)
      (s.putPre (Scr.effW s w0)).cx = false) :
    Scr.put p s text0 w0 = Scr.put q s text0 w0 := by
  rw [put_eq, put_eq, putRow_plain (.inr h), putX_plain (.inr h), putRow_plain (.inr h),
    putX_plain (.inr h)]

/-- that column on a screen of well-formed rows: the cursor column when the character fits, the
    column it is pulled back to with autowrap off, and column 0 of the next row, never a
    continuation cell, with autowrap on -/
theorem putPre_contAt (s : Scr) (w : Nat) (hwf : ∀ r ∈ s.grid, rowWF r = true) :
    contAt ((s.putPre w).row (s.putPre w).cy) (s.putPre w).cx =
      if s.cx + w ≤ s.w then contAt (s.row s.cy) s.cx
      else if s.wrap = true then false
      else contAt (s.row s.cy) (s.w - w) := by
  by_cases hfit : s.cx + w ≤ s.w
  · rw [putPre_fit hfit, if_pos hfit]
  · rw [if_neg hfit]
    by_cases hw : s.wrap = true
    · rw [putPre_wrap (Nat.not_le.1 hfit) hw, if_pos hw, lineDown_cx]
      -- the row reached by the early wrap: a row of the screen, a fresh blank row, or none
      by_cases hy : ({ s with cx := 0 } : Scr).lineDown.cy < ({ s with cx := 0 } : Scr).lineDown.grid.length
      · rcases (shift_lineDown _).mem (row_mem _ _ hy) with h | h
        · exact wf_cont0 (hwf _ h)
        · rw [h]; exact contAt_blankRow _ _ _
      · rw [row_nil (Nat.not_lt.1 hy)]; rfl
    · rw [putPre_nowrap (Nat.not_le.1 hfit) (Bool.eq_false_iff.2 hw), if_neg hw]; rfl

theorem frame_put (pol : WidePolicy) (s : Scr) (text0 : Bytes) (w0 : Nat) :
    s.Frame (Scr.put pol s text0 w0) := by
  rw [put_eq]
  exact ((s.putPre_wrapped _).shift.toFrame.trans (.set _ _ _ _)).trans
    (Scr.putFinish_wrapped _ _).shift.toFrame

theorem put_grid_length (pol : WidePolicy) (s : Scr) (text0 : Bytes) (w0 : Nat)
    (hg : s.grid.length = s.h) : (Scr.put pol s text0 w0).grid.length = s.grid.length := by
  have hp := (s.putPre_wrapped (Scr.effW s w0)).shift
  have h1 : ∀ r, ((s.putPre (Scr.effW s w0)).setRow (s.putPre (Scr.effW s w0)).cy r).grid.length =
      s.grid.length := fun r => List.length_set.trans (hp.len hg)
  rw [put_eq, (Scr.putFinish_wrapped _ _).shift.len ((h1 _).trans (hg.trans hp.h.symm)), h1]

theorem put_grid_mem (pol : WidePolicy) (s : Scr) (text0 : Bytes) (w0 : Nat) {r : Row}
    (h : r ∈ (Scr.put pol s text0 w0).grid) :
    r ∈ s.grid ∨ r = blankRow s.w s.sty ∨
      r = Scr.putRow pol (s.putPre (Scr.effW s w0)) (Scr.effText s text0 w0) (Scr.effW s w0) := by
  rw [put_eq] at h
  have hp := s.putPre_wrapped (Scr.effW s w0)
  rcases (Scr.putFinish_wrapped _ _).shift.mem h with h | h
  · rcases List.mem_or_eq_of_mem_set h with h | h
    · exact (hp.shift.mem h).imp_right Or.inl
    · exact Or.inr (Or.inr h)
  · refine Or.inr (Or.inl (h.trans ?_))
    show blankRow (s.putPre _).w (s.putPre _).sty = _
    rw [hp.shift.w, hp.shift.sty]

end TM
