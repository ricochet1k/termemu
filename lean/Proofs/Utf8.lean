import TM.Basic
import Proofs.Bits
/-!
# UTF-8: `fullRune`, `decodeRune`, `encodeRune` (Go's `unicode/utf8`)

`Utf8 n enc`: the bytes `enc` are the UTF-8 form of the scalar value `n`, given by the bit fields
of the four lengths. Decoder and encoder are each characterised against it once (`Utf8.decode`,
`decodeRune_utf8`, `Utf8.encode`, `utf8_encodeRune`), the classes of the bytes are read off it
(`Utf8.bytes`), and the round trips in both directions are corollaries. The scalar values are
`C11.validScalar`, defined here.
-/
namespace TM

/-! ### the byte classes by value -/

theorem leadLen_eq (b : UInt8) : leadLen b =
    if b.toNat < 0x80 then 1 else if b.toNat < 0xC2 then 0 else if b.toNat < 0xE0 then 2
    else if b.toNat < 0xF0 then 3 else if b.toNat < 0xF5 then 4 else 0 := by
  simp [leadLen, UInt8.lt_iff_toNat_lt]

theorem leadLen_iff (b : UInt8) :
    (leadLen b = 1 ↔ b.toNat < 0x80) ∧ (leadLen b = 2 ↔ 0xC2 ≤ b.toNat ∧ b.toNat < 0xE0) ∧
    (leadLen b = 3 ↔ 0xE0 ≤ b.toNat ∧ b.toNat < 0xF0) ∧
    (leadLen b = 4 ↔ 0xF0 ≤ b.toNat ∧ b.toNat < 0xF5) := by
  rw [leadLen_eq]; repeat' split
  all_goals omega

theorem leadLen_cases (b : UInt8) : leadLen b = 0 ∨ leadLen b = 1 ∨ leadLen b = 2 ∨ leadLen b = 3 ∨ leadLen b = 4 := by
  unfold leadLen
  iterate 5
    refine iteInduction (motive := fun n => n = 0 ∨ n = 1 ∨ n = 2 ∨ n = 3 ∨ n = 4) (fun _ => by decide)
      (fun _ => ?_)
  decide

theorem isCont_iff (b : UInt8) : isCont b = true ↔ 0x80 ≤ b.toNat ∧ b.toNat ≤ 0xBF := by
  simp [isCont, UInt8.le_iff_toNat_le]

theorem secondLo_le (l : UInt8) (x : Nat) : (secondLo l).toNat ≤ x ↔
    0x80 ≤ x ∧ (l.toNat = 0xE0 → 0xA0 ≤ x) ∧ (l.toNat = 0xF0 → 0x90 ≤ x) := by
  simp only [secondLo, apply_ite UInt8.toNat, ← UInt8.toNat_inj, UInt8.toNat_ofNat, Nat.reducePow,
    Nat.reduceMod]
  split
  · omega
  · split <;> omega

theorem le_secondHi (l : UInt8) (x : Nat) : x ≤ (secondHi l).toNat ↔
    x ≤ 0xBF ∧ (l.toNat = 0xED → x ≤ 0x9F) ∧ (l.toNat = 0xF4 → x ≤ 0x8F) := by
  simp only [secondHi, apply_ite UInt8.toNat, ← UInt8.toNat_inj, UInt8.toNat_ofNat, Nat.reducePow,
    Nat.reduceMod]
  split
  · omega
  · split <;> omega

/-- Go's `acceptRanges`: a continuation byte, narrowed after `E0`/`F0` (no overlong forms), after
    `ED` (no surrogates) and after `F4` (nothing above U+10FFFF) -/
theorem secondOk_iff (l b : UInt8) : secondOk l b = true ↔
    (0x80 ≤ b.toNat ∧ b.toNat ≤ 0xBF) ∧ (l.toNat = 0xE0 → 0xA0 ≤ b.toNat) ∧
    (l.toNat = 0xED → b.toNat ≤ 0x9F) ∧ (l.toNat = 0xF0 → 0x90 ≤ b.toNat) ∧
    (l.toNat = 0xF4 → b.toNat ≤ 0x8F) := by
  simp only [secondOk, Bool.and_eq_true, decide_eq_true_eq, UInt8.le_iff_toNat_le, secondLo_le,
    le_secondHi]
  exact ⟨fun ⟨⟨a, b, c⟩, d, e, g⟩ => ⟨⟨a, d⟩, b, e, c, g⟩, fun ⟨⟨a, d⟩, b, e, c, g⟩ => ⟨⟨a, b, c⟩, d, e, g⟩⟩

/-! ### a complete character at the head of the input -/

/-- a complete character is not changed by what follows it. One split serves both functions: the
    length the lead byte announces against the bytes that are there; where `p` is shorter than
    announced it is complete only because `utf8.FullRune` already rejects one of its bytes, and
    those stay where they are. -/
theorem rune_append (p q : Bytes) (h : fullRune p = true) :
    fullRune (p ++ q) = true ∧ decodeRune (p ++ q) = decodeRune p := by
  cases p with
  | nil => simp [fullRune] at h
  | cons b0 rest =>
    simp only [List.cons_append, fullRune] at h ⊢
    rcases leadLen_cases b0 with hl | hl | hl | hl | hl
    all_goals simp only [hl, decodeRune] at h ⊢
    all_goals simp at h ⊢
    -- two bytes announced: one byte is not complete, two are all there
    · rcases rest with _ | ⟨b1, rest2⟩
      · simp at h
      · exact ⟨.inl (by simp only [List.length_cons]; omega), rfl⟩
    -- three announced
    · rcases rest with _ | ⟨b1, _ | ⟨b2, rest3⟩⟩
      · simp at h
      · -- two there: complete only because `b1` is rejected (`h`), whatever `q` adds
        simp at h
        cases q <;> simp [h]
      · exact ⟨.inl (by simp only [List.length_cons]; omega), rfl⟩
    -- four announced
    · rcases rest with _ | ⟨b1, _ | ⟨b2, _ | ⟨b3, rest4⟩⟩⟩
      · simp at h
      · -- two there: `b1` is rejected
        simp at h
        rcases q with _ | ⟨c1, _ | ⟨c2, q⟩⟩ <;> simp [h]
      · -- three there: `b1` is rejected, or `b2` is not a continuation byte
        simp at h
        rcases q with _ | ⟨c1, q⟩
        · simp [h]
        · rcases h with h | h <;> simp [h]
      · exact ⟨.inl (by simp only [List.length_cons]; omega), rfl⟩

theorem decodeRune_size (bs : Bytes) (hne : bs ≠ []) : 0 < (decodeRune bs).2 ∧ (decodeRune bs).2 ≤ bs.length := by
  cases bs with
  | nil => simp at hne
  | cons b0 rest =>
    simp only [decodeRune]
    -- each branch returns the number of bytes its pattern matched, or 1
    split
    · simp
    all_goals first | (split <;> simp) | simp

/-! ### the well-formed characters, by their bit fields

`Utf8 n enc`: `enc` is the UTF-8 form of the scalar value `n`. One byte is `0aaaaaaa`; two are
`110aaaaa 10bbbbbb` with `2 ≤ a` (no overlong form); three are `1110aaaa 10bbbbbb 10cccccc` with
`32 ≤ b` when `a = 0` and `b < 32` when `a = 13` (surrogates); four are
`11110aaa 10bbbbbb 10cccccc 10dddddd` with `16 ≤ b` when `a = 0`, and `a = 4` only with `b < 16`
(U+10FFFF is the last). -/
inductive Utf8 : Nat → Bytes → Prop
  | one {a : Nat} : a < 0x80 → Utf8 a [.ofNat a]
  | two {a b : Nat} : 2 ≤ a ∧ a < 32 → b < 64 →
      Utf8 (a * 64 + b) [.ofNat (0xC0 + a), .ofNat (0x80 + b)]
  | three {a b c : Nat} : a < 16 → b < 64 → c < 64 → (a = 0 → 32 ≤ b) → (a = 13 → b < 32) →
      Utf8 (a * 4096 + b * 64 + c) [.ofNat (0xE0 + a), .ofNat (0x80 + b), .ofNat (0x80 + c)]
  | four {a b c d : Nat} : a < 5 → b < 64 → c < 64 → d < 64 → (a = 0 → 16 ≤ b) → (a = 4 → b < 16) →
      Utf8 (a * 262144 + b * 4096 + c * 64 + d)
        [.ofNat (0xF0 + a), .ofNat (0x80 + b), .ofNat (0x80 + c), .ofNat (0x80 + d)]

/-- a well-formed character is read as a whole, whatever follows it -/
theorem Utf8.decode {n : Nat} {enc : Bytes} (h : Utf8 n enc) (r : Bytes) :
    decodeRune (enc ++ r) = (n, enc.length) ∧ fullRune (enc ++ r) = true := by
  -- each byte becomes a variable of known value, so that `simp` runs the decoder by the class
  -- lemmas (`hl`, `hs`, `h2`) and finds the fields as the residues `m0 …`
  cases h with
  | one ha =>
    have e0 := toNat_ofNat_lt n (by omega)
    generalize UInt8.ofNat n = x0 at e0 ⊢
    have hl := (leadLen_iff x0).1.2 (by omega)
    simp [decodeRune, fullRune, hl, e0]
  | @two a b ha hb =>
    have e0 := toNat_ofNat_lt (0xC0 + a) (by omega)
    have e1 := toNat_ofNat_lt (0x80 + b) (by omega)
    generalize UInt8.ofNat (0xC0 + a) = x0 at e0 ⊢
    generalize UInt8.ofNat (0x80 + b) = x1 at e1 ⊢
    have hl := (leadLen_iff x0).2.1.2 (by omega)
    have hs := (secondOk_iff x0 x1).2 (by omega)
    have m0 : x0.toNat % 32 = a := by omega
    have m1 : x1.toNat % 64 = b := by omega
    simp [decodeRune, fullRune, hl, hs, m0, m1]
  | @three a b c ha hb hc hlo hsur =>
    have e0 := toNat_ofNat_lt (0xE0 + a) (by omega)
    have e1 := toNat_ofNat_lt (0x80 + b) (by omega)
    have e2 := toNat_ofNat_lt (0x80 + c) (by omega)
    generalize UInt8.ofNat (0xE0 + a) = x0 at e0 ⊢
    generalize UInt8.ofNat (0x80 + b) = x1 at e1 ⊢
    generalize UInt8.ofNat (0x80 + c) = x2 at e2 ⊢
    have hl := (leadLen_iff x0).2.2.1.2 (by omega)
    have hs := (secondOk_iff x0 x1).2 (by omega)
    have h2 := (isCont_iff x2).2 (by omega)
    have m0 : x0.toNat % 16 = a := by omega
    have m1 : x1.toNat % 64 = b := by omega
    have m2 : x2.toNat % 64 = c := by omega
    simp [decodeRune, fullRune, hl, hs, h2, m0, m1, m2]
  | @four a b c d ha hb hc hd hlo hhi =>
    have e0 := toNat_ofNat_lt (0xF0 + a) (by omega)
    have e1 := toNat_ofNat_lt (0x80 + b) (by omega)
    have e2 := toNat_ofNat_lt (0x80 + c) (by omega)
    have e3 := toNat_ofNat_lt (0x80 + d) (by omega)
    generalize UInt8.ofNat (0xF0 + a) = x0 at e0 ⊢
    generalize UInt8.ofNat (0x80 + b) = x1 at e1 ⊢
    generalize UInt8.ofNat (0x80 + c) = x2 at e2 ⊢
    generalize UInt8.ofNat (0x80 + d) = x3 at e3 ⊢
    have hl := (leadLen_iff x0).2.2.2.2 (by omega)
    have hs := (secondOk_iff x0 x1).2 (by omega)
    have h2 := (isCont_iff x2).2 (by omega)
    have h3 := (isCont_iff x3).2 (by omega)
    have m0 : x0.toNat % 8 = a := by omega
    have m1 : x1.toNat % 64 = b := by omega
    have m2 : x2.toNat % 64 = c := by omega
    have m3 : x3.toNat % 64 = d := by omega
    simp [decodeRune, fullRune, hl, hs, h2, h3, m0, m1, m2, m3]

/-- `utf8.DecodeRune` by outcome: U+FFFD of size 1 for anything malformed or cut short, or a
    well-formed character at the head of the input (its fields are the low bits of its bytes) -/
theorem decodeRune_utf8 (b0 : UInt8) (rest : Bytes) :
    decodeRune (b0 :: rest) = (0xFFFD, 1) ∨
    ∃ n tl r, rest = tl ++ r ∧ Utf8 n (b0 :: tl) ∧ decodeRune (b0 :: rest) = (n, tl.length + 1) := by
  obtain ⟨l1, l2, l3, l4⟩ := leadLen_iff b0
  simp only [decodeRune]
  split
  · next h =>
    have := Utf8.one (l1.1 h)
    rw [UInt8.ofNat_toNat] at this
    exact .inr ⟨_, _, _, rfl, this, rfl⟩
  · next b1 r h =>
    split
    · next hs =>
      obtain ⟨s1, -⟩ := (secondOk_iff b0 b1).1 hs
      have := l2.1 h
      have := Utf8.two (a := b0.toNat % 32) (b := b1.toNat % 64) (by omega) (by omega)
      rw [ofNat_of_toNat b0 _ (by omega), ofNat_of_toNat b1 _ (by omega)] at this
      exact .inr ⟨_, _, r, rfl, this, rfl⟩
    · exact .inl rfl
  · next b1 b2 r h =>
    split
    · next hs =>
      simp only [Bool.and_eq_true] at hs
      obtain ⟨s1, s2, s3, -, -⟩ := (secondOk_iff b0 b1).1 hs.1
      have := (isCont_iff b2).1 hs.2
      have := l3.1 h
      have := Utf8.three (a := b0.toNat % 16) (b := b1.toNat % 64) (c := b2.toNat % 64) (by omega)
        (by omega) (by omega) (by omega) (by omega)
      rw [ofNat_of_toNat b0 _ (by omega), ofNat_of_toNat b1 _ (by omega),
        ofNat_of_toNat b2 _ (by omega)] at this
      exact .inr ⟨_, _, r, rfl, this, rfl⟩
    · exact .inl rfl
  · next b1 b2 b3 r h =>
    split
    · next hs =>
      simp only [Bool.and_eq_true] at hs
      obtain ⟨s1, -, -, s2, s3⟩ := (secondOk_iff b0 b1).1 hs.1.1
      have := (isCont_iff b2).1 hs.1.2
      have := (isCont_iff b3).1 hs.2
      have := l4.1 h
      have := Utf8.four (a := b0.toNat % 8) (b := b1.toNat % 64) (c := b2.toNat % 64)
        (d := b3.toNat % 64) (by omega) (by omega) (by omega) (by omega) (by omega) (by omega)
      rw [ofNat_of_toNat b0 _ (by omega), ofNat_of_toNat b1 _ (by omega),
        ofNat_of_toNat b2 _ (by omega), ofNat_of_toNat b3 _ (by omega)] at this
      exact .inr ⟨_, _, r, rfl, this, rfl⟩
    · exact .inl rfl
  · exact .inl rfl

/-! ### the encoder; both round trips -/

theorem encodeRune_one (n : Nat) (h : n < 0x80) : encodeRune n = [UInt8.ofNat n] := by
  unfold encodeRune
  simp only
  rw [if_pos h]

theorem encodeRune_of_two (n : Nat) (h1 : 0x80 ≤ n) (h2 : n < 0x800) :
    encodeRune n = [UInt8.ofNat (0xC0 + n / 64), UInt8.ofNat (0x80 + n % 64)] := by
  unfold encodeRune
  simp only
  rw [if_neg (Nat.not_lt.2 h1), if_pos h2]

theorem encodeRune_of_three (n : Nat) (h1 : 0x800 ≤ n) (h2 : n < 0x10000)
    (h3 : ¬ (0xD800 ≤ n ∧ n < 0xE000)) :
    encodeRune n = [UInt8.ofNat (0xE0 + n / 4096), UInt8.ofNat (0x80 + n / 64 % 64),
      UInt8.ofNat (0x80 + n % 64)] := by
  unfold encodeRune
  simp only
  rw [if_neg (by omega), if_neg (Nat.not_lt.2 h1), if_neg h3, if_pos h2]

theorem encodeRune_of_four (n : Nat) (h1 : 0x10000 ≤ n) (h2 : n < 0x110000) :
    encodeRune n = [UInt8.ofNat (0xF0 + n / 262144), UInt8.ofNat (0x80 + n / 4096 % 64),
      UInt8.ofNat (0x80 + n / 64 % 64), UInt8.ofNat (0x80 + n % 64)] := by
  unfold encodeRune
  simp only
  rw [if_neg (by omega), if_neg (by omega), if_neg (by omega), if_neg (Nat.not_lt.2 h1), if_pos h2]

namespace C11

/-- A Unicode scalar value: exactly the code points `utf8.EncodeRune` encodes faithfully. -/
def validScalar (n : Nat) : Prop := n < 0xD800 ∨ (0xE000 ≤ n ∧ n < 0x110000)

instance (n : Nat) : Decidable (validScalar n) :=
  inferInstanceAs (Decidable (n < 0xD800 ∨ (0xE000 ≤ n ∧ n < 0x110000)))

end C11

/- `validScalar` stands in the namespace of the property file that states its theorems with it
   (`Props/C11.lean`); `Props/C13.lean` has the same definition under its own name (`C13.validScalar`) -/

/-- a well-formed character is the encoding of its code point, a scalar value -/
theorem Utf8.encode {n : Nat} {enc : Bytes} (h : Utf8 n enc) :
    encodeRune n = enc ∧ C11.validScalar n := by
  unfold C11.validScalar
  cases h with
  | one ha => exact ⟨encodeRune_one n ha, by omega⟩
  | @two a b ha hb =>
    refine ⟨?_, by omega⟩
    rw [encodeRune_of_two _ (by omega) (by omega), show (a * 64 + b) / 64 = a by omega,
      show (a * 64 + b) % 64 = b by omega]
  | @three a b c ha hb hc hlo hsur =>
    refine ⟨?_, by omega⟩
    rw [encodeRune_of_three _ (by omega) (by omega) (by omega),
      show (a * 4096 + b * 64 + c) / 4096 = a by omega,
      show (a * 4096 + b * 64 + c) / 64 % 64 = b by omega,
      show (a * 4096 + b * 64 + c) % 64 = c by omega]
  | @four a b c d ha hb hc hd hlo hhi =>
    refine ⟨?_, by omega⟩
    rw [encodeRune_of_four _ (by omega) (by omega),
      show (a * 262144 + b * 4096 + c * 64 + d) / 262144 = a by omega,
      show (a * 262144 + b * 4096 + c * 64 + d) / 4096 % 64 = b by omega,
      show (a * 262144 + b * 4096 + c * 64 + d) / 64 % 64 = c by omega,
      show (a * 262144 + b * 4096 + c * 64 + d) % 64 = d by omega]

theorem Utf8.not_replacement_one {n : Nat} {enc : Bytes} (h : Utf8 n enc) : ¬ (n = 0xFFFD ∧ enc.length = 1) := by
  rintro ⟨rfl, h1⟩; rw [← h.encode.1] at h1; exact absurd h1 (by decide)

/-- the encoding of a scalar value is well formed: its fields are the digits of `n` to base 64 -/
theorem utf8_encodeRune (n : Nat) (h : C11.validScalar n) :
    Utf8 n (encodeRune n) := by
  unfold C11.validScalar at h
  by_cases h1 : n < 0x80
  · rw [encodeRune_one n h1]; exact .one h1
  by_cases h2 : n < 0x800
  · rw [encodeRune_of_two n (by omega) h2]
    have := Utf8.two (a := n / 64) (b := n % 64) (by omega) (by omega)
    rwa [show n / 64 * 64 + n % 64 = n by omega] at this
  by_cases h3 : n < 0x10000
  · rw [encodeRune_of_three n (by omega) h3 (by omega)]
    have := Utf8.three (a := n / 4096) (b := n / 64 % 64) (c := n % 64) (by omega) (by omega)
      (by omega) (by omega) (by omega)
    rwa [show n / 4096 * 4096 + n / 64 % 64 * 64 + n % 64 = n by omega] at this
  · rw [encodeRune_of_four n (by omega) (by omega)]
    have := Utf8.four (a := n / 262144) (b := n / 4096 % 64) (c := n / 64 % 64) (d := n % 64)
      (by omega) (by omega) (by omega) (by omega) (by omega) (by omega)
    rwa [show n / 262144 * 262144 + n / 4096 % 64 * 4096 + n / 64 % 64 * 64 + n % 64 = n by omega]
      at this

theorem Utf8.bytes {n : Nat} {b0 : UInt8} {tl : Bytes} (h : Utf8 n (b0 :: tl)) :
    leadLen b0 = tl.length + 1 ∧ (if n < 0x80 then b0.toNat = n else 0xC2 ≤ b0.toNat) ∧
      ∀ x ∈ tl, 0x80 ≤ x.toNat := by
  cases h with
  | one ha =>
    have e0 := toNat_ofNat_lt n (by omega)
    exact ⟨(leadLen_iff _).1.2 (by omega), by rw [if_pos ha, e0], by simp⟩
  | @two a b ha hb =>
    have e0 := toNat_ofNat_lt (0xC0 + a) (by omega)
    have e1 := toNat_ofNat_lt (0x80 + b) (by omega)
    refine ⟨(leadLen_iff _).2.1.2 (by omega), by rw [if_neg (by omega)]; omega, ?_⟩
    simp only [List.mem_singleton, forall_eq]; omega
  | @three a b c ha hb hc hlo hsur =>
    have e0 := toNat_ofNat_lt (0xE0 + a) (by omega)
    have e1 := toNat_ofNat_lt (0x80 + b) (by omega)
    have e2 := toNat_ofNat_lt (0x80 + c) (by omega)
    refine ⟨(leadLen_iff _).2.2.1.2 (by omega), by rw [if_neg (by omega)]; omega, ?_⟩
    simp only [List.mem_cons, List.not_mem_nil, or_false, forall_eq_or_imp, forall_eq]; omega
  | @four a b c d ha hb hc hd hlo hhi =>
    have e0 := toNat_ofNat_lt (0xF0 + a) (by omega)
    have e1 := toNat_ofNat_lt (0x80 + b) (by omega)
    have e2 := toNat_ofNat_lt (0x80 + c) (by omega)
    have e3 := toNat_ofNat_lt (0x80 + d) (by omega)
    refine ⟨(leadLen_iff _).2.2.2.2 (by omega), by rw [if_neg (by omega)]; omega, ?_⟩
    simp only [List.mem_cons, List.not_mem_nil, or_false, forall_eq_or_imp, forall_eq]; omega

theorem decodeRune_1 (b0 : UInt8) (rest : Bytes) (h : b0.toNat < 0x80) :
    decodeRune (b0 :: rest) = (b0.toNat, 1) := by
  have := ((Utf8.one h).decode rest).1
  rwa [UInt8.ofNat_toNat] at this

/-- outside the Unicode scalar values `utf8.EncodeRune` writes U+FFFD -/
theorem encodeRune_invalid {n : Nat} (h : ¬ C11.validScalar n) :
    encodeRune n = replacementChar := by
  unfold C11.validScalar at h
  unfold encodeRune
  simp only
  rw [if_neg (by omega), if_neg (by omega)]
  split
  · rfl
  · rw [if_neg (by omega), if_neg (by omega)]; rfl

/-- a scalar value is read back from its encoding, whatever follows -/
theorem decodeRune_encodeRune (n : Nat) (rest : Bytes) (h : C11.validScalar n) :
    decodeRune (encodeRune n ++ rest) = (n, (encodeRune n).length) :=
  ((utf8_encodeRune n h).decode rest).1

theorem decodeRune_encodeRune_self (n : Nat) (h : C11.validScalar n) :
    decodeRune (encodeRune n) = (n, (encodeRune n).length) := by
  have := decodeRune_encodeRune n [] h
  rwa [List.append_nil] at this

theorem encodeRune_ne_nil (n : Nat) : encodeRune n ≠ [] := by
  unfold encodeRune
  simp only
  iterate 5 (refine iteInduction (motive := fun l => l ≠ []) (fun _ => List.cons_ne_nil _ _) (fun _ => ?_))
  exact List.cons_ne_nil _ _

theorem encodeRune_length_pos (n : Nat) : 0 < (encodeRune n).length :=
  List.length_pos_iff.mpr (encodeRune_ne_nil n)

end TM
