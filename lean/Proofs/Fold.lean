/-!
# From one step to runs

A machine is a step function `ap : σ → α → σ × List ε` (`Term.apply cw`, `STerm.apply cw`,
`GTerm.apply cw`); `Run.state` / `Run.out` are its state and outputs after a list of inputs. An
invariant of the steps is one of the run (`foldl_inv`, `Run.inv`); two machines whose steps keep a
relation and emit the same outputs do so along the run (`Run.sim`). The namespace `Run` here is
that of any machine; the terminal's read loop `TM.run` is the subject of `Proofs/Run.lean`.
-/
namespace TM

theorem foldl_inv {σ α : Type} {f : σ → α → σ} {I : σ → Prop} {P : α → Prop}
    (step : ∀ s a, I s → P a → I (f s a)) {as : List α} {s : σ} (hs : I s) (h : ∀ a ∈ as, P a) :
    I (as.foldl f s) := by
  induction as generalizing s with
  | nil => exact hs
  | cons a as ih => exact ih (step s a hs (h a (by simp))) fun b hb => h b (by simp [hb])

namespace Run
variable {σ σ' α ε : Type}

def state (ap : σ → α → σ × List ε) (s : σ) (as : List α) : σ := as.foldl (fun s a => (ap s a).1) s

def out (ap : σ → α → σ × List ε) : σ → List α → List ε
  | _, [] => []
  | s, a :: as => (ap s a).2 ++ out ap (ap s a).1 as

variable {ap : σ → α → σ × List ε} {ap' : σ' → α → σ' × List ε}

@[simp] theorem state_nil (s : σ) : state ap s [] = s := rfl

@[simp] theorem state_cons (s : σ) (a : α) (as : List α) :
    state ap s (a :: as) = state ap (ap s a).1 as := rfl

/-- a function with the two equations of `out` is `out` (the copies of `eventsOf` in the property
    files: both hypotheses by `rfl`) -/
theorem out_unique {ev : σ → List α → List ε} (h0 : ∀ s, ev s [] = [])
    (h1 : ∀ s a as, ev s (a :: as) = (ap s a).2 ++ ev (ap s a).1 as) (s : σ) (as : List α) :
    ev s as = out ap s as := by
  induction as generalizing s with
  | nil => exact h0 s
  | cons a as ih => rw [h1, ih]; rfl

theorem state_append (s : σ) (as bs : List α) :
    state ap s (as ++ bs) = state ap (state ap s as) bs := List.foldl_append

theorem out_append (s : σ) (as bs : List α) :
    out ap s (as ++ bs) = out ap s as ++ out ap (state ap s as) bs := by
  induction as generalizing s with
  | nil => rfl
  | cons a as ih => simp only [List.cons_append, out, state_cons, ih, List.append_assoc]

theorem inv {I : σ → Prop} {P : α → Prop} (step : ∀ s a, I s → P a → I (ap s a).1) {s : σ}
    {as : List α} (hs : I s) (h : ∀ a ∈ as, P a) : I (state ap s as) :=
  foldl_inv step hs h

theorem sim {R : σ → σ' → Prop} {P : α → Prop}
    (step : ∀ s s' a, R s s' → P a → R (ap s a).1 (ap' s' a).1 ∧ (ap s a).2 = (ap' s' a).2)
    {s : σ} {s' : σ'} {as : List α} (hs : R s s') (h : ∀ a ∈ as, P a) :
    R (state ap s as) (state ap' s' as) ∧ out ap s as = out ap' s' as := by
  induction as generalizing s s' with
  | nil => exact ⟨hs, rfl⟩
  | cons a as ih =>
    obtain ⟨r, e⟩ := step s s' a hs (h a (by simp))
    have := ih r fun b hb => h b (by simp [hb])
    exact ⟨this.1, by simp only [out, e, this.2]⟩

end Run

end TM
